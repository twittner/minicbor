/-
  The universe of built-in `Encode` / `Decode` / `CborLen` impls (minicbor/src/encode.rs,
  decode.rs, bytes.rs), organised by codec shape: many Rust types share one codec
  (docs/TYPES_PROTOCOL.md maps ≈100 concrete instantiations onto these descriptors).
  `encodeT` recurses structurally on the value, `decodeT` on the type; loops are the
  generic combinators `repeatN` (count-driven, no fuel) and `untilBreak` (local fuel).
-/
import Minicbor.Encoder
import Minicbor.Decoder
import Minicbor.Skip
import Minicbor.Loops

namespace Minicbor

inductive IntKind where
  | u8 | u16 | u32 | u64 | i8 | i16 | i32 | i64 | int
  deriving DecidableEq, Repr, Inhabited

namespace IntKind
def ty : IntKind → Dec.IntTy
  | u8 => .u8 | u16 => .u16 | u32 => .u32 | u64 => .u64
  | i8 => .i8 | i16 => .i16 | i32 => .i32 | i64 => .i64 | int => .int
def inRange (k : IntKind) (v : Int) : Bool := k.ty.lo ≤ v && v ≤ k.ty.hi
/-- the `Encoder` method the `Encode` impl of this integer type calls. -/
def enc : IntKind → Int → Bytes
  | u8, v => Enc.u8 v.toNat | u16, v => Enc.u16 v.toNat | u32, v => Enc.u32 v.toNat | u64, v => Enc.u64 v.toNat
  | i8, v => Enc.i8 v | i16, v => Enc.i16 v | i32, v => Enc.i32 v | i64, v => Enc.i64 v
  | int, v => if v ≥ 0 then Enc.int false v.toNat else Enc.int true (-1 - v).toNat
/-- `CborLen for u8/u16/u32/u64` on the magnitude. -/
def lenU8 (x : Nat) : Nat := if x ≤ 0x17 then 1 else 2
def lenU16 (x : Nat) : Nat := if x ≤ 0x17 then 1 else if x ≤ 0xff then 2 else 3
def lenU32 (x : Nat) : Nat := if x ≤ 0x17 then 1 else if x ≤ 0xff then 2 else if x ≤ 0xffff then 3 else 5
def lenU64 (x : Nat) : Nat :=
  if x ≤ 0x17 then 1 else if x ≤ 0xff then 2 else if x ≤ 0xffff then 3 else if x ≤ 0xffffffff then 5 else 9
/-- the `CborLen` impl: signed types map to the magnitude `x` or `-1 - x` first. -/
def len (k : IntKind) (v : Int) : Nat :=
  let m := if v ≥ 0 then v.toNat else (-1 - v).toNat
  match k with
  | u8 | i8 => lenU8 m | u16 | i16 => lenU16 m | u32 | i32 => lenU32 m | u64 | i64 | int => lenU64 m
end IntKind

inductive Ty where
  | int (k : IntKind)
  | bool | char | f32 | f64 | str | bytes
  | barr (n : Nat)
  | cstr
  | unit
  | skipUnit                       -- `Bound::Unbounded`: written as `80`, read back with `skip()`
  | opt (t : Ty)
  | seq (t : Ty)
  | arr (n : Nat) (t : Ty)
  | tup (ts : List Ty)
  | map (k v : Ty)
  | nz (k : IntKind)
  | tag
  | tagged (n : Nat) (t : Ty)
  | enum (ts : List Ty)
  | fields (ts : List Ty)
  | duration
  | systime
  deriving Repr, Inhabited

inductive Val where
  | int (v : Int)
  | bool (b : Bool)
  | float (bits : Nat)
  | str (b : Bytes)
  | bytes (b : Bytes)
  | unit
  | none
  | some (v : Val)
  | list (vs : List Val)
  | map (kvs : List Val)           -- flattened entries k₁, v₁, k₂, v₂, …
  | tagged (v : Val)
  | variant (i : Nat) (v : Val)
  deriving Repr, Inhabited

/-! ### encoding -/

def NANOS_PER_SEC : Nat := 1000000000

mutual
/-- the `Encode` impls.  `none` = the value is not a value of that type, or the encoder
    refuses it. -/
def encodeT : Ty → Val → Option Bytes
  | .int k, .int v => if k.inRange v then some (k.enc v) else none
  | .bool, .bool b => some (Enc.bool b)
  | .char, .int v => if v ≥ 0 && isScalar v.toNat then some (Enc.char v.toNat) else none
  | .f32, .float b => if b < 4294967296 then some (Enc.f32 b) else none
  | .f64, .float b => if b < 18446744073709551616 then some (Enc.f64 b) else none
  | .str, .str b => if validUtf8 b then some (Enc.str b) else none
  | .bytes, .bytes b => some (Enc.bytes b)
  | .barr n, .bytes b => if b.length = n then some (Enc.bytes b) else none
  | .cstr, .bytes b => if b.all (· != 0) then some (Enc.bytes (b ++ [0])) else none
  | .unit, .unit => some (Enc.array 0)
  | .skipUnit, .unit => some (Enc.array 0)
  | .opt _, .none => some Enc.null
  | .opt t, .some v => encodeT t v
  | .seq t, .list vs => do let b ← encodeList t vs; some (Enc.array vs.length ++ b)
  | .arr n t, .list vs => if vs.length = n then do let b ← encodeList t vs; some (Enc.array n ++ b) else none
  | .tup ts, .list vs => do let b ← encodeTup ts vs; some (Enc.array ts.length ++ b)
  | .map k v, .map kvs => do let b ← encodeMap k v kvs; some (Enc.map (kvs.length / 2) ++ b)
  | .nz k, .int v => if k.inRange v && v != 0 then some (k.enc v) else none
  | .tag, .int v => if 0 ≤ v && v ≤ 18446744073709551615 then some (Enc.tag v.toNat) else none
  | .tagged n t, .tagged v => do let b ← encodeT t v; some (Enc.tag n ++ b)
  | .enum ts, .variant i v =>
      match ts[i]? with
      | some t => do let b ← encodeT t v; some (Enc.array 2 ++ Enc.u32 i ++ b)
      | none => none
  | .fields ts, .list vs => do let b ← encodeTup ts vs; some (Enc.array ts.length ++ b)
  | .duration, .list [.int s, .int n] =>
      if 0 ≤ s && s ≤ 18446744073709551615 && 0 ≤ n && n < 1000000000
      then some (Enc.array 2 ++ Enc.u64 s.toNat ++ Enc.u32 n.toNat) else none
  | .systime, .list [.int s, .int n] =>
      if 0 ≤ s && s ≤ 9223372036854775807 && 0 ≤ n && n < 1000000000
      then some (Enc.array 2 ++ Enc.u64 s.toNat ++ Enc.u32 n.toNat) else none
  | _, _ => none
def encodeList (t : Ty) : List Val → Option Bytes
  | [] => some []
  | v :: vs => do let a ← encodeT t v; let b ← encodeList t vs; some (a ++ b)
def encodeTup : List Ty → List Val → Option Bytes
  | [], [] => some []
  | t :: ts, v :: vs => do let a ← encodeT t v; let b ← encodeTup ts vs; some (a ++ b)
  | _, _ => none
def encodeMap (k v : Ty) : List Val → Option Bytes
  | [] => some []
  | x :: y :: rest => do
      let a ← encodeT k x; let b ← encodeT v y; let c ← encodeMap k v rest; some (a ++ b ++ c)
  | _ => none
end

/-! ### length -/

mutual
/-- the `CborLen` impls. -/
def lenT : Ty → Val → Nat
  | .int k, .int v => k.len v
  | .bool, _ => 1
  | .char, .int v => IntKind.lenU32 v.toNat
  | .f32, _ => 5
  | .f64, _ => 9
  | .str, .str b => IntKind.lenU64 b.length + b.length
  | .bytes, .bytes b => IntKind.lenU64 b.length + b.length
  | .barr n, .bytes _ => IntKind.lenU64 n + n
  | .cstr, .bytes b => IntKind.lenU64 (b.length + 1) + (b.length + 1)
  | .unit, _ => 1
  | .skipUnit, _ => 1
  | .opt _, .none => 1
  | .opt t, .some v => lenT t v
  | .seq t, .list vs => IntKind.lenU64 vs.length + lenList t vs
  | .arr n t, .list vs => IntKind.lenU64 n + lenList t vs
  | .tup ts, .list vs => 1 + lenTup ts vs
  | .map k v, .map kvs => IntKind.lenU64 (kvs.length / 2) + lenMap k v kvs
  | .nz k, .int v => k.len v
  | .tag, .int v => IntKind.lenU64 v.toNat
  | .tagged n t, .tagged v => IntKind.lenU64 n + lenT t v
  | .enum ts, .variant i v =>
      match ts[i]? with
      | some t => 1 + (1 + lenT t v)
      | none => 0
  | .fields ts, .list vs => 1 + lenTup ts vs
  | .duration, .list [.int s, .int n] => 1 + IntKind.lenU64 s.toNat + IntKind.lenU32 n.toNat
  | .systime, .list [.int s, .int n] => 1 + IntKind.lenU64 s.toNat + IntKind.lenU32 n.toNat
  | _, _ => 0
def lenList (t : Ty) : List Val → Nat
  | [] => 0
  | v :: vs => lenT t v + lenList t vs
def lenTup : List Ty → List Val → Nat
  | t :: ts, v :: vs => lenT t v + lenTup ts vs
  | _, _ => 0
def lenMap (k v : Ty) : List Val → Nat
  | x :: y :: rest => lenT k x + lenT v y + lenMap k v rest
  | _ => 0
end

/-! ### decoding -/

namespace Dec

/-- `match d.u32()? { 0 => …, 1 => …, n => Err(unknown_variant(n)) }` -/
def pickVariant (ms : List (Dec Val)) (i : Nat) : Dec Val :=
  match ms[i]? with
  | some m => do let v ← m; pure (.variant i v)
  | none => fail .variant

/-- `Duration::decode` (with the overflow check of commit e7da71d) and `SystemTime::decode`. -/
def decodeDuration (sys : Bool) : Dec Val := do
  let u64 : Dec Int := intAcc .u64
  let u32 : Dec Int := intAcc .u32
  match (← fieldsDec [u64, u32]) with
  | [s, n] =>
      let secs := s.toNat + n.toNat / NANOS_PER_SEC
      if secs > 18446744073709551615 then fail .message
      else if sys && secs > 9223372036854775807 then fail .message
      else pure (.list [.int secs, .int (n.toNat % NANOS_PER_SEC)])
  | _ => panic

end Dec

open Dec in
mutual
/-- the `Decode` impls. -/
def decodeT : Ty → Dec Val
  | .int k => do let v ← intAcc k.ty; pure (.int v)
  | .bool => do let b ← Dec.bool; pure (.bool b)
  | .char => do let c ← Dec.char; pure (.int c)
  | .f32 => do let b ← Dec.f32; pure (.float b)
  | .f64 => do let b ← Dec.f64; pure (.float b)
  | .str => do let b ← Dec.str; pure (.str b)
  | .bytes => do let b ← Dec.bytes; pure (.bytes b)
  | .barr n => do
      let b ← Dec.bytes
      if b.length = n then pure (.bytes b) else fail .message
  | .cstr => do
      let b ← Dec.bytes
      -- `CStr::from_bytes_with_nul`: exactly one NUL, at the end
      match b.reverse with
      | z :: revInit => if z == 0 && revInit.all (· != 0) then pure (.bytes revInit.reverse) else fail .message
      | [] => fail .message
  | .unit => do
      let n ← array
      if n == some 0 then pure .unit else fail .message
  | .skipUnit => do skip; pure .unit
  | .opt t => do
      let ty ← datatype
      if ty == .null then do skip; pure .none
      else do let v ← decodeT t; pure (.some v)
  | .seq t => do let vs ← arrayIter (decodeT t); pure (.list vs)
  | .arr n t => do let vs ← arrayN (decodeT t) n; pure (.list vs)
  | .tup ts => do
      let n ← array
      if n != some ts.length then fail .message
      else do let vs ← seqAll (decoders ts); pure (.list vs)
  | .map k v => do let kvs ← mapIter (decodeT k) (decodeT v); pure (.map kvs)
  | .nz k => do
      let v ← intAcc k.ty
      if v == 0 then fail .message else pure (.int v)
  | .tag => do let n ← Dec.tag; pure (.int n)
  | .tagged n t => do
      let g ← Dec.tag
      if g != n then fail .tag
      else do let v ← decodeT t; pure (.tagged v)
  | .enum ts => do
      let n ← array
      if n != some 2 then fail .message
      else do
        let i ← intAcc .u32
        pickVariant (decoders ts) i.toNat
  | .fields ts => do let vs ← fieldsDec (decoders ts); pure (.list vs)
  | .duration => decodeDuration false
  | .systime => decodeDuration true
def decoders : List Ty → List (Dec Val)
  | [] => []
  | t :: ts => decodeT t :: decoders ts
end

end Minicbor
