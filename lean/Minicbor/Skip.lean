/-
  Model of `Decoder::skip` (minicbor/src/decode/decoder.rs), both the `alloc` version
  (counting mode that switches to an explicit stack when an indefinite array/map turns up
  inside a definite one) and the no-`alloc` version (counting only, refuses that nesting).

  State: `nr` = `nrounds`, `ir` = `irounds` (both `u64`, saturating), `stack` with the top
  of the Rust `Vec` at the head of the list.
-/
import Minicbor.Decoder

namespace Minicbor

def U64MAX : Nat := 18446744073709551615

@[inline] def satAdd (a b : Nat) : Nat := if a + b ≤ U64MAX then a + b else U64MAX
@[inline] def satMul2 (a : Nat) : Nat := if 2 * a ≤ U64MAX then 2 * a else U64MAX

structure SkipSt where
  nr    : Nat
  ir    : Nat
  stack : List (Option Nat)
  deriving Repr, DecidableEq

def SkipSt.init : SkipSt := ⟨1, 0, []⟩

/-- the state is "counting" (the code tests `nrounds == 0 && irounds == 0` for the opposite). -/
@[inline] def SkipSt.counting (s : SkipSt) : Bool := !(s.nr == 0 && s.ir == 0)

/-- outcome of the `match` in one loop iteration. -/
inductive SkipArm where
  | next (s : SkipSt)      -- fall through to the bookkeeping after the match
  | cont (s : SkipSt)      -- `continue` (tags)
  deriving Repr

namespace Dec

/-- drain `bytes_iter()` / `str_iter()` as `for v in … { v?; }` does. -/
def skipString (text : Bool) : Dec Unit := do
  let _ ← stringIter text
  pure ()

/-- a definite array/map head with `n` further items (`n` already doubled for maps). -/
def skipDefinite (alloc : Bool) (s : SkipSt) (n : Nat) : SkipSt :=
  if alloc && !s.counting then { s with stack := some n :: s.stack }
  else { s with nr := satAdd s.nr n }

/-- an indefinite array/map head. -/
def skipIndefinite (alloc : Bool) (s : SkipSt) : Dec SkipSt :=
  if alloc && !s.counting then pure { s with stack := none :: s.stack }
  else if s.nr < 2 then pure { s with ir := satAdd s.ir 1 }
  else if alloc then
    -- `for _ in 0 .. irounds { push(None) }; push(Some(nrounds - 1)); push(None)`
    pure { nr := 0, ir := 0, stack := none :: some (s.nr - 1) :: (List.replicate s.ir none ++ s.stack) }
  else fail .message

/-- the `match self.current()?` of one iteration. -/
def skipArm (alloc : Bool) (s : SkipSt) : Dec SkipArm := do
  let b ← current
  let n := b.toNat
  if n ≤ 0x1b then do
    let _ ← intAcc .u64; pure (.next s)
  else if 0x20 ≤ n && n ≤ 0x3b then do
    let _ ← intAcc .int; pure (.next s)
  else if 0x40 ≤ n && n ≤ 0x5f then do
    skipString false; pure (.next s)
  else if 0x60 ≤ n && n ≤ 0x7f then do
    skipString true; pure (.next s)
  else if 0x80 ≤ n && n ≤ 0x9f then do
    match (← array) with
    | some 0 => if alloc then pure (.next s) else pure (.next (skipDefinite alloc s 0))
    | some k => pure (.next (skipDefinite alloc s k))
    | none   => do let s' ← skipIndefinite alloc s; pure (.next s')
  else if 0xa0 ≤ n && n ≤ 0xbf then do
    match (← map) with
    | some 0 => if alloc then pure (.next s) else pure (.next (skipDefinite alloc s (satMul2 0)))
    | some k => pure (.next (skipDefinite alloc s (satMul2 k)))
    | none   => do let s' ← skipIndefinite alloc s; pure (.next s')
  else if 0xc0 ≤ n && n ≤ 0xdb then do
    let h ← read
    let _ ← unsigned (infoOf h)
    pure (.cont s)
  else if 0xe0 ≤ n && n ≤ 0xfb then do
    let h ← read
    let _ ← unsigned (infoOf h)
    pure (.next s)
  else if n == 0xff then do
    let _ ← read
    if alloc && !s.counting then
      match s.stack with
      | none :: rest => pure (.next { s with stack := rest })
      | _ => pure (.next s)
    else pure (.next { s with ir := s.ir - 1 })
  else typeMismatch b

/-- `while let Some(Some(0)) = stack.last() { stack.pop(); }` -/
def popZeros : List (Option Nat) → List (Option Nat)
  | some 0 :: rest => popZeros rest
  | st => st

/-- the bookkeeping after the match; `none` = `break` out of the loop.  `*n -= 1` on a
    `u64` that is `0` would be an arithmetic panic, hence the explicit `panic` arm (shown
    unreachable: `popZeros` never leaves a `Some(0)` on top). -/
def skipPost (alloc : Bool) (s : SkipSt) : Dec (Option SkipSt) :=
  if alloc && !s.counting then
    match popZeros s.stack with
    | some 0 :: _        => panic
    | some (k + 1) :: r  => pure (some { s with stack := some k :: r })
    | none :: r          => pure (some { s with stack := none :: r })
    | []                 => pure none
  else pure (some { s with nr := s.nr - 1 })

/-- the loop condition. -/
@[inline] def skipRunning (alloc : Bool) (s : SkipSt) : Bool :=
  s.nr > 0 || s.ir > 0 || (alloc && !s.stack.isEmpty)

/-- the `while` loop with a local fuel (exhaustion = `panic`, proved unreachable for every fuel above the
    remaining length, `Dec.skipLoop_ne_panic`: every iteration consumes a byte, and the call that finds the
    loop condition false takes one unit more; `skip` passes `remaining + 2`, one to spare). -/
def skipLoop (alloc : Bool) : Nat → SkipSt → Dec Unit
  | 0, _ => panic
  | fuel + 1, s =>
    if !skipRunning alloc s then pure ()
    else do
      match (← skipArm alloc s) with
      | .cont s' => skipLoop alloc fuel s'
      | .next s' =>
        match (← skipPost alloc s') with
        | none     => pure ()
        | some s'' => skipLoop alloc fuel s''

/-- `Decoder::skip` -/
def skip (alloc : Bool := true) : Dec Unit := do
  let r ← remaining
  skipLoop alloc (r.length + 2) SkipSt.init

end Dec
end Minicbor
