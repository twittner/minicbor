/-
  Prelude: bytes, big-endian numbers, decoder outcome type and the decoder monad.
  Imports nothing, so that the driver executable links without Mathlib.
-/
namespace Minicbor

abbrev Bytes := List UInt8

/-- byte of a natural number (callers guarantee `n < 256` where it matters). -/
@[inline] def u8 (n : Nat) : UInt8 := UInt8.ofNat n

theorem u8_toNat {n : Nat} (h : n < 256) : (u8 n).toNat = n := by
  unfold u8; rw [UInt8.toNat_ofNat']; omega

@[simp] theorem u8_toNat_mod (n : Nat) : (u8 n).toNat = n % 256 := by
  unfold u8; rw [UInt8.toNat_ofNat']

theorem u8_eq_iff (n : Nat) (b : UInt8) : u8 n = b ↔ n % 256 = b.toNat := by
  rw [← UInt8.toNat_inj, u8_toNat_mod]

@[simp] theorem u8_toNat_self (b : UInt8) : u8 b.toNat = b := by
  unfold u8; exact UInt8.ofNat_toNat

/-- `k`-byte big-endian representation of `n` (exact when `n < 256^k`). -/
def be : Nat → Nat → Bytes
  | 0,     _ => []
  | k + 1, n => u8 (n / 256 ^ k) :: be k (n % 256 ^ k)

/-- value of a big-endian byte string. -/
def fromBe : Bytes → Nat
  | []      => 0
  | b :: bs => b.toNat * 256 ^ bs.length + fromBe bs

@[simp] theorem be_length (k n : Nat) : (be k n).length = k := by
  induction k generalizing n with
  | zero => rfl
  | succ k ih => simp [be, ih]

theorem pow256_pos (k : Nat) : 0 < 256 ^ k := Nat.pow_pos (by decide)

theorem fromBe_be (k n : Nat) (h : n < 256 ^ k) : fromBe (be k n) = n := by
  induction k generalizing n with
  | zero => simp [be, fromBe] at *; omega
  | succ k ih =>
    have hp := pow256_pos k
    have hd : n / 256 ^ k < 256 := by
      rw [Nat.div_lt_iff_lt_mul hp]; rw [Nat.pow_succ] at h; rw [Nat.mul_comm]; exact h
    have hm : n % 256 ^ k < 256 ^ k := Nat.mod_lt _ hp
    simp only [be, fromBe, be_length, u8_toNat hd, ih _ hm]
    have := Nat.div_add_mod n (256 ^ k)
    rw [Nat.mul_comm] at this; exact this

theorem fromBe_lt (bs : Bytes) : fromBe bs < 256 ^ bs.length := by
  induction bs with
  | nil => simp [fromBe]
  | cons b bs ih =>
    simp only [fromBe, List.length_cons, Nat.pow_succ]
    have hb := b.toNat_lt
    have : b.toNat * 256 ^ bs.length ≤ 255 * 256 ^ bs.length := Nat.mul_le_mul_right _ (by omega)
    omega

theorem be_fromBe (bs : Bytes) : be bs.length (fromBe bs) = bs := by
  induction bs with
  | nil => rfl
  | cons b bs ih =>
    have hp := pow256_pos bs.length
    have hlt := fromBe_lt bs
    simp only [List.length_cons, be, fromBe]
    have h1 : (b.toNat * 256 ^ bs.length + fromBe bs) / 256 ^ bs.length = b.toNat := by
      rw [Nat.mul_comm, Nat.mul_add_div hp, Nat.div_eq_of_lt hlt]; simp
    have h2 : (b.toNat * 256 ^ bs.length + fromBe bs) % 256 ^ bs.length = fromBe bs := by
      rw [Nat.mul_comm, Nat.mul_add_mod, Nat.mod_eq_of_lt hlt]
    rw [h1, h2, ih]; simp

/-- The error classes of `minicbor::decode::Error` (message texts are not modelled). -/
inductive Err where
  | eoi | type | overflow | char | utf8 | tag | variant | missing | message | custom
  deriving DecidableEq, Repr, Inhabited

def Err.name : Err → String
  | .eoi => "eoi" | .type => "type" | .overflow => "overflow" | .char => "char"
  | .utf8 => "utf8" | .tag => "tag" | .variant => "variant" | .missing => "missing"
  | .message => "message" | .custom => "custom"

/-- Outcome of a decoder call on the remaining input: a value or an error, each with the
    input that remains afterwards (the real accessors advance before failing), or a panic. -/
inductive Res (α : Type) where
  | ok    (a : α) (rest : Bytes)
  | err   (e : Err) (rest : Bytes)
  | panic
  deriving Repr

instance [Inhabited α] : Inhabited (Res α) := ⟨.panic⟩

/-- A decoder action on the remaining input. -/
def Dec (α : Type) := Bytes → Res α

namespace Dec

@[inline] def ret (a : α) : Dec α := fun bs => .ok a bs

@[inline] def bnd (m : Dec α) (f : α → Dec β) : Dec β := fun bs =>
  match m bs with
  | .ok a rest  => f a rest
  | .err e rest => .err e rest
  | .panic      => .panic

instance : Monad Dec where
  pure := Dec.ret
  bind := Dec.bnd

@[inline] def fail (e : Err) : Dec α := fun bs => .err e bs
@[inline] def panic : Dec α := fun _ => .panic

/-- `Decoder::current`. -/
@[inline] def current : Dec UInt8 := fun bs =>
  match bs with
  | []     => .err .eoi bs
  | b :: _ => .ok b bs

/-- `Decoder::read`. -/
@[inline] def read : Dec UInt8 := fun bs =>
  match bs with
  | []      => .err .eoi bs
  | b :: bs => .ok b bs

/-- `Decoder::peek`: the byte at `pos + 1`. -/
@[inline] def peek : Dec UInt8 := fun bs =>
  match bs with
  | _ :: b :: _ => .ok b bs
  | _           => .err .eoi bs

/-- `Decoder::read_slice` (and `read_array`). `n` is a `usize`; `checked_add` failing is the
    same outcome as the range being out of bounds. -/
@[inline] def readSlice (n : Nat) : Dec Bytes := fun bs =>
  if n ≤ bs.length then .ok (bs.take n) (bs.drop n) else .err .eoi bs

/-- the remaining input (for `position`). -/
@[inline] def remaining : Dec Bytes := fun bs => .ok bs bs

/-- run with a different remaining input (for `set_position` / `probe`). -/
@[inline] def setRemaining (r : Bytes) : Dec Unit := fun _ => .ok () r

end Dec

@[simp] theorem Dec.pure_run (a : α) (bs : Bytes) : (Pure.pure a : Dec α) bs = .ok a bs := rfl
@[simp] theorem Dec.fail_run (e : Err) (bs : Bytes) : (Dec.fail e : Dec α) bs = .err e bs := rfl

theorem Dec.bind_run (m : Dec α) (f : α → Dec β) (bs : Bytes) :
    (m >>= f) bs = match m bs with
      | .ok a rest  => f a rest
      | .err e rest => .err e rest
      | .panic      => .panic := rfl

@[simp] theorem Dec.bind_ok (m : Dec α) (f : α → Dec β) (bs : Bytes) (a : α) (r : Bytes)
    (h : m bs = .ok a r) : (m >>= f) bs = f a r := by
  rw [Dec.bind_run, h]

theorem Dec.bind_err (m : Dec α) (f : α → Dec β) (bs : Bytes) (e : Err) (r : Bytes)
    (h : m bs = .err e r) : (m >>= f) bs = .err e r := by
  rw [Dec.bind_run, h]

theorem Dec.bind_ok_inv {m : Dec α} {f : α → Dec β} {bs : Bytes} {b : β} {r : Bytes}
    (h : (m >>= f) bs = .ok b r) : ∃ a r0, m bs = .ok a r0 ∧ f a r0 = .ok b r := by
  rw [Dec.bind_run] at h
  cases hm : m bs with
  | ok a r0 => rw [hm] at h; exact ⟨a, r0, rfl, h⟩
  | err e r0 => rw [hm] at h; cases h
  | panic => rw [hm] at h; cases h

@[simp] theorem Dec.read_cons (b : UInt8) (bs : Bytes) : Dec.read (b :: bs) = .ok b bs := rfl
@[simp] theorem Dec.read_nil : Dec.read [] = .err .eoi [] := rfl
@[simp] theorem Dec.current_cons (b : UInt8) (bs : Bytes) : Dec.current (b :: bs) = .ok b (b :: bs) := rfl
@[simp] theorem Dec.current_nil : Dec.current [] = .err .eoi [] := rfl

theorem Dec.readSlice_append (xs rest : Bytes) :
    Dec.readSlice xs.length (xs ++ rest) = .ok xs rest := by
  simp [Dec.readSlice]

/-! hex helpers (driver side) -/

def hexDigit (n : Nat) : Char :=
  if n < 10 then Char.ofNat (48 + n) else Char.ofNat (87 + n)

def hexOfBytes (bs : Bytes) : String :=
  String.ofList (bs.flatMap fun b => [hexDigit (b.toNat / 16), hexDigit (b.toNat % 16)])

def hexVal (c : Char) : Option Nat :=
  if '0' ≤ c ∧ c ≤ '9' then some (c.toNat - 48)
  else if 'a' ≤ c ∧ c ≤ 'f' then some (c.toNat - 87)
  else if 'A' ≤ c ∧ c ≤ 'F' then some (c.toNat - 55)
  else none

def bytesOfHexChars : List Char → Option Bytes
  | [] => some []
  | a :: b :: cs => do
      let x ← hexVal a
      let y ← hexVal b
      let r ← bytesOfHexChars cs
      pure (u8 (x * 16 + y) :: r)
  | _ => none

/-- `-` denotes the empty byte string in the line protocol. -/
def bytesOfHex (s : String) : Option Bytes :=
  if s == "-" then some [] else bytesOfHexChars s.toList

def hexOrDash (bs : Bytes) : String := if bs.isEmpty then "-" else hexOfBytes bs

end Minicbor
