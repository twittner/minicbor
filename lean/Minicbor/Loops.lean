/-
  The loop combinators of the built-in `Decode` impls: `repeatN` (count-driven, no fuel),
  `untilBreak` (local fuel) and the container shells built from them.
-/
import Minicbor.Decoder
import Minicbor.Skip

namespace Minicbor

namespace Dec

/-- `for i in 0 .. n { m }` collecting results: stops at the first failure, like the code. -/
def repeatN (m : Dec α) : Nat → Dec (List α)
  | 0 => pure []
  | n + 1 => do let x ← m; let xs ← repeatN m n; pure (x :: xs)

/-- the indefinite-length arm of `ArrayIter` / `MapIter`: until the break byte. -/
def untilBreak (m : Dec α) : Nat → Dec (List α)
  | 0 => panic
  | fuel + 1 => do
    let b ← current
    if b == 0xff then
      let _ ← read
      pure []
    else
      let x ← m
      let xs ← untilBreak m fuel
      pure (x :: xs)

/-- `array_iter_with` drained. -/
def arrayIter (m : Dec α) : Dec (List α) := do
  match (← array) with
  | some n => repeatN m n
  | none => do let r ← remaining; untilBreak m (r.length + 1)

/-- `map_iter_with` drained (entries flattened). -/
def mapIter (mk mv : Dec α) : Dec (List α) := do
  let pair : Dec (List α) := do let k ← mk; let v ← mv; pure [k, v]
  match (← map) with
  | some n => do let xs ← repeatN pair n; pure xs.flatten
  | none => do let r ← remaining; let xs ← untilBreak pair (r.length + 1); pure xs.flatten

/-- indefinite arm of `[T; N]::decode`: decode until break, giving up when an element beyond
    the `n`-th has been decoded (every element is decoded *before* the push that overflows). -/
def arrayNIndef (m : Dec α) (n : Nat) : Nat → Nat → Dec (List α)
  | 0, _ => panic
  | fuel + 1, have_ => do
    let b ← current
    if b == 0xff then
      let _ ← read
      if have_ < n then fail .message else pure []
    else
      let x ← m
      if have_ ≥ n then fail .message
      else
        let xs ← arrayNIndef m n fuel (have_ + 1)
        pure (x :: xs)

/-- `[T; N]::decode`. -/
def arrayN (m : Dec α) (n : Nat) : Dec (List α) := do
  match (← array) with
  | some k =>
    if k ≤ n then do
      let xs ← repeatN m k
      if k < n then fail .message else pure xs
    else do
      let _ ← repeatN m (n + 1)
      fail .message
  | none => do
    let r ← remaining
    arrayNIndef m n (r.length + 1) 0

/-- the `skip()` loop of `decode_fields!` over trailing unknown entries of an indefinite array,
    including the final `skip()` that consumes the break. -/
def skipUntilBreak : Nat → Dec Unit
  | 0 => panic
  | fuel + 1 => do
    let ty ← datatype
    if ty == .break then skip
    else do skip; skipUntilBreak fuel

/-- decode the components in order (tuples). -/
def seqAll : List (Dec α) → Dec (List α)
  | [] => pure []
  | m :: ms => do let v ← m; let vs ← seqAll ms; pure (v :: vs)

/-- `decode_fields!`, definite array of `n` entries: known indices are decoded, further
    entries skipped, and a field that never got its turn is a `missing_value` error. -/
def fieldsDef : List (Dec α) → Nat → Dec (List α)
  | [], n => do let _ ← repeatN skip n; pure []
  | _ :: _, 0 => fail .missing
  | m :: ms, n + 1 => do let v ← m; let vs ← fieldsDef ms n; pure (v :: vs)

/-- `decode_fields!`, indefinite array. -/
def fieldsIndef : List (Dec α) → Nat → Dec (List α)
  | [], fuel => do skipUntilBreak fuel; pure []
  | m :: ms, fuel => do
      let ty ← datatype
      if ty == .break then do skip; fail .missing
      else do let v ← m; let vs ← fieldsIndef ms fuel; pure (v :: vs)

/-- `decode_fields!` -/
def fieldsDec (ms : List (Dec α)) : Dec (List α) := do
  match (← array) with
  | some n => fieldsDef ms n
  | none => do let r ← remaining; fieldsIndef ms (r.length + 1)

end Dec

end Minicbor
