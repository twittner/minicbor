/-
  `ArrayIter` / `ArrayIterWithCtx` / `MapIter` / `MapIterWithCtx` as what they are in the code: a state (the declared
  number of elements still to come, or `none` for an indefinite container; the decoder's remaining input) and a `next`
  function.  Elsewhere the model only uses the *drained* loops (`Dec.arrayIter`, `Dec.mapIter`: what `collect` into a
  `Result<_, _>` does); `Thm/Iter.lean` proves the two views equal, so every theorem about the drained loops (C01, C02,
  C04 …) is a theorem about calling `next` until `None` or the first error.

  The adaptors of `core::iter::Iterator` (`nth`, `skip`, `step_by`, `take`, `last`, `count`) are *defined* by the
  standard library through `next`; `Script` spells those definitions out as transcripts so that the driver can be
  compared with the code driven through the real adaptors (op `aiter`).
-/
import Minicbor.Decoder

namespace Minicbor

structure IterSt where
  left : Option Nat
  rest : Bytes
  deriving Repr

inductive IterOut (α : Type) where
  | done
  | item (a : α)
  | error (e : Err)
  | panic
  deriving Repr

/-- `Some(T::decode(self.decoder, ctx))`. -/
def iterRun (m : Dec α) (left : Option Nat) (bs : Bytes) : IterOut α × IterSt :=
  match m bs with
  | .ok a r  => (.item a, ⟨left, r⟩)
  | .err e r => (.error e, ⟨left, r⟩)
  | .panic   => (.panic, ⟨left, bs⟩)

/-- `Iterator::next` of the four iterators (`m` = the element decoder, or key-then-value for the maps). -/
def iterNext (m : Dec α) (s : IterSt) : IterOut α × IterSt :=
  match s.left with
  | none =>
    match s.rest with
    | []     => (.error .eoi, s)                                        -- `current()` fails, nothing moves
    | b :: r => if b == 0xff then (.done, ⟨none, r⟩) else iterRun m none s.rest
  | some 0       => (.done, s)
  | some (n + 1) => iterRun m (some n) s.rest

/-- key then value, as `MapIter::next`'s local `pair`. -/
def pairDec (mk : Dec α) (mv : Dec β) : Dec (α × β) := do let k ← mk; let v ← mv; pure (k, v)

/-- `next()` until `None` (the items, where the decoder stands) or the first error. -/
def drain (m : Dec α) : Nat → IterSt → Res (List α)
  | 0, _ => .panic
  | fuel + 1, s =>
    match iterNext m s with
    | (.done, s')    => .ok [] s'.rest
    | (.item a, s')  =>
      (match drain m fuel s' with
       | .ok as r  => .ok (a :: as) r
       | .err e r  => .err e r
       | .panic    => .panic)
    | (.error e, s') => .err e s'.rest
    | (.panic, _)    => .panic

/-- `Decoder::array_iter` / `array_iter_with`: the header, then the iterator. -/
def arrayOpen (bs : Bytes) : Res IterSt :=
  match Dec.array bs with
  | .ok l r  => .ok ⟨l, r⟩ r
  | .err e r => .err e r
  | .panic   => .panic

def mapOpen (bs : Bytes) : Res IterSt :=
  match Dec.map bs with
  | .ok l r  => .ok ⟨l, r⟩ r
  | .err e r => .err e r
  | .panic   => .panic

namespace Script

/-- what a transcript records per `next()` answer that is shown. -/
inductive Ev (α : Type) where
  | item (a : α) | error (e : Err) | none | bar | num (n : Nat) | panic | diverged
  deriving Repr

/-- `while let Some(x) = it.next() { push(x) }`, stopping after the first error shown. -/
def all (m : Dec α) : Nat → IterSt → List (Ev α) × IterSt
  | 0, s => ([.diverged], s)
  | fuel + 1, s =>
    match iterNext m s with
    | (.done, s')    => ([], s')
    | (.item a, s')  => let (evs, s'') := all m fuel s'; (.item a :: evs, s'')
    | (.error e, s') => ([.error e], s')
    | (.panic, s')   => ([.panic], s')

/-- `while let Some(x) = it.next() { show(x) }` carrying on after failed elements, at most `cap` answers. -/
def allx (m : Dec α) : Nat → IterSt → List (Ev α) × IterSt
  | 0, s => ([], s)
  | cap + 1, s =>
    match iterNext m s with
    | (.done, s')    => ([], s')
    | (.item a, s')  => let (evs, s'') := allx m cap s'; (.item a :: evs, s'')
    | (.error e, s') => let (evs, s'') := allx m cap s'; (.error e :: evs, s'')
    | (.panic, s')   => ([.panic], s')

/-- `n` calls of `next()` whose answers are dropped (errors included); stops early at `None`.  Returns whether `None` was met. -/
def advance (m : Dec α) : Nat → IterSt → Bool × IterSt
  | 0, s => (false, s)
  | n + 1, s =>
    match iterNext m s with
    | (.done, s')  => (true, s')
    | (.panic, s') => (true, s')
    | (_, s')      => advance m n s'

/-- one answer as an event; `stop` = the transcript ends here. -/
def ev (o : IterOut α) : Ev α × Bool :=
  match o with
  | .done => (.none, false) | .item a => (.item a, false) | .error e => (.error e, true) | .panic => (.panic, true)

/-- `it.nth(n)` then the rest. -/
def nth (m : Dec α) (fuel n : Nat) (s : IterSt) : List (Ev α) × IterSt :=
  let (hitNone, s1) := advance m n s
  if hitNone then let (evs, s2) := all m fuel s1; (.none :: evs, s2)
  else
    let (o, s2) := iterNext m s1
    let (e, stop) := ev o
    if stop then ([e], s2) else let (evs, s3) := all m fuel s2; (e :: evs, s3)

/-- `it.skip(n)` drained. -/
def skip (m : Dec α) (fuel n : Nat) (s : IterSt) : List (Ev α) × IterSt :=
  let (hitNone, s1) := advance m n s
  if hitNone then ([], s1) else all m fuel s1

/-- `it.step_by(n)` drained: every `n`-th answer is shown, the others dropped whatever they are. -/
def step (m : Dec α) (n : Nat) : Nat → Nat → IterSt → List (Ev α) × IterSt
  | 0, _, s => ([.diverged], s)
  | fuel + 1, i, s =>
    match iterNext m s with
    | (.done, s')  => ([], s')
    | (.panic, s') => ([.panic], s')
    | (o, s') =>
      if i % n == 0 then
        let (e, stop) := ev o
        if stop then ([e], s') else let (evs, s'') := step m n fuel (i + 1) s'; (e :: evs, s'')
      else step m n fuel (i + 1) s'

/-- `it.by_ref().take(n)` drained (at most `n` calls of `next`). -/
def takeN (m : Dec α) : Nat → IterSt → List (Ev α) × IterSt × Bool
  | 0, s => ([], s, false)
  | n + 1, s =>
    match iterNext m s with
    | (.done, s')    => ([], s', false)
    | (.item a, s')  => let (evs, s'', st) := takeN m n s'; (.item a :: evs, s'', st)
    | (.error e, s') => ([.error e], s', true)
    | (.panic, s')   => ([.panic], s', true)

def take (m : Dec α) (fuel n : Nat) (s : IterSt) : List (Ev α) × IterSt :=
  let (evs, s1, stop) := takeN m n s
  if stop then (evs, s1) else let (evs2, s2) := all m fuel s1; (evs ++ .bar :: evs2, s2)

/-- `it.last()` : the last `Some` before the first `None` (errors are items like any other). -/
def last (m : Dec α) : Nat → Option (IterOut α) → IterSt → List (Ev α) × IterSt
  | 0, _, s => ([.diverged], s)
  | fuel + 1, l, s =>
    match iterNext m s with
    | (.done, s')  => ([match l with | some o => (ev o).1 | none => .none], s')
    | (.panic, s') => ([.panic], s')
    | (o, s')      => last m fuel (some o) s'

/-- `it.count()`. -/
def count (m : Dec α) : Nat → Nat → IterSt → List (Ev α) × IterSt
  | 0, _, s => ([.diverged], s)
  | fuel + 1, c, s =>
    match iterNext m s with
    | (.done, s')  => ([.num c], s')
    | (.panic, s') => ([.panic], s')
    | (_, s')      => count m fuel (c + 1) s'

/-- `it.fuse()`: drained, then `n` more calls, which `Fuse` answers itself (the iterators do not implement `FusedIterator`, so the inner
    one is not asked again). -/
def fuse (m : Dec α) (fuel n : Nat) (s : IterSt) : List (Ev α) × IterSt :=
  let (evs, s') := all m fuel s
  match evs.getLast? with
  | some (.error _) => (evs, s')
  | some .panic => (evs, s')
  | some .diverged => (evs, s')
  | _ => (evs ++ List.replicate n .none, s')

end Script

end Minicbor
