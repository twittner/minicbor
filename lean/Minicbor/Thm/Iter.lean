/-
  The iterator view (`Iter.lean`: state + `next`) and the drained loops used by every `Decode` impl
  are the same thing: calling `next` until `None` or the first error is `repeatN` for a definite
  container and `untilBreak` for an indefinite one.
-/
import Minicbor.Iter
import Minicbor.Lemmas.TotalTy

namespace Minicbor.IterThm
open Minicbor

theorem repeatN_succ (m : Dec α) (n : Nat) (bs : Bytes) :
    Dec.repeatN m (n + 1) bs =
      match m bs with
      | .ok a r => (match Dec.repeatN m n r with
                    | .ok as r' => .ok (a :: as) r'
                    | .err e r' => .err e r'
                    | .panic => .panic)
      | .err e r => .err e r
      | .panic => .panic := by
  simp only [Dec.repeatN, Dec.bind_run]
  cases m bs with
  | ok a r => simp only []; cases Dec.repeatN m n r <;> rfl
  | err e r => rfl
  | panic => rfl

/-- definite containers: `next` until `None` is the counted loop (any fuel above the declared length). -/
theorem drain_definite (m : Dec α) (n : Nat) : ∀ (fuel : Nat) (bs : Bytes), n < fuel →
    drain m fuel ⟨some n, bs⟩ = Dec.repeatN m n bs := by
  induction n with
  | zero =>
    intro fuel bs h
    obtain ⟨f, rfl⟩ : ∃ f, fuel = f + 1 := ⟨fuel - 1, by omega⟩
    rfl
  | succ n ih =>
    intro fuel bs h
    obtain ⟨f, rfl⟩ : ∃ f, fuel = f + 1 := ⟨fuel - 1, by omega⟩
    rw [repeatN_succ]
    simp only [drain, iterNext, iterRun]
    cases hm : m bs with
    | ok a r => simp only [ih f r (by omega)]; rfl
    | err e r => rfl
    | panic => rfl

theorem untilBreak_succ (m : Dec α) (fuel : Nat) (bs : Bytes) :
    Dec.untilBreak m (fuel + 1) bs =
      match bs with
      | [] => .err .eoi []
      | b :: r =>
        if b == 0xff then .ok [] r
        else match m (b :: r) with
          | .ok a r' => (match Dec.untilBreak m fuel r' with
                        | .ok as r'' => .ok (a :: as) r''
                        | .err e r'' => .err e r''
                        | .panic => .panic)
          | .err e r' => .err e r'
          | .panic => .panic := by
  cases bs with
  | nil => rfl
  | cons b r =>
    simp only [Dec.untilBreak, Dec.bind_run, Dec.current_cons]
    split
    · rfl
    · simp only [Dec.bind_run]
      cases m (b :: r) with
      | ok a r' => simp only []; cases Dec.untilBreak m fuel r' <;> rfl
      | err e r' => rfl
      | panic => rfl

/-- indefinite containers: `next` until `None` is the until-break loop, fuel for fuel. -/
theorem drain_indefinite (m : Dec α) : ∀ (fuel : Nat) (bs : Bytes),
    drain m fuel ⟨none, bs⟩ = Dec.untilBreak m fuel bs := by
  intro fuel
  induction fuel with
  | zero => intro bs; rfl
  | succ f ih =>
    intro bs
    rw [untilBreak_succ]
    cases bs with
    | nil => rfl
    | cons b r =>
      by_cases hb : (b == 0xff) = true
      · simp only [drain, iterNext, if_pos hb]
      · simp only [drain, iterNext, iterRun, if_neg hb]
        cases hm : m (b :: r) with
        | ok a r' => simp only [ih r']; rfl
        | err e r' => rfl
        | panic => rfl

/-- the fuel the drained loop gives an iterator just opened in state `s`. -/
def fuelFor (s : IterSt) : Nat :=
  match s.left with
  | some n => n + 1
  | none => s.rest.length + 1

/-- `array_iter_with(..)` collected = the drained loop of the model (`Dec.arrayIter`, the body of
    every sequence `Decode` impl): open, then `next` until `None` or the first error. -/
theorem arrayIter_is_next_loop (m : Dec α) (bs : Bytes) :
    Dec.arrayIter m bs =
      match arrayOpen bs with
      | .ok s _ => drain m (fuelFor s) s
      | .err e r => .err e r
      | .panic => .panic := by
  unfold Dec.arrayIter arrayOpen
  rw [Dec.bind_run]
  cases Dec.array bs with
  | ok l r =>
    cases l with
    | some n => exact (drain_definite m n (n + 1) r (by omega)).symm
    | none => exact (drain_indefinite m (r.length + 1) r).symm
  | err e r => rfl
  | panic => rfl

/-- `map_iter_with(..)` collected = `Dec.mapIter` (the body of the map `Decode` impls; entries
    flattened to key, value, key, value …): open, then `next` until `None` or the first error, with
    the element decoder "key then value". -/
theorem mapIter_is_next_loop (mk mv : Dec α) (bs : Bytes) :
    Dec.mapIter mk mv bs =
      match mapOpen bs with
      | .ok s _ =>
        (match drain (do let k ← mk; let v ← mv; pure [k, v]) (fuelFor s) s with
         | .ok xs r => .ok xs.flatten r
         | .err e r => .err e r
         | .panic => .panic)
      | .err e r => .err e r
      | .panic => .panic := by
  unfold Dec.mapIter mapOpen
  rw [Dec.bind_run]
  cases Dec.map bs with
  | ok l r =>
    cases l with
    | some n =>
      simp only [fuelFor, drain_definite _ n (n + 1) r (by omega), Dec.bind_run]
      cases Dec.repeatN _ n r <;> rfl
    | none =>
      simp only [fuelFor, drain_indefinite, Dec.bind_run, Dec.remaining]
      cases Dec.untilBreak _ (r.length + 1) r <;> rfl
  | err e r => rfl
  | panic => rfl

/-- a definite iterator is fused: once exhausted it keeps answering `None` and nothing moves. -/
theorem definite_fused (m : Dec α) (r : Bytes) : iterNext m ⟨some 0, r⟩ = (.done, ⟨some 0, r⟩) := rfl

/-- an indefinite iterator is not fused: after the break it reads on (the byte after the break is
    taken for the next element) — `Iterator` allows that, and the adaptors inherit it. -/
theorem indefinite_not_fused :
    iterNext (Dec.intAcc Dec.IntTy.u8) ⟨none, [0xff, 0x07]⟩ = (.done, ⟨none, [0x07]⟩) ∧
    iterNext (Dec.intAcc Dec.IntTy.u8) ⟨none, [0x07]⟩ = (.item 7, ⟨none, []⟩) := by
  constructor <;> rfl

/-- the transcript `all` is the drained loop: same items, same end, same error. -/
theorem all_is_drain (m : Dec α) : ∀ (fuel : Nat) (s : IterSt),
    match drain m fuel s with
    | .ok as r  => (Script.all m fuel s).1 = List.map Script.Ev.item as ∧ (Script.all m fuel s).2.rest = r
    | .err e r  => ∃ as, (Script.all m fuel s).1 = List.map Script.Ev.item as ++ [.error e] ∧ (Script.all m fuel s).2.rest = r
    | .panic    => True := by
  intro fuel
  induction fuel with
  | zero => intro s; trivial
  | succ f ih =>
    intro s
    unfold drain Script.all
    cases hn : iterNext m s with
    | mk o s' =>
      cases o with
      | done => exact ⟨rfl, rfl⟩
      | item a =>
        have := ih s'
        simp only []
        cases hd : drain m f s' with
        | ok as r =>
          rw [hd] at this
          simp only []
          exact ⟨by rw [this.1]; rfl, this.2⟩
        | err e r =>
          rw [hd] at this
          obtain ⟨as, h1, h2⟩ := this
          simp only []
          exact ⟨a :: as, by rw [h1]; rfl, h2⟩
        | panic => trivial
      | error e => exact ⟨[], rfl, rfl⟩
      | panic => trivial

/-- an iterator never moves backwards and never leaves the input: whatever `next` answers — an
    item, an error, the end — the decoder stands at a suffix of where it stood (for every element
    decoder with that property: `decodeT_suffix` gives it for all built-in types). -/
theorem iterNext_suffix (m : Dec α) (hm : Dec.Suffix m) (s : IterSt) : (iterNext m s).2.rest <:+ s.rest := by
  have run : ∀ l bs, (iterRun m l bs).2.rest <:+ bs := by
    intro l bs
    unfold iterRun
    cases h : m bs with
    | ok a r => exact (hm bs).1 a r h
    | err e r => exact (hm bs).2 e r h
    | panic => exact List.suffix_refl _
  unfold iterNext
  cases hl : s.left with
  | none =>
    cases hr : s.rest with
    | nil => simp only [hr]; exact List.suffix_refl _
    | cons b r =>
      simp only []
      split
      · exact List.suffix_cons b r
      · rw [← hr]; exact run none s.rest
  | some n =>
    cases n with
    | zero => exact List.suffix_refl _
    | succ k => exact run (some k) s.rest

theorem iterNext_suffix_builtin (t : Ty) (s : IterSt) : (iterNext (decodeT t) s).2.rest <:+ s.rest :=
  iterNext_suffix _ (Dec.decodeT_suffix t) s

/-- a definite iterator answers at most as often as its declared length says, errors included:
    after `left` answers it is exhausted (`allx` = `next` until `None`, carrying on after failed
    elements). -/
theorem allx_definite_length (m : Dec α) : ∀ (cap n : Nat) (bs : Bytes),
    (Script.allx m cap ⟨some n, bs⟩).1.length ≤ n := by
  intro cap
  induction cap with
  | zero => intro n bs; exact Nat.zero_le _
  | succ c ih =>
    intro n bs
    cases n with
    | zero => exact Nat.le_refl _
    | succ k =>
      simp only [Script.allx, iterNext, iterRun]
      cases m bs with
      | ok a r => exact Nat.succ_le_succ (ih k r)
      | err e r => exact Nat.succ_le_succ (ih k r)
      | panic => exact Nat.succ_le_succ (Nat.zero_le _)

theorem skip_zero (m : Dec α) (fuel : Nat) (s : IterSt) : Script.skip m fuel 0 s = Script.all m fuel s := rfl

/-- non-vacuity: a definite array of two, an indefinite one with data behind it, a foreign item inside. -/
example : Dec.arrayIter (Dec.intAcc Dec.IntTy.u8) [0x82, 0x01, 0x02, 0x09] = .ok [1, 2] [0x09] ∧
    Dec.arrayIter (Dec.intAcc Dec.IntTy.u8) [0x9f, 0x01, 0xff, 0x09] = .ok [1] [0x09] ∧
    (Script.nth (Dec.intAcc Dec.IntTy.u8) 10 1 ⟨none, [0x01, 0x02, 0xff, 0x09]⟩).1.length = 1 := by
  refine ⟨by rfl, by rfl, by decide⟩

end Minicbor.IterThm
