/-
  C03, built-in `Encode` impls: every impl writes exactly one well-formed RFC 8949 data item,
  namely the preferred (shortest-head, definite-length) serialisation of the data-model value
  the typed value denotes.

  `itemOf t v` (Lemmas/TypesItem.lean) is the data-model value of `v : t`; `encPref` the
  independent reference encoder of Wire.lean.  Side conditions (decidable): `t.WF` and
  `bs.length < 2^64` as in C01, and `t.NoBareTag`: `minicbor::data::Tag` is excluded — its `Encode`
  impl writes only a tag head, which on its own or inside a counted container is not a data item
  (`bare_tag_not_an_item`).
-/
import Minicbor.Lemmas.TypesItem

namespace Minicbor.C03

/-- C03, built-in impls.  Whenever a built-in `Encode` impl succeeds, the bytes are the
    preferred serialisation of the value's data-model item, and that item is valid. -/
theorem builtin_pref (t : Ty) (v : Val) (bs : Bytes)
    (hwf : t.WF = true) (hnb : t.NoBareTag = true)
    (henc : encodeT t v = some bs) (hlen : bs.length < 2 ^ 64) :
    ∃ i, itemOf t v = some i ∧ bs = encPref i ∧ (prefTree i).Valid :=
  pref_all.1 t v bs henc (Ty.all_both hwf hnb) hlen

/-- in the vocabulary of Wire.lean: the bytes are exactly one well-formed item (`encW w`, `w` a
    valid parse tree) whose data-model value is `itemOf t v`. -/
theorem builtin_wellformed (t : Ty) (v : Val) (bs : Bytes)
    (hwf : t.WF = true) (hnb : t.NoBareTag = true)
    (henc : encodeT t v = some bs) (hlen : bs.length < 2 ^ 64) :
    ∃ w : WItem, w.Valid ∧ bs = encW w ∧ some (value w) = itemOf t v := by
  obtain ⟨i, hi, hb, hv⟩ := builtin_pref t v bs hwf hnb henc hlen
  exact ⟨prefTree i, hv, hb, by rw [value_prefTree, hi]⟩

/-- the model is a function; stated for the record. -/
theorem builtin_deterministic (t : Ty) (v : Val) (b1 b2 : Bytes)
    (h1 : encodeT t v = some b1) (h2 : encodeT t v = some b2) : b1 = b2 := by
  rw [h1] at h2; exact Option.some.inj h2

/-- why `Tag` is excluded: `(Tag, u8)` = `(Tag::new(1), 5)` is written as `82 c1 05`: an array head
    announcing two items followed by the single item `1(5)`. -/
theorem bare_tag_not_an_item :
    encodeT .tag (.int 1) = some [0xc1] ∧
    encodeT (.tup [.tag, .int .u8]) (.list [.int 1, .int 5]) = some [0x82, 0xc1, 0x05] ∧
    itemOf (.tup [.tag, .int .u8]) (.list [.int 1, .int 5]) = none :=
  ⟨by decide, by decide, rfl⟩

/-- non-vacuity -/
example :
    let t : Ty := .map .str (.seq (.opt (.tup [.int .i16, .tagged 70000 .cstr, .enum [.unit, .f64]])))
    let v : Val := .map [.str [0x61], .list [.some (.list [.int (-300), .tagged (.bytes [1, 2]), .variant 1 (.float 0)]), .none]]
    t.WF = true ∧ t.NoBareTag = true ∧ (encodeT t v).isSome = true := by
  decide

end Minicbor.C03
