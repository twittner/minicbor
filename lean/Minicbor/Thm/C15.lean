/-
  C15 — AsyncReader is cancellation-safe: no frame lost, duplicated or torn.
  Model: `Minicbor/Frame.lean` (`AReader.poll`, `RSys.run`); invariant and the poll-loop
  specification: `Lemmas/AsyncRead.lean` (`Step`, `pollLoop_spec`, for source scripts of
  arbitrary length).

  A schedule is a pair: the source script (`List Ev`: deliver up to k bytes / Pending /
  transient error / …, one event per `poll_read`) and the caller's decisions (`List RAct`:
  poll the read future — issuing `read()` if none is alive — or drop it).  An async source
  whose script is exhausted stays `Pending`, so fairness ("the source eventually delivers") is
  the explicit hypothesis that the script is not exhausted at the end of the run.
-/
import Minicbor.Lemmas.AsyncRead

namespace Minicbor.C15
open Minicbor.Frame

/-! ## dropping a future -/

/-- Dropping the pending read future is the identity on the reader (the future has no
    fields: `ReadFut`), and is not observable. -/
theorem drop_is_identity (c : Codec α) (s : RSys) :
    (s.act c .drop).1.rd = s.rd ∧ (s.act c .drop).2 = none := ⟨rfl, rfl⟩

/-- whether a future is alive is bookkeeping: no act looks at it. -/
theorem run_fut_irrelevant (c : Codec α) (acts : List RAct) (rd : AReader) (f f' : Option ReadFut) :
    (RSys.run c acts ⟨rd, f⟩).1 = (RSys.run c acts ⟨rd, f'⟩).1 ∧
    (RSys.run c acts ⟨rd, f⟩).2.rd = (RSys.run c acts ⟨rd, f'⟩).2.rd := by
  cases acts with
  | nil => exact ⟨rfl, rfl⟩
  | cons a as => cases a <;> exact ⟨rfl, rfl⟩

theorem run_poll (c : Codec α) (as : List RAct) (s : RSys) (f : Option ReadFut) :
    (RSys.run c (.poll :: as) s).1 = some (s.rd.poll c).1 :: (RSys.run c as ⟨(s.rd.poll c).2, f⟩).1 ∧
    (RSys.run c (.poll :: as) s).2.rd = (RSys.run c as ⟨(s.rd.poll c).2, f⟩).2.rd := by
  simp only [RSys.run, RSys.act]
  cases s.rd.poll c with
  | mk x rd' =>
    cases x <;> exact ⟨by rw [(run_fut_irrelevant c as rd' _ f).1], (run_fut_irrelevant c as rd' _ f).2⟩

/-- The drop decisions of a schedule are irrelevant: what the polls return, and the final
    reader, are those of the schedule with all drops removed. -/
theorem run_drop_irrelevant (c : Codec α) : ∀ (acts : List RAct) (s : RSys),
    (RSys.run c acts s).1.filterMap id = (RSys.run c (acts.filter (· = .poll)) s).1.filterMap id ∧
    (RSys.run c acts s).2.rd = (RSys.run c (acts.filter (· = .poll)) s).2.rd := by
  intro acts
  induction acts with
  | nil => intro s; exact ⟨rfl, rfl⟩
  | cons a as ih =>
    intro s
    cases a with
    | poll =>
      obtain ⟨h1, h2⟩ := run_poll c as s none
      obtain ⟨h3, h4⟩ := run_poll c (as.filter (· = .poll)) s none
      obtain ⟨i1, i2⟩ := ih ⟨(s.rd.poll c).2, none⟩
      rw [List.filter_cons_of_pos (by simp), h1, h2, h3, h4]
      exact ⟨by simp [i1], i2⟩
    | drop =>
      obtain ⟨i1, i2⟩ := ih ⟨s.rd, none⟩
      obtain ⟨h1, h2⟩ := run_fut_irrelevant c (as.filter (· = .poll)) s.rd none s.fut
      rw [List.filter_cons_of_neg (by simp)]
      exact ⟨i1.trans (congrArg _ h1), i2.trans h2⟩

/-! ## one poll -/

/-- What one poll does to the represented stream
    `S = stored part of the current frame ++ undelivered bytes`, for every source behaviour
    (`Step`, Lemmas/AsyncRead.lean). -/
theorem poll_inv (c : Codec α) (rd : AReader) (hw : Wf rd.core) :
    Step c (pb rd.core ++ rd.src.bytes) rd.core.maxLen (AOk rd.src.script)
      (rd.poll c).1 (rd.poll c).2.core (rd.poll c).2.src.bytes := by
  unfold AReader.poll
  rw [settle_wf c _ hw]
  exact pollLoop_spec c _ _ _ hw

/-- a poll consumes script events; it keeps a well-behaved script well-behaved, and unless it runs into the
    end of the script it pays one `Pending` event per `Pending` answer and one error event per transient error. -/
theorem poll_script_suffix (c : Codec α) (rd : AReader) (hw : Wf rd.core) :
    (AOk rd.src.script → AOk (rd.poll c).2.src.script) ∧
    (rd.src.script = [] → (rd.poll c).2.src.script = []) ∧
    ((rd.poll c).2.src.script ≠ [] →
      countP (rd.poll c).2.src.script + (pollCost (rd.poll c).1).1 ≤ countP rd.src.script ∧
      countE (rd.poll c).2.src.script + (pollCost (rd.poll c).1).2 ≤ countE rd.src.script) :=
  poll_script c rd

/-- A transient error is reported once, by the poll that met it, and nothing else happens:
    state, buffer and stream position are exactly what they were, so the next poll resumes at
    the same offset as if the error had not occurred. -/
theorem transient_error_once (c : Codec α) (core : ARCore) (bytes : Bytes) (sc : List Ev) (hw : Wf core) :
    AReader.poll c ⟨core, ⟨bytes, .fail :: sc⟩⟩ = (.ready (.error (.io .other)), ⟨core, ⟨bytes, sc⟩⟩) ∧
    AReader.poll c ⟨core, ⟨bytes, .intr :: sc⟩⟩ = (.ready (.error (.io .interrupted)), ⟨core, ⟨bytes, sc⟩⟩) := by
  unfold AReader.poll
  simp only [settle_wf c _ hw, pollLoop, and_self]

/-- … and, for an `ErrorKind::Other` answer, the polls after it return what they would have
    returned without it. -/
theorem transient_error_resumes (c : Codec α) (core : ARCore) (bytes : Bytes) (sc : List Ev) (hw : Wf core)
    (acts : List RAct) (f : Option ReadFut) :
    (RSys.run c (.poll :: acts) ⟨⟨core, ⟨bytes, .fail :: sc⟩⟩, f⟩).1 =
      some (.ready (.error (.io .other))) :: (RSys.run c acts ⟨⟨core, ⟨bytes, sc⟩⟩, none⟩).1 := by
  simp only [RSys.run, RSys.act, (transient_error_once c core bytes sc hw).1]

/-! ## runs -/

/-- the results a caller acts on: what completed reads returned, transient I/O errors aside. -/
def dataResults : List (Option (Poll (Except FErr (Option α)))) → List (Except FErr (Option α))
  | [] => []
  | some (.ready x) :: os => if isTransient x then dataResults os else x :: dataResults os
  | _ :: os => dataResults os

def polls : List RAct → Nat
  | [] => 0
  | .poll :: as => polls as + 1
  | .drop :: as => polls as

/-- how the stream ends behind its complete frames, with the result the reader must then give. -/
inductive Ending (ml : Nat) : Bytes → Except FErr (Option α) → Prop
  | clean : Ending ml [] (.ok none)
  | cut (p t : Bytes) : t <+: frame p → t ≠ [] → t ≠ frame p → p.length ≤ ml → p.length < 4294967296 →
      Ending ml t (.error (.io .unexpectedEof))

theorem Ending.partial {ml : Nat} {t : Bytes} {fin : Except FErr (Option α)} (he : Ending ml t fin) :
    Partial ml t := by
  cases he with
  | clean => exact .inl (by simp)
  | cut p t ht _ hcut hml h32 => exact .of_prefix ht hcut hml h32

/-- an answer that gives the caller no result to act on and leaves the represented stream as it
    was: `Pending` or a transient error. -/
def Quiet (x : Poll (Except FErr (Option α))) : Prop :=
  x = .pending ∨ x = .ready (.error (.io .other)) ∨ x = .ready (.error (.io .interrupted))

/-- the answers of `Step.stay`: the quiet ones, or an end-of-stream answer. -/
theorem Quiet.or_iff {x : Poll (Except FErr (Option α))} {d : Prop} :
    Quiet x ∨ d ↔
      x = .pending ∨ x = .ready (.error (.io .other)) ∨ x = .ready (.error (.io .interrupted)) ∨ d :=
  or_assoc.trans (or_congr_right or_assoc)

theorem dataResults_quiet {x : Poll (Except FErr (Option α))} (hq : Quiet x)
    (os : List (Option (Poll (Except FErr (Option α))))) :
    dataResults (some x :: os) = dataResults os := by
  rcases hq with h | h | h <;> rw [h] <;> simp [dataResults, isTransient]

theorem dataResults_ready {y : Except FErr (Option α)} (hy : isTransient y = false)
    (os : List (Option (Poll (Except FErr (Option α))))) :
    dataResults (some (.ready y) :: os) = y :: dataResults os := by
  simp [dataResults, hy]

theorem poll_pays (x : Poll (Except FErr (Option α))) (os : List (Option (Poll (Except FErr (Option α))))) :
    (dataResults (some x :: os)).length + (pollCost x).1 + (pollCost x).2 = (dataResults os).length + 1 := by
  cases x with
  | pending => simp [dataResults, pollCost]
  | ready y => cases h : isTransient y <;> simp [dataResults, pollCost, h]

theorem step_frame_first {c : Codec α} {p rest : Bytes} {ml : Nat} {E : Prop}
    {x : Poll (Except FErr (Option α))} {r' : ARCore} {b' : Bytes}
    (hE : E) (hp : p.length ≤ ml) (h32 : p.length < 4294967296)
    (hs : Step c (frame p ++ rest) ml E x r' b') :
    (Quiet x ∧ Wf r' ∧ r'.maxLen = ml ∧ pb r' ++ b' = frame p ++ rest) ∨
    (x = .ready (decodeRes c p) ∧ r' = ⟨.new, p, ml⟩ ∧ b' = rest) := by
  cases hs with
  | stay x r' b' hw hm hS hx =>
    rcases Quiet.or_iff.mpr hx with hq | ⟨_, hb⟩
    · exact .inl ⟨hq, hw, hm, hS⟩
    · rw [hb hE, List.append_nil] at hS
      exact absurd hS ((pb_partial r' hw).not_frame h32)
  | frame q _ hS hq hq32 =>
    obtain ⟨rfl, rfl⟩ := frame_inj _ _ _ _ h32 hq32 hS
    exact .inr ⟨rfl, rfl, rfl⟩
  | oversize len _ r' hbig hl32 hS _ _ =>
    rw [frame, List.append_assoc] at hS
    have := (be4_inj _ _ _ _ h32 hl32 hS).1
    omega

theorem step_ending {c : Codec α} {t : Bytes} {ml : Nat} {E : Prop} {fin : Except FErr (Option α)}
    {x : Poll (Except FErr (Option α))} {r' : ARCore} {b' : Bytes}
    (hE : E) (he : Ending ml t fin) (hs : Step c t ml E x r' b') :
    (Wf r' ∧ r'.maxLen = ml ∧ pb r' ++ b' = t) ∧ (Quiet x ∨ x = .ready fin) := by
  cases hs with
  | stay x r' b' hw hm hS hx =>
    refine ⟨⟨hw, hm, hS⟩, ?_⟩
    rcases Quiet.or_iff.mpr hx with hq | ⟨hx, hb⟩
    · exact .inl hq
    · -- the stream is exhausted: what is stored is all of `t`
      rw [hb hE, List.append_nil] at hS
      rw [hx, eofRes_eq r' hw, hS]
      cases he with
      | clean => exact .inr rfl
      | cut p t _ hne _ _ _ => exact .inr (by rw [if_neg hne])
  | frame q _ hS _ hq32 => exact absurd hS (he.partial.not_frame hq32)
  | oversize len _ _ hbig hl32 hS _ _ => exact absurd hS (he.partial.not_oversize hbig hl32)

theorem run_accounting (c : Codec α) : ∀ (acts : List RAct) (s : RSys),
    ((RSys.run c acts s).2.rd.src.script ≠ [] →
      polls acts + countP (RSys.run c acts s).2.rd.src.script + countE (RSys.run c acts s).2.rd.src.script
        ≤ (dataResults (RSys.run c acts s).1).length + countP s.rd.src.script + countE s.rd.src.script) ∧
    (s.rd.src.script = [] → (RSys.run c acts s).2.rd.src.script = []) := by
  intro acts
  induction acts with
  | nil => intro s; exact ⟨fun _ => by simp [RSys.run, polls, dataResults], id⟩
  | cons a as ih =>
    intro s
    cases a with
    | drop => exact ih ⟨s.rd, none⟩
    | poll =>
      obtain ⟨hr1, hr2⟩ := run_poll c as s none
      obtain ⟨-, sb, sc⟩ := poll_script c s.rd
      obtain ⟨i2, i3⟩ := ih ⟨(s.rd.poll c).2, none⟩
      rw [hr1, hr2]
      refine ⟨fun hne => ?_, fun h => i3 (sb h)⟩
      have h1 := sc fun h => hne (i3 h)
      have h2 := i2 hne
      have h3 := poll_pays (s.rd.poll c).1 (RSys.run c as ⟨(s.rd.poll c).2, none⟩).1
      simp only [polls] at h2 ⊢
      omega

theorem prefix_replicate_succ {β : Type} {xs A : List β} {z : β} {n : Nat}
    (h : xs <+: A ++ List.replicate n z) : xs <+: A ++ List.replicate (n + 1) z := by
  obtain ⟨s, hs⟩ := h
  exact ⟨s ++ [z], by rw [← List.append_assoc, hs, List.append_assoc, List.replicate_succ']⟩

theorem prefix_tail_eq {β : Type} (xs A : List β) (z : β) (n : Nat) (h : xs <+: A ++ List.replicate n z) :
    (∀ x ∈ xs.drop A.length, x = z) ∧
    (A.length ≤ xs.length → xs = A ++ List.replicate (xs.length - A.length) z) := by
  have hx := List.prefix_iff_eq_take.mp h
  constructor
  · intro x hx'
    rw [hx, List.drop_take, List.drop_left' rfl] at hx'
    exact List.eq_of_mem_replicate (List.mem_of_mem_take hx')
  · intro hl
    have : xs.length ≤ A.length + n := by simpa using h.length_le
    conv => lhs; rw [hx]
    rw [List.take_append, List.take_of_length_le hl, List.take_replicate, Nat.min_eq_left (by omega)]

/-- Induction over the caller's decisions (the poll specification being
    an induction over the source script).  From any state that represents the stream
    `frames ps ++ t`: the results form a prefix of "the decoding of each payload in order,
    then the ending's result for ever", and — fairness — unless the source script ran out,
    every poll that did not produce such a result is paid for by a `Pending` or error event. -/
theorem run_spec (c : Codec α) (ml : Nat) (t : Bytes) (fin : Except FErr (Option α)) (he : Ending ml t fin)
    (hfin : isTransient fin = false) :
    ∀ (acts : List RAct) (ps : List Bytes) (s : RSys),
    Wf s.rd.core → s.rd.core.maxLen = ml → pb s.rd.core ++ s.rd.src.bytes = frames ps ++ t →
    AOk s.rd.src.script → (∀ p ∈ ps, p.length ≤ ml ∧ p.length < 4294967296) →
    dataResults (RSys.run c acts s).1 <+: ps.map (decodeRes c) ++ List.replicate acts.length fin ∧
    ((RSys.run c acts s).2.rd.src.script ≠ [] →
      polls acts + countP (RSys.run c acts s).2.rd.src.script + countE (RSys.run c acts s).2.rd.src.script
        ≤ (dataResults (RSys.run c acts s).1).length + countP s.rd.src.script + countE s.rd.src.script) ∧
    (s.rd.src.script = [] → (RSys.run c acts s).2.rd.src.script = []) := by
  intro acts ps s hw hm hS hok hfit
  refine ⟨?_, run_accounting c acts s⟩
  induction acts generalizing ps s with
  | nil => exact List.nil_prefix
  | cons a as ih =>
    cases a with
    | drop => exact prefix_replicate_succ (ih ps ⟨s.rd, none⟩ hw hm hS hok hfit)
    | poll =>
      have hstep := poll_inv c s.rd hw
      have hok' := (poll_script c s.rd).1 hok
      rw [hS, hm] at hstep
      rw [(run_poll c as s none).1]
      cases ps with
      | nil =>
        obtain ⟨⟨hw', hm', hS'⟩, hx⟩ := step_ending hok he hstep
        have i1 := ih [] ⟨(s.rd.poll c).2, none⟩ hw' hm' hS' hok' hfit
        rcases hx with hq | hq
        · rw [dataResults_quiet hq]
          exact prefix_replicate_succ i1
        · rw [hq, dataResults_ready hfin]
          exact (List.prefix_cons_inj fin).mpr i1
      | cons p ps =>
        have hp := hfit p (by simp)
        rw [frames, List.append_assoc] at hstep
        rcases step_frame_first hok hp.1 hp.2 hstep with ⟨hq, hw', hm', hS'⟩ | ⟨hx, hr', hb'⟩
        · rw [dataResults_quiet hq]
          exact prefix_replicate_succ
            (ih (p :: ps) ⟨_, none⟩ hw' hm' (by rw [hS', frames, List.append_assoc]) hok' hfit)
        · rw [hx, dataResults_ready (decodeRes_not_transient c p)]
          have i1 := ih ps ⟨(s.rd.poll c).2, none⟩ (by rw [hr']; exact Wf.fresh p ml hp.1) (by rw [hr'])
            (by rw [hr', hb', pb_fresh, List.nil_append]) hok' (fun q hq => hfit q (by simp [hq]))
          exact (List.prefix_cons_inj _).mpr (prefix_replicate_succ i1)

/-! ## runs from a fresh reader -/

theorem init_rep (ml : Nat) (bytes : Bytes) (sc : List Ev) :
    Wf (AReader.init ml bytes sc).core ∧ (AReader.init ml bytes sc).core.maxLen = ml ∧
    pb (AReader.init ml bytes sc).core ++ (AReader.init ml bytes sc).src.bytes = bytes :=
  ⟨Wf.init ml, rfl, rfl⟩

/-- Schedule independence.  For every stream of frames `ps` (admissible for `max_len`),
    every source script in which bytes arrive in arbitrary pieces with `Pending`s and transient
    errors at arbitrary points, and every sequence of caller decisions (poll / drop the pending
    future and re-issue the read): the values the reads return are, in order, decodings of the
    frames `ps` from the first on — none skipped, duplicated or torn — followed only by clean ends.
    That all of them are returned is `async_reader_complete`. -/
theorem async_reader_schedule_independent (c : Codec α) (ml : Nat) (ps : List Bytes) (sc : List Ev)
    (acts : List RAct) (hok : AOk sc) (hfit : ∀ p ∈ ps, p.length ≤ ml ∧ p.length < 4294967296) :
    dataResults (RSys.run c acts ⟨AReader.init ml (frames ps) sc, none⟩).1
      <+: ps.map (decodeRes c) ++ List.replicate acts.length (.ok none) := by
  obtain ⟨h1, h2, h3⟩ := init_rep ml (frames ps) sc
  exact (run_spec c ml [] (.ok none) .clean rfl acts ps ⟨AReader.init ml (frames ps) sc, none⟩ h1 h2
    (by rw [List.append_nil]; exact h3) hok hfit).1

/-- … and nothing is withheld (fairness): if the source script did not run out and the
    caller polled at least once per frame, once more for the end, and once per `Pending` and
    per transient error of the script, then all values were returned, followed by at least
    one clean end. -/
theorem async_reader_complete (c : Codec α) (ml : Nat) (ps : List Bytes) (sc : List Ev)
    (acts : List RAct) (hok : AOk sc) (hfit : ∀ p ∈ ps, p.length ≤ ml ∧ p.length < 4294967296)
    (hfair : (RSys.run c acts ⟨AReader.init ml (frames ps) sc, none⟩).2.rd.src.script ≠ [])
    (hpolls : ps.length + 1 + countP sc + countE sc ≤ polls acts) :
    ∃ k, 1 ≤ k ∧ dataResults (RSys.run c acts ⟨AReader.init ml (frames ps) sc, none⟩).1
      = ps.map (decodeRes c) ++ List.replicate k (.ok none) := by
  have r1 := async_reader_schedule_independent c ml ps sc acts hok hfit
  have hacc := (run_accounting c acts ⟨AReader.init ml (frames ps) sc, none⟩).1 hfair
  simp only [AReader.init] at hacc
  have hlen : (ps.map (decodeRes c)).length + 1 ≤
      (dataResults (RSys.run c acts ⟨AReader.init ml (frames ps) sc, none⟩).1).length := by
    simp only [List.length_map, AReader.init]; omega
  exact ⟨_, by omega, (prefix_tail_eq _ _ _ _ r1).2 (by omega)⟩

def Encodes (c : Codec α) (maxLen : Nat) : List α → List Bytes → Prop
  | [], [] => True
  | v :: vs, p :: ps => c.enc v = .ok p ∧ p.length ≤ maxLen ∧ p.length < 4294967296 ∧ Encodes c maxLen vs ps
  | _, _ => False

theorem Encodes.decodes {c : Codec α} (hrt : ∀ v p, c.enc v = .ok p → c.dec p = .ok v) {ml : Nat} :
    ∀ (vs : List α) (ps : List Bytes), Encodes c ml vs ps →
      (∀ p ∈ ps, p.length ≤ ml ∧ p.length < 4294967296) ∧
      ps.map (decodeRes c) = vs.map (fun v => .ok (some v))
  | [], [], _ => by simp
  | v :: vs, p :: ps, ⟨hv, hl, h32, hrest⟩ => by
    obtain ⟨b, d⟩ := Encodes.decodes hrt vs ps hrest
    exact ⟨by simpa using ⟨⟨hl, h32⟩, b⟩, by simp [decodeRes, hrt v p hv, d]⟩
  | [], _ :: _, h | _ :: _, [], h => h.elim

/-- Round trip: the values returned are, in order, the values written, followed only by clean ends
    (all of them under the hypotheses of `async_reader_complete`); for every codec whose decoder
    inverts its encoder (`C14.valCodec_roundtrip` for the one the harness runs). -/
theorem async_reader_roundtrip (c : Codec α) (hrt : ∀ v p, c.enc v = .ok p → c.dec p = .ok v)
    (ml : Nat) (vs : List α) (ps : List Bytes) (sc : List Ev) (acts : List RAct)
    (he : Encodes c ml vs ps) (hok : AOk sc) :
    dataResults (RSys.run c acts ⟨AReader.init ml (frames ps) sc, none⟩).1
      <+: vs.map (fun v => .ok (some v)) ++ List.replicate acts.length (.ok none) := by
  obtain ⟨hfit, hmap⟩ := Encodes.decodes hrt vs ps he
  rw [← hmap]
  exact async_reader_schedule_independent c ml ps sc acts hok hfit

/-- Truncation: if the stream ends strictly inside a frame, then under every schedule the
    results are the values of the complete frames and after them only `UnexpectedEof` … -/
theorem async_truncation (c : Codec α) (ml : Nat) (ps : List Bytes) (p t : Bytes) (sc : List Ev)
    (acts : List RAct) (hok : AOk sc) (hfit : ∀ q ∈ ps ++ [p], q.length ≤ ml ∧ q.length < 4294967296)
    (ht : t <+: frame p) (hne : t ≠ []) (hcut : t ≠ frame p) :
    dataResults (RSys.run c acts ⟨AReader.init ml (frames ps ++ t) sc, none⟩).1
      <+: ps.map (decodeRes c) ++ List.replicate acts.length (.error (.io .unexpectedEof)) := by
  obtain ⟨h1, h2, h3⟩ := init_rep ml (frames ps ++ t) sc
  have hp := hfit p (by simp)
  exact (run_spec c ml t _ (.cut p t ht hne hcut hp.1 hp.2) rfl acts ps ⟨AReader.init ml (frames ps ++ t) sc, none⟩ h1 h2 h3 hok
    (fun q hq => hfit q (by simp [hq]))).1

/-- … never a value (nor a clean end) for the truncated frame or anything after it. -/
theorem async_truncation_never_value (c : Codec α) (ml : Nat) (ps : List Bytes) (p t : Bytes) (sc : List Ev)
    (acts : List RAct) (hok : AOk sc) (hfit : ∀ q ∈ ps ++ [p], q.length ≤ ml ∧ q.length < 4294967296)
    (ht : t <+: frame p) (hne : t ≠ []) (hcut : t ≠ frame p) :
    ∀ x ∈ (dataResults (RSys.run c acts ⟨AReader.init ml (frames ps ++ t) sc, none⟩).1).drop ps.length,
      x = .error (.io .unexpectedEof) := by
  have := (prefix_tail_eq _ _ _ _ (async_truncation c ml ps p t sc acts hok hfit ht hne hcut)).1
  simpa using this

/-- No desynchronisation: a frame whose payload fails to decode yields its decode error in
    its place; the frames before and after it are returned as usual, under every schedule. -/
theorem async_resync (c : Codec α) (ml : Nat) (ps1 ps2 : List Bytes) (p : Bytes) (e : Err) (sc : List Ev)
    (acts : List RAct) (hbad : c.dec p = .error e) (hok : AOk sc)
    (hfit : ∀ q ∈ ps1 ++ p :: ps2, q.length ≤ ml ∧ q.length < 4294967296) :
    dataResults (RSys.run c acts ⟨AReader.init ml (frames (ps1 ++ p :: ps2)) sc, none⟩).1
      <+: ps1.map (decodeRes c) ++ .error (.decode e) :: ps2.map (decodeRes c)
          ++ List.replicate acts.length (.ok none) := by
  have := async_reader_schedule_independent c ml (ps1 ++ p :: ps2) sc acts hok hfit
  simpa [decodeRes, hbad] using this

/-! ## state invariants: bounded buffer, offsets, the state after `InvalidLen` -/

/-- an invariant of the runs from a fresh reader (a superset of the reachable states): well-formed,
    or stuck after `InvalidLen`. -/
def Good (r : ARCore) : Prop := Wf r ∨ Stuck r

theorem poll_good (c : Codec α) (rd : AReader) (h : Good rd.core) :
    Good (rd.poll c).2.core ∧ (rd.poll c).2.core.maxLen = rd.core.maxLen := by
  rcases h with hw | hs
  · have := poll_inv c rd hw
    generalize rd.poll c = out at this ⊢
    obtain ⟨x, core', src'⟩ := out
    cases this with
    | stay x r' b' h1 h2 _ _ => exact ⟨.inl h1, h2⟩
    | frame p _ _ h2 _ => exact ⟨.inl (Wf.fresh p _ h2), rfl⟩
    | oversize len _ r' _ _ _ h4 h5 => exact ⟨.inr h4, h5⟩
  · unfold AReader.poll
    rw [settle_stuck c _ hs]
    exact ⟨.inr hs, rfl⟩

theorem run_good (c : Codec α) : ∀ (acts : List RAct) (s : RSys), Good s.rd.core →
    Good (RSys.run c acts s).2.rd.core ∧ (RSys.run c acts s).2.rd.core.maxLen = s.rd.core.maxLen := by
  intro acts
  induction acts with
  | nil => intro s h; exact ⟨h, rfl⟩
  | cons a as ih =>
    intro s h
    cases a with
    | drop => exact ih ⟨s.rd, none⟩ h
    | poll =>
      obtain ⟨g1, g2⟩ := poll_good c s.rd h
      obtain ⟨i1, i2⟩ := ih ⟨(s.rd.poll c).2, none⟩ g1
      rw [(run_poll c as s none).2]
      exact ⟨i1, i2.trans g2⟩

/-- The buffer never exceeds `max_len`, under every schedule and every source behaviour
    whatsoever (also ill-behaved ones), whatever the stream contains. -/
theorem async_alloc (c : Codec α) (ml : Nat) (bytes : Bytes) (sc : List Ev) (acts : List RAct) :
    (RSys.run c acts ⟨AReader.init ml bytes sc, none⟩).2.rd.core.buffer.length ≤ ml := by
  obtain ⟨g, m⟩ := run_good c acts ⟨AReader.init ml bytes sc, none⟩ (.inl (Wf.init ml))
  have hm : (RSys.run c acts ⟨AReader.init ml bytes sc, none⟩).2.rd.core.maxLen = ml := m
  rcases g with ⟨h, _⟩ | ⟨h, _⟩ <;> omega

/-- the prefix buffer is 4 bytes and its offset never exceeds 4; the payload offset never
    exceeds the buffer (the `as u8` cast and the slice indexing cannot go wrong).  This is also what
    allows `ARCore.settle` to test `4 ≤ o` where the source matches `ReadLen(buf, 4)` exactly (an offset
    above 4 would fall through to the arm that indexes `buf[o ..]`): no run reaches an offset that tells them apart. -/
theorem offset_le_four (c : Codec α) (ml : Nat) (bytes : Bytes) (sc : List Ev) (acts : List RAct) :
    match (RSys.run c acts ⟨AReader.init ml bytes sc, none⟩).2.rd.core.state with
    | .readLen buf o => buf.length = 4 ∧ o ≤ 4
    | .readVal o => o < (RSys.run c acts ⟨AReader.init ml bytes sc, none⟩).2.rd.core.buffer.length := by
  obtain ⟨g, _⟩ := run_good c acts ⟨AReader.init ml bytes sc, none⟩ (.inl (Wf.init ml))
  generalize (RSys.run c acts ⟨AReader.init ml bytes sc, none⟩).2.rd.core = r at g
  rcases g with ⟨_, h⟩ | ⟨_, len, hs, _, _⟩
  · split <;> simp_all <;> omega
  · rw [hs]; simp

/-- An oversized length is rejected before the buffer is touched: if the stream continues
    with a prefix that claims more than `max_len`, a poll either stays quiet (Pending /
    transient error) or returns `InvalidLen`, entering the `Stuck` state with the buffer still
    within `max_len` — and in that state every further poll returns `InvalidLen` again without
    consuming anything (the reader does not skip the frame). -/
theorem async_oversize_rejected (c : Codec α) (rd : AReader) (len : Nat) (rest : Bytes)
    (hw : Wf rd.core) (hS : pb rd.core ++ rd.src.bytes = be 4 len ++ rest)
    (hbig : len > rd.core.maxLen) (h32 : len < 4294967296) (hok : AOk rd.src.script) :
    ((Quiet (rd.poll c).1 ∧ Wf (rd.poll c).2.core ∧
        pb (rd.poll c).2.core ++ (rd.poll c).2.src.bytes = be 4 len ++ rest) ∨
      ((rd.poll c).1 = .ready (.error .invalidLen) ∧ Stuck (rd.poll c).2.core)) ∧
    (∀ rd' : AReader, Stuck rd'.core → rd'.poll c = (.ready (.error .invalidLen), rd')) := by
  constructor
  · have := poll_inv c rd hw
    rw [hS] at this
    generalize rd.poll c = out at this ⊢
    obtain ⟨x, core', src'⟩ := out
    cases this with
    | stay x r' b' h1 h2 h3 h4 =>
      rcases Quiet.or_iff.mpr h4 with hq | ⟨_, hb⟩
      · exact .inl ⟨hq, h1, h3⟩
      · rw [hb hok, List.append_nil] at h3
        exact absurd h3 ((pb_partial _ h1).not_oversize (by rw [h2]; exact hbig) h32)
    | frame p _ h1 h2 h3 =>
      rw [frame, List.append_assoc] at h1
      have := (be4_inj _ _ _ _ h32 h3 h1).1
      omega
    | oversize l _ r' _ _ _ h4 _ => exact .inr ⟨rfl, h4⟩
  · intro rd' hs
    unfold AReader.poll
    rw [settle_stuck c _ hs]

/-- non-vacuity: two frames, byte-wise delivery with Pendings and an error, drops after
    Pendings; `max_len` exactly the larger payload. -/
example :
    dataResults (RSys.run valCodec [.poll, .drop, .poll, .poll, .drop, .poll, .poll, .poll, .poll]
      ⟨AReader.init 3 (frames [Enc.u64 300, Enc.bytes [1, 2]])
        [.io 1, .pend, .io 2, .fail, .io 1, .io 1, .pend, .io 9, .io 9, .pend, .io 9, .io 9, .io 9], none⟩).1
      = [.ok (some (.u 300)), .ok (some (.b [1, 2])), .ok none] := by rfl

/-! ## `set_max_len` while a frame is in flight -/

def withMax (k : Nat) (r : ARCore) : ARCore := { r with maxLen := k }

theorem absorb_max (r : ARCore) (k : Nat) (bs : Bytes) : (withMax k r).absorb bs = withMax k (r.absorb bs) := by
  unfold ARCore.absorb withMax
  cases r.state <;> rfl

theorem req_max (r : ARCore) (k : Nat) : (withMax k r).req = r.req := by
  unfold ARCore.req withMax
  cases r.state <;> rfl

theorem eofRes_max (r : ARCore) (k : Nat) : (withMax k r).eofRes (α := α) = r.eofRes := by
  unfold ARCore.eofRes withMax
  cases r.state <;> rfl

theorem absorb_readVal (r : ARCore) (o : Nat) (bs : Bytes) (h : r.state = .readVal o) :
    (r.absorb bs).state = .readVal (o + bs.length) := by
  unfold ARCore.absorb; simp only [h]

/-- in `ReadVal` the arms that do not touch the stream do not look at `max_len`, and the state
    stays `ReadVal` while the `loop` waits. -/
theorem settle_readVal_max (c : Codec α) (r : ARCore) (o k : Nat) (h : r.state = .readVal o) :
    (∀ out r', r.settle c = .ret out r' → (withMax k r).settle c = .ret out (withMax k r')) ∧
    (∀ r', r.settle c = .want r' → (withMax k r).settle c = .want (withMax k r') ∧ r'.state = .readVal o) := by
  simp only [ARCore.settle, withMax, h]
  split <;> simp [h]

/-- a frame in flight is not affected by `set_max_len`: once the length prefix has been accepted (state `ReadVal`), the poll loop
    with any other limit transfers the same bytes, returns the same result and leaves the same reader (up to the limit itself). -/
theorem pollLoop_readVal_max (c : Codec α) (k : Nat) : ∀ (sc : List Ev) (r : ARCore) (o : Nat) (bytes : Bytes),
    r.state = .readVal o →
    pollLoop c (withMax k r) bytes sc =
      ((pollLoop c r bytes sc).1, withMax k (pollLoop c r bytes sc).2.1, (pollLoop c r bytes sc).2.2) := by
  intro sc r o bytes h
  fun_induction pollLoop c r bytes sc generalizing o
  case case1 | case2 | case3 | case4 => rfl
  case case5 => simp only [pollLoop, eofRes_max]
  case case6 hn => rw [pollLoop, req_max, if_pos hn, eofRes_max]
  case case7 hn _ _ hst =>
    rw [pollLoop, req_max, if_neg hn, absorb_max,
      (settle_readVal_max c _ _ k (absorb_readVal _ o _ h)).1 _ _ hst]
  case case8 hn _ hst ih =>
    obtain ⟨hs, h'⟩ := (settle_readVal_max c _ _ k (absorb_readVal _ o _ h)).2 _ hst
    rw [pollLoop, req_max, if_neg hn, absorb_max, hs]
    exact ih _ h'

/-- `set_max_len` between a dropped read and the next one does not tear the frame in flight: with the payload partly read, the next
    poll returns what it would have returned, and leaves the reader it would have left, whatever the new limit is. -/
theorem set_max_len_frame_in_flight (c : Codec α) (rd : AReader) (o k : Nat) (h : rd.core.state = .readVal o) :
    (rd.setMaxLen k).poll c = ((rd.poll c).1, (rd.poll c).2.setMaxLen k) := by
  obtain ⟨hr, hw⟩ := settle_readVal_max c rd.core o k h
  simp only [AReader.poll, AReader.setMaxLen]
  cases hs : rd.core.settle c with
  | ret out r' => rw [show ARCore.settle c { rd.core with maxLen := k } = _ from hr _ _ hs]; rfl
  | want r' =>
    rw [show ARCore.settle c { rd.core with maxLen := k } = _ from (hw _ hs).1]
    show (let (p, core', src') := pollLoop c (withMax k r') rd.src.bytes rd.src.script
      (p, (⟨core', src'⟩ : AReader))) = _
    rw [pollLoop_readVal_max c k _ _ o _ (hw _ hs).2]
    rfl

end Minicbor.C15
