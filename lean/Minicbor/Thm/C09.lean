/-
  C09 — Derived Encode/Decode round-trip for every type definition.
  Part 1 (round trip, error reporting, re-framed input) is Thm/C09Round.lean; this file adds the
  borrowing statement.
-/
import Minicbor.Thm.C09Round
import Minicbor.Lemmas.TotalAcc

namespace Minicbor.C09
open Minicbor.Derive Minicbor.Dec

/- In the model a decoded string / byte-string leaf *is* the slice `readSlice` cut out of the input:
the accessors used for `&str`, `&ByteSlice`, `&[u8]` and `#[b] Cow` hand back a contiguous
piece of the input ending where the remaining input starts.  Whether the Rust value then holds
that slice or a copy (`String`, `Vec<u8>`, owned `Cow`) is a distinction a pure model cannot
express; it is observed by pointer range in the correspondence run. -/

theorem slice_of_reads {bs r0 r1 r2 s rest : Bytes} {b : UInt8} {n n' : Nat} (h0 : Dec.read bs = .ok b r0)
    (h1 : Dec.unsigned (Dec.infoOf b) r0 = .ok n r1) (h2 : Dec.u64ToUsize n r1 = .ok n' r2)
    (h : Dec.readSlice n' r2 = .ok s rest) : ∃ pre, bs = pre ++ s ++ rest := by
  obtain ⟨pre, hp⟩ := (((Suffix.u64ToUsize _ r1).1 _ _ h2).trans ((Suffix.unsigned _ r0).1 _ _ h1)).trans
    ((Suffix.read bs).1 _ _ h0)
  exact ⟨pre, by rw [← hp, (Dec.readSlice_ok_inv h).2]; simp⟩

theorem bytes_slice (bs s rest : Bytes) (h : Dec.bytes bs = .ok s rest) : ∃ pre, bs = pre ++ s ++ rest := by
  unfold Dec.bytes at h
  obtain ⟨b, r0, h0, h⟩ := bind_ok_inv h
  split at h
  · exact absurd h (typeMismatch_not_ok _ _ _ _)
  · obtain ⟨n, r1, h1, h⟩ := bind_ok_inv h
    obtain ⟨n', r2, h2, h⟩ := bind_ok_inv h
    exact slice_of_reads h0 h1 h2 h

theorem str_slice (bs s rest : Bytes) (h : Dec.str bs = .ok s rest) : ∃ pre, bs = pre ++ s ++ rest := by
  unfold Dec.str at h
  obtain ⟨b, r0, h0, h⟩ := bind_ok_inv h
  split at h
  · exact absurd h (typeMismatch_not_ok _ _ _ _)
  · obtain ⟨n, r1, h1, h⟩ := bind_ok_inv h
    obtain ⟨n', r2, h2, h⟩ := bind_ok_inv h
    obtain ⟨d, r3, h3, h⟩ := bind_ok_inv h
    split at h
    · cases h
      exact slice_of_reads h0 h1 h2 h3
    · cases h

/-- a decoded string / byte-string leaf is a contiguous slice of the input that ends exactly
    where the remaining input begins. -/
theorem borrowed_leaf_is_input_slice (bs s rest : Bytes) (h : Dec.bytes bs = .ok s rest ∨ Dec.str bs = .ok s rest) :
    ∃ pre, bs = pre ++ s ++ rest := by
  rcases h with h | h
  · exact bytes_slice bs s rest h
  · exact str_slice bs s rest h

end Minicbor.C09
