/-
  C18 — the serde bridge and the native `Encode` / `Decode` traits interoperate on the shared
  data model.  `NType` (Serde.lean) is the shared universe: integers, bool, char, floats, strings,
  unit, `Option`, `Vec`, fixed arrays, tuples, `BTreeMap` and their compositions; `natEnc` /
  `natDec` transcribe minicbor/src/encode.rs / decode.rs for it.
-/
import Minicbor.Thm.C17

namespace Minicbor.C18
open Minicbor.Serde Minicbor.Dec Minicbor.C17

mutual
/-- `HasN v t`: `v` is (the trace of) a value of the shared Rust type `t`. -/
inductive HasN : SVal → NType → Type
  | bool (b : Bool) : HasN (.bool b) .bool
  | int (k : IntKind) (v : Int) : k.lo ≤ v → v ≤ k.hi → HasN (.int k v) (.int k)
  | f32 (b : Nat) : b < 4294967296 → HasN (.f32 b) .f32
  | f64 (b : Nat) : b < U64 → HasN (.f64 b) .f64
  | char (c : Nat) : isScalar c = true → HasN (.char c) .char
  | str (s : Bytes) : validUtf8 s = true → s.length < U64 → HasN (.str s) .str
  | unit : HasN .unit .unit
  | none (t : NType) : HasN .none (.option t)
  | some (v : SVal) (t : NType) : HasN v t → vok v = true → nullLike v = false → HasN (.some v) (.option t)
  | vec (xs : List SVal) (t : NType) : HasNEach xs t → xs.length < U64 → HasN (.seq true xs) (.vec t)
  | array (xs : List SVal) (t : NType) : HasNEach xs t → xs.length < U64 → HasN (.tuple xs) (.array xs.length t)
  | tuple (xs : List SVal) (ts : List NType) : HasNAll xs ts → xs.length < U64 → HasN (.tuple xs) (.tuple ts)
  | map (kvs : List SVal) (k v : NType) : HasNPairs kvs k v → kvs.length / 2 < U64 → KeysAsc kvs →
      HasN (.map true kvs) (.map k v)
inductive HasNEach : List SVal → NType → Type
  | nil (t : NType) : HasNEach [] t
  | cons (x : SVal) (xs : List SVal) (t : NType) : HasN x t → HasNEach xs t → HasNEach (x :: xs) t
inductive HasNAll : List SVal → List NType → Type
  | nil : HasNAll [] []
  | cons (x : SVal) (xs : List SVal) (t : NType) (ts : List NType) : HasN x t → HasNAll xs ts → HasNAll (x :: xs) (t :: ts)
inductive HasNPairs : List SVal → NType → NType → Type
  | nil (k v : NType) : HasNPairs [] k v
  | cons (a b : SVal) (rest : List SVal) (k v : NType) : HasN a k → HasN b v → HasNPairs rest k v →
      HasNPairs (a :: b :: rest) k v
end

theorem hasNAll_length : {xs : List SVal} → {ts : List NType} → HasNAll xs ts → xs.length = ts.length
  | _, _, .nil => rfl
  | _, _, .cons _ _ _ _ _ h => by simp [hasNAll_length h]

theorem append_congr {a b c d : Bytes} (h1 : a = b) (h2 : c = d) : a ++ c = b ++ d := h1 ▸ h2 ▸ rfl

mutual
/-- C18 (a).  For every value of every shared type the bridge and the native `Encode` impl
    write identical bytes. -/
theorem interop_bytes : {v : SVal} → {t : NType} → HasN v t → ser v = natEnc t v
  | _, _, .bool _ => rfl
  | _, _, .int _ _ _ _ => rfl
  | _, _, .f32 _ _ => rfl
  | _, _, .f64 _ _ => rfl
  | _, _, .char _ _ => rfl
  | _, _, .str _ _ _ => rfl
  | _, _, .unit => rfl
  | _, _, .none _ => rfl
  | _, _, .some v t h _ _ => @interop_bytes v t h
  | _, _, .vec xs t h _ => congrArg (Enc.array xs.length ++ ·) (interop_each h)
  | _, _, .array xs t h _ => congrArg (Enc.array xs.length ++ ·) (interop_each h)
  | _, _, .tuple xs ts h _ =>
    (congrArg (Enc.array xs.length ++ ·) (interop_all h)).trans (congrArg (Enc.array · ++ natEncAll ts xs) (hasNAll_length h))
  | _, _, .map kvs k v h _ _ => congrArg (Enc.map (kvs.length / 2) ++ ·) (interop_pairs h)
theorem interop_each : {xs : List SVal} → {t : NType} → HasNEach xs t → sers xs = natEncEach t xs
  | _, _, .nil _ => rfl
  | _, _, .cons x xs t h hs => append_congr (interop_bytes h) (interop_each hs)
theorem interop_all : {xs : List SVal} → {ts : List NType} → HasNAll xs ts → sers xs = natEncAll ts xs
  | _, _, .nil => rfl
  | _, _, .cons x xs t ts h hs => append_congr (interop_bytes h) (interop_all hs)
theorem interop_pairs : {kvs : List SVal} → {k v : NType} → HasNPairs kvs k v → sers kvs = natEncPairs k v kvs
  | _, _, _, .nil _ _ => rfl
  | _, _, _, .cons a b rest k v ha hb hs =>
    append_congr (interop_bytes ha) (append_congr (interop_bytes hb) (interop_pairs hs))
end

mutual
/-- no `[T; N]` inside `t`: there alone the two decoders are different functions (see `natDec_eq_de`). -/
def noArray : NType → Bool
  | .option t => noArray t
  | .vec t => noArray t
  | .array _ _ => false
  | .tuple ts => noArrays ts
  | .map k v => noArray k && noArray v
  | _ => true
def noArrays : List NType → Bool
  | [] => true
  | t :: ts => noArray t && noArrays ts
end

mutual
/-- C18 (b).  On every shared type without a fixed-size array the native `Decode` impl and
    the bridge are the same function of the input bytes (same values, same errors, same
    positions, on arbitrary bytes): both are the same composition of the same `Decoder` calls.
    (`[T; N]` is the one type where they differ: `Decode` uses `array_iter`, serde
    `deserialize_tuple`; see `interop_decode_agree`.) -/
theorem natDec_eq_de : (t : NType) → noArray t = true → natDec t = de t.toS
  | .bool, _ => rfl
  | .int _, _ => rfl
  | .f32, _ => rfl
  | .f64, _ => rfl
  | .char, _ => rfl
  | .str, _ => rfl
  | .unit, _ => rfl
  | .option t, h => by
    simp only [noArray] at h
    simp only [natDec, de, NType.toS, natDec_eq_de t h]
  | .vec t, h => by
    simp only [noArray] at h
    simp only [natDec, de, NType.toS, natDec_eq_de t h]
  | .array _ _, h => by simp [noArray] at h
  | .tuple ts, h => by
    simp only [noArray] at h
    simp only [natDec, de, NType.toS, natDecAll_eq ts h, toSs_length]
  | .map k v, h => by
    simp only [noArray, Bool.and_eq_true] at h
    simp only [natDec, de, NType.toS, natDec_eq_de k h.1, natDec_eq_de v h.2]
theorem natDecAll_eq : (ts : List NType) → noArrays ts = true → natDecAll ts = deAll (NType.toSs ts)
  | [], _ => rfl
  | t :: ts, h => by
    simp only [noArrays, Bool.and_eq_true] at h
    simp only [natDecAll, deAll, NType.toSs, natDec_eq_de t h.1, natDecAll_eq ts h.2]
theorem toSs_length : (ts : List NType) → (NType.toSs ts).length = ts.length
  | [] => rfl
  | _ :: ts => by simp [NType.toSs, toSs_length ts]
end


/-! ### two decoders never disagree -/

def Agree (m1 m2 : Dec α) : Prop :=
  ∀ bs a r a' r', m1 bs = .ok a r → m2 bs = .ok a' r' → a = a' ∧ r = r'

/-- A relation between the results of two decoders that holds of equal results and is kept by
    sequencing; `Pointwise P` holds of two decoders related on every input.  The congruences for the access
    loops need no more.  Two instances: "both ok ⇒ equal" (`AgreeR`) and "ok ⇒ the same ok" (`RefinesR`). -/
structure BindClosed (P : ∀ {α : Type}, Res α → Res α → Prop) : Prop where
  refl : ∀ {α : Type} (r : Res α), P r r
  bind : ∀ {α β : Type} (m1 m2 : Dec α) (f1 f2 : α → Dec β) (bs : Bytes), P (m1 bs) (m2 bs) →
    (∀ a bs', P (f1 a bs') (f2 a bs')) → P ((m1 >>= f1) bs) ((m2 >>= f2) bs)

def Pointwise (P : ∀ {α : Type}, Res α → Res α → Prop) (m1 m2 : Dec α) : Prop := ∀ bs, P (m1 bs) (m2 bs)

section
variable {P : ∀ {α : Type}, Res α → Res α → Prop} (S : BindClosed @P)
include S

theorem BindClosed.rfl (m : Dec α) : Pointwise @P m m := fun _ => S.refl _

theorem BindClosed.seq {m1 m2 : Dec α} {f1 f2 : α → Dec β} (hm : Pointwise @P m1 m2) (hf : ∀ a, Pointwise @P (f1 a) (f2 a)) :
    Pointwise @P (m1 >>= f1) (m2 >>= f2) := fun bs => S.bind m1 m2 f1 f2 bs (hm bs) hf

theorem BindClosed.repeatN {m1 m2 : Dec α} (hm : Pointwise @P m1 m2) : ∀ n, Pointwise @P (repeatN m1 n) (repeatN m2 n)
  | 0 => S.rfl _
  | n + 1 => S.seq hm fun _ => S.seq (BindClosed.repeatN hm n) fun _ => S.rfl _

theorem BindClosed.untilBreak {m1 m2 : Dec α} (hm : Pointwise @P m1 m2) : ∀ fuel, Pointwise @P (untilBreak m1 fuel) (untilBreak m2 fuel)
  | 0 => S.rfl _
  | fuel + 1 => by
    simp only [Serde.untilBreak]
    refine S.seq (S.rfl _) fun b => ?_
    split
    · exact S.rfl _
    · exact S.seq hm fun _ => S.seq (BindClosed.untilBreak hm fuel) fun _ => S.rfl _

theorem BindClosed.seqAccess {m1 m2 : Dec α} (hm : Pointwise @P m1 m2) : ∀ len, Pointwise @P (seqAccess m1 len) (seqAccess m2 len)
  | some n => S.repeatN hm n
  | none => fun bs => S.untilBreak hm (bs.length + 1) bs

theorem BindClosed.mapAccess {k1 k2 v1 v2 : Dec α} (hk : Pointwise @P k1 k2) (hv : Pointwise @P v1 v2) (len : Option Nat) :
    Pointwise @P (mapAccess k1 v1 len) (mapAccess k2 v2 len) :=
  S.seq (S.seqAccess (S.seq hk fun _ => S.seq hv fun _ => S.rfl _) len) fun _ => S.rfl _

end

def AgreeR {α : Type} (r1 r2 : Res α) : Prop := ∀ a r a' r', r1 = .ok a r → r2 = .ok a' r' → a = a' ∧ r = r'

theorem agree_closed : BindClosed @AgreeR where
  refl r := by
    intro a r a' r' h1 h2
    rw [h1] at h2; cases h2; exact ⟨rfl, rfl⟩
  bind m1 m2 f1 f2 bs hm hf := by
    intro b r b' r' h1 h2
    obtain ⟨a, r0, ha, hb⟩ := bind_ok_inv h1
    obtain ⟨a', r0', ha', hb'⟩ := bind_ok_inv h2
    obtain ⟨rfl, rfl⟩ := hm a r0 a' r0' ha ha'
    exact hf a r0 b r b' r' hb hb'

theorem Agree.repeatN {m1 m2 : Dec α} (hm : Agree m1 m2) : ∀ n, Agree (repeatN m1 n) (repeatN m2 n) :=
  agree_closed.repeatN hm

theorem Agree.untilBreak {m1 m2 : Dec α} (hm : Agree m1 m2) : ∀ fuel, Agree (untilBreak m1 fuel) (untilBreak m2 fuel) :=
  agree_closed.untilBreak hm

def RefinesR {α : Type} (r1 r2 : Res α) : Prop := ∀ a r, r1 = .ok a r → r2 = .ok a r

abbrev Refines (m1 m2 : Dec α) : Prop := Pointwise @RefinesR m1 m2

theorem refines_closed : BindClosed @RefinesR where
  refl r := fun _ _ h => h
  bind m1 m2 f1 f2 bs hm hf := by
    intro b r h1
    obtain ⟨a, r0, ha, hb⟩ := bind_ok_inv h1
    rw [Dec.bind_ok _ _ _ _ _ (hm a r0 ha)]
    exact hf a r0 b r hb

theorem Refines.agree {m1 m2 : Dec α} (h : Refines m1 m2) : Agree m2 m1 := by
  intro bs a r a' r' h2 h1
  rw [h bs a' r' h1] at h2; cases h2; exact ⟨rfl, rfl⟩

theorem deAll_replicate (T : SType) : ∀ n, deAll (List.replicate n T) = repeatN (de T) n
  | 0 => rfl
  | n + 1 => by simp only [List.replicate, deAll, Serde.repeatN, deAll_replicate T n]

/-- while there is room the `ArrayVec` loop is the plain element loop. -/
theorem arrLoopN_spec (m : Dec α) (cap : Nat) : ∀ (k : Nat) (acc : List α) (bs : Bytes), acc.length + k ≤ cap →
    arrLoopN m cap k acc bs = (match repeatN m k bs with
      | .ok ys r => .ok (acc ++ ys) r
      | .err e r => .err e r
      | .panic => .panic)
  | 0, acc, bs, _ => by simp [arrLoopN, Serde.repeatN]
  | k + 1, acc, bs, h => by
    simp only [arrLoopN, Serde.repeatN, Dec.bind_run]
    cases hm : m bs with
    | ok x r0 =>
      have hc : ¬ cap ≤ acc.length := by omega
      simp only [hc, if_false]
      rw [arrLoopN_spec m cap k (acc ++ [x]) r0 (by simp; omega)]
      cases repeatN m k r0 <;> simp
    | err e r0 => rfl
    | panic => rfl

theorem arrLoopN_full (m : Dec α) (n : Nat) : arrLoopN m n n [] = repeatN m n := by
  funext bs
  rw [arrLoopN_spec m n n [] bs (by simp)]
  cases repeatN m n bs <;> rfl

theorem repeatN_length {m : Dec α} : ∀ (n : Nat) (bs : Bytes) (xs : List α) (r : Bytes), repeatN m n bs = .ok xs r → xs.length = n
  | 0, _, _, _, h => by cases h; rfl
  | n + 1, bs, xs, r, h => by
    obtain ⟨x, r0, _, h1⟩ := bind_ok_inv h
    obtain ⟨ys, r1, h2, h3⟩ := bind_ok_inv h1
    cases h3
    simp [repeatN_length n r0 ys _ h2]

theorem tupleHeader_inv (n : Nat) (bs r : Bytes) (h : tupleHeader n bs = .ok () r) : Dec.array bs = .ok (some n) r := by
  unfold tupleHeader at h
  obtain ⟨len, r0, ha, hb⟩ := bind_ok_inv h
  by_cases hl : len = some n
  · subst hl; simp at hb; cases hb; exact ha
  · have : (len == some n) = false := by simpa using hl
    simp [this] at hb

/-- `[T; N]`: what `deserialize_tuple(N)` accepts (a definite array of exactly `N` elements),
    `array_iter` into an `ArrayVec<T, N>` accepts too. -/
theorem refines_array (m1 m2 : Dec SVal) (hm : Refines m1 m2) (n : Nat) :
    Refines (do tupleHeader n; let xs ← repeatN m1 n; pure (SVal.tuple xs))
            (do let xs ← natArray m2 n; pure (SVal.tuple xs)) := by
  intro bs a r h
  obtain ⟨u, r0, hh, h'⟩ := bind_ok_inv h
  obtain ⟨xs, r1, hx, hp⟩ := bind_ok_inv h'
  have hx2 := refines_closed.repeatN hm n r0 xs r1 hx
  have hl := repeatN_length n r0 xs r1 hx
  have : natArray m2 n bs = .ok xs r1 := by
    unfold natArray
    rw [Dec.bind_ok _ _ _ _ _ (tupleHeader_inv n bs r0 hh)]
    simp only [arrLoopN_full]
    rw [Dec.bind_ok _ _ _ _ _ hx2]
    simp [hl]
  rw [Dec.bind_ok _ _ _ _ _ this]
  exact hp

mutual
/-- On arbitrary bytes, whatever the bridge accepts for a shared type the native decoder accepts,
    with the same value and at the same position (the converse fails for `[T; N]`:
    `array_reframing_example`). -/
theorem de_refines_natDec : (t : NType) → Refines (de t.toS) (natDec t)
  | .bool | .int _ | .f32 | .f64 | .char | .str | .unit => refines_closed.rfl _
  | .option t => by
    simp only [natDec, de, NType.toS]
    refine refines_closed.seq (refines_closed.rfl _) fun ty => ?_
    split
    · exact refines_closed.rfl _
    · exact refines_closed.seq (de_refines_natDec t) fun _ => refines_closed.rfl _
  | .vec t => by
    simp only [natDec, de, NType.toS]
    exact refines_closed.seq (refines_closed.rfl _) fun len => refines_closed.seq (refines_closed.seqAccess (de_refines_natDec t) len) fun _ => refines_closed.rfl _
  | .array n t => by
    simp only [natDec, de, NType.toS, List.length_replicate, deAll_replicate]
    exact refines_array _ _ (de_refines_natDec t) n
  | .tuple ts => by
    simp only [natDec, de, NType.toS, toSs_length]
    exact refines_closed.seq (refines_closed.rfl _) fun _ => refines_closed.seq (de_refines_natDec_all ts) fun _ => refines_closed.rfl _
  | .map k v => by
    simp only [natDec, de, NType.toS]
    exact refines_closed.seq (refines_closed.rfl _) fun len =>
      refines_closed.seq (refines_closed.mapAccess (de_refines_natDec k) (de_refines_natDec v) len) fun _ => refines_closed.rfl _
theorem de_refines_natDec_all : (ts : List NType) → Refines (deAll (NType.toSs ts)) (natDecAll ts)
  | [] => refines_closed.rfl _
  | t :: ts => by
    simp only [natDecAll, deAll, NType.toSs]
    exact refines_closed.seq (de_refines_natDec t) fun _ => refines_closed.seq (de_refines_natDec_all ts) fun _ => refines_closed.rfl _
end

/-- C18 (c).  On arbitrary bytes — any framing of any item, well-formed or not — the native
    decoder and the bridge never disagree on a shared type: whenever both return a value it is
    the same value and both stop at the same position (so each side returns that value or an
    error).  Includes fixed-size arrays, where the two sides accept different framings. -/
theorem interop_decode_agree : (t : NType) → Agree (natDec t) (de t.toS) := fun t => (de_refines_natDec t).agree

theorem interop_decode_agree_all : (ts : List NType) → Agree (natDecAll ts) (deAll (NType.toSs ts)) :=
  fun ts => (de_refines_natDec_all ts).agree

/-- the "or an error" is real: an indefinite-length array is accepted for `[u8; 2]` by the native
    decoder (`array_iter`) and rejected by the bridge (`deserialize_tuple` demands a definite
    length) — never read as a different value. -/
theorem array_reframing_example :
    natDec (.array 2 (.int .u8)) [0x9f, 0x01, 0x02, 0xff] = .ok (.tuple [.int .u8 1, .int .u8 2]) [] ∧
    de (NType.array 2 (.int .u8)).toS [0x9f, 0x01, 0x02, 0xff] = .err .message [0x01, 0x02, 0xff] := by
  constructor <;> rfl


/-! ## the canonical bytes decode on both sides -/

mutual
def toHasT : {v : SVal} → {t : NType} → HasN v t → HasT v t.toS
  | _, _, .bool b => .bool b
  | _, _, .int k v h1 h2 => .int k v h1 h2
  | _, _, .f32 b h => .f32 b h
  | _, _, .f64 b h => .f64 b h
  | _, _, .char c h => .char c h
  | _, _, .str s h1 h2 => .str s h1 h2
  | _, _, .unit => .unit
  | _, _, .none t => .none t.toS
  | _, _, .some v t h hok hn => .some v t.toS (toHasT h) hok hn
  | _, _, .vec xs t h hl => .seq true xs t.toS (toHasEach h) hl (hasEach_ok (toHasEach h))
  | _, _, .array xs t h hl => .tuple xs (List.replicate xs.length t.toS) (toHasAllRep h) hl
  | _, _, .tuple xs ts h hl => .tuple xs (NType.toSs ts) (toHasAll h) hl
  | _, _, .map kvs k v h hl hasc => .map true kvs k.toS v.toS (toHasPairs h) hl (hasPairs_ok (toHasPairs h)) hasc
def toHasEach : {xs : List SVal} → {t : NType} → HasNEach xs t → HasEach xs t.toS
  | _, _, .nil t => .nil t.toS
  | _, _, .cons x xs t h hs => .cons x xs t.toS (toHasT h) (toHasEach hs)
def toHasAllRep : {xs : List SVal} → {t : NType} → HasNEach xs t → HasAll xs (List.replicate xs.length t.toS)
  | _, _, .nil _ => .nil
  | _, _, .cons x xs t h hs => .cons x xs t.toS (List.replicate xs.length t.toS) (toHasT h) (toHasAllRep hs)
def toHasAll : {xs : List SVal} → {ts : List NType} → HasNAll xs ts → HasAll xs (NType.toSs ts)
  | _, _, .nil => .nil
  | _, _, .cons x xs t ts h hs => .cons x xs t.toS (NType.toSs ts) (toHasT h) (toHasAll hs)
def toHasPairs : {kvs : List SVal} → {k v : NType} → HasNPairs kvs k v → HasPairs kvs k.toS v.toS
  | _, _, _, .nil k v => .nil k.toS v.toS
  | _, _, _, .cons a b rest k v ha hb hs => .cons a b rest k.toS v.toS (toHasT ha) (toHasT hb) (toHasPairs hs)
end

theorem hasN_ok : {v : SVal} → {t : NType} → HasN v t → vok v = true := fun h => hasT_ok (toHasT h)
theorem hasNAll_ok : {xs : List SVal} → {ts : List NType} → HasNAll xs ts → oks xs = true := fun h => hasAll_ok (toHasAll h)

/-- the native decoder reads back what the native encoder (equivalently, the bridge) wrote. -/
theorem native_roundtrip {v : SVal} {t : NType} (h : HasN v t) (rest : Bytes) : natDec t (ser v ++ rest) = .ok v rest :=
  de_refines_natDec t _ _ _ (roundtrip_plain (toHasT h) rest)

theorem native_each : {xs : List SVal} → {t : NType} → HasNEach xs t → EachRt (natDec t) xs :=
  fun {_ t} h x hx rest => de_refines_natDec t _ _ _ (roundtrip_each (toHasEach h) x hx rest)

theorem native_all : {xs : List SVal} → {ts : List NType} → HasNAll xs ts → AllRtD (ts.map natDec) xs
  | _, _, .nil => trivial
  | _, _, .cons x xs t ts h hs => ⟨native_roundtrip h, native_all hs⟩

theorem native_pairs : {kvs : List SVal} → {k v : NType} → HasNPairs kvs k v → PairsRt (natDec k) (natDec v) kvs
  | _, _, _, .nil k v => trivial
  | _, _, _, .cons a b rest k v ha hb hs => ⟨native_roundtrip ha, native_roundtrip hb, native_pairs hs⟩

/-- C18 (d).  The bytes either side writes for a value of a shared type (they are the same
    bytes, `interop_bytes`) decode on both sides to that value, each stopping exactly after
    the item: bytes produced by one codec are read by the other. -/
theorem interop_decode_canonical {v : SVal} {t : NType} (h : HasN v t) (rest : Bytes) :
    natDec t (natEnc t v ++ rest) = .ok v rest ∧ de t.toS (natEnc t v ++ rest) = .ok v rest ∧
    natDec t (ser v ++ rest) = .ok v rest ∧ de t.toS (ser v ++ rest) = .ok v rest := by
  rw [← interop_bytes h]
  exact ⟨native_roundtrip h rest, roundtrip_plain (toHasT h) rest, native_roundtrip h rest, roundtrip_plain (toHasT h) rest⟩

/-- non-vacuity: `(Option<u16>, [i8; 2], BTreeMap<char, Vec<bool>>)`. -/
def exampleN : NType := .tuple [.option (.int .u16), .array 2 (.int .i8), .map .char (.vec .bool)]
def exampleNV : SVal :=
  .tuple [.some (.int .u16 65535), .tuple [.int .i8 (-128), .int .i8 127],
    .map true [.char 97, .seq true [.bool true], .char 8364, .seq true []]]
def exampleHasN : HasN exampleNV exampleN :=
  .tuple _ _
    (.cons _ _ _ _ (.some _ _ (.int .u16 65535 (by decide) (by decide)) rfl rfl)
      (.cons _ _ _ _ (.array [.int .i8 (-128), .int .i8 127] (.int .i8)
          (.cons _ _ _ (.int .i8 (-128) (by decide) (by decide)) (.cons _ _ _ (.int .i8 127 (by decide) (by decide)) (.nil _)))
          (by decide))
        (.cons _ _ _ _ (.map _ .char (.vec .bool)
            (.cons _ _ _ _ _ (.char 97 (by decide)) (.vec _ _ (.cons _ _ _ (.bool true) (.nil _)) (by decide))
              (.cons _ _ _ _ _ (.char 8364 (by decide)) (.vec _ _ (.nil _) (by decide)) (.nil _ _)))
            (by decide) (by simp [KeysAsc, keysOf, keyLt]))
          .nil)))
    (by decide)

example : ser exampleNV = natEnc exampleN exampleNV := interop_bytes exampleHasN

end Minicbor.C18
