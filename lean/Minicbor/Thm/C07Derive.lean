/-
  C07 (derived part) — `CborLen` derived for structs and enums against the derived `Encode`.
  One induction over an accepted schema and a value of it (`typed_ind`, Lemmas/DeriveBase.lean).
  At a struct / variant body the generated counters are followed against the bytes of the generated
  statements on the index-sorted pieces (`lenArray_sorted`, `lenMap_sorted`, Lemmas/DeriveLen.lean);
  at the heads the width tables of `CborLen` follow the arms of the `Encoder` methods (`int_length`,
  `typeLen_length`, Lemmas/HeadLen.lean).

  `lenTy` transcribes minicbor-derive/src/cbor_len.rs *as it is*.  Its three defects were
  repaired in /repo (K2: map header sized from the declared field count, d85a3d2; KD1: indices
  sized as `i32`, 36d21e9; K3: array encoding, a nil field below the highest present index was
  counted as one byte whatever its tag and nil encoding, 0196d88) and the model follows the
  repaired code; the inputs that exhibited K2 / KD1 / K3 are stated as positive instances.
-/
import Minicbor.Lemmas.DeriveLen
import Minicbor.Thm.C08
import Minicbor.Lemmas.Head

namespace Minicbor.C07Derive
open Minicbor.Derive

def len_exact_derived_statement : Prop :=
  ∀ (t : FTy) (v : Derive.Val), accepted t = true → hasTy t v = true → deriveLen t v = (deriveEncode t v).length

theorem countPresent_perm {β : Type} {l₁ l₂ : List (Piece β)} (h : l₁.Perm l₂) : countPresent l₁ = countPresent l₂ := by
  induction h with
  | nil => rfl
  | cons x _ ih => simp [countPresent, ih]
  | swap x y l => simp [countPresent]; omega
  | trans _ _ ih₁ ih₂ => rw [ih₁, ih₂]

theorem lenFrame_exact (enc : Encoding) (fs : Fields) (vs : List Derive.Val) (hacc : acceptedFields fs = true)
    (hnd : (liveIdxs fs).Nodup) (hty : hasFields fs vs = true) :
    lenFrame enc ((encFields fs vs).map toLen) = (frame enc (encFields fs vs)).length := by
  cases enc with
  | array =>
    have nd := C08.encFields_nodup (hasFields_length hty) hnd
    simp only [lenFrame, frame, sortP_toLen]
    -- every body is the encoding of an item (C08), hence not empty
    exact lenArray_sorted _ (sortP_asc _ nd) fun p hp _ => by
      rw [C08.fields_spec fs vs hacc hty] at hp
      obtain ⟨q, _, rfl⟩ := List.mem_map.1 ((sortP_perm _).mem_iff.1 hp)
      exact encW_length_pos _
  | map =>
    simp only [lenFrame, frame, sortP_toLen]
    exact lenMap_sorted _

theorem len_exact_cases : TypedCases (fun t v => lenTy t v = (encTy t v).length)
    (fun fs vs => lenFields fs vs = (encFields fs vs).map toLen)
    (fun e vars k vs => lenVars e vars k vs = (encVars e vars k vs).length) where
  int k i _ := (int_length k i).symm
  bool b := by cases b <;> rfl
  text _ b _ _ := by
    show _ = (Enc.typeLen _ _ ++ b).length
    rw [List.length_append, typeLen_length]; rfl
  blob _ b _ := by
    show _ = (Enc.typeLen _ _ ++ b).length
    rw [List.length_append, typeLen_length]; rfl
  none _ := rfl
  some _ _ _ _ ih := ih
  vec t vs _ _ ih := by
    rw [lenTy_vec, encTy_vec, List.length_append, array_length, listSum_map_length, List.map_map,
      List.map_congr_left fun x hx => (ih x hx).2]
    rfl
  struct a fs vs htr _ hacc hnd hty ih := by
    rw [lenTy_struct, encTy_struct, htr, if_neg Bool.false_ne_true, if_neg Bool.false_ne_true, ih,
      List.length_append, tagBytes_length, lenFrame_exact _ fs vs hacc hnd hty]
  transparent a fa ft w htr hs ih := by
    rw [lenTy_struct, encTy_struct, htr, ih, encFields_cons, hs]
    rfl
  enum a vars k vs _ _ _ _ ih := by rw [lenTy_enum, encTy_enum, ih, List.length_append, tagBytes_length]
  nil := rfl
  cons a t v fs vs _ _ ihv ih := by
    have hw : lenWith a.codec (lenTy t) v = (encWith a.codec (encTy t) v).length := by
      unfold lenWith encWith
      cases a.codec
      case nilu =>
        cases v
        case int i => exact (length_ite (m := 1) rfl (u32_length _)).symm
        all_goals rfl
      all_goals exact ihv
    rw [lenFields_cons, encFields_cons, ih, hw]
    cases a.skip <;> rfl
  here e va fs rest vs _ _ hacc hnd _ hty ih := by
    have hframe := lenFrame_exact (va.enc.getD (e.enc.getD .array)) fs vs hacc hnd hty
    rw [lenVars_zero, encVars_zero]
    cases va.shape
    · cases e.indexOnly
      · simp only [Bool.false_eq_true, if_false, List.length_append, u32_length, tagBytes_length, idxLen]
        cases (va.enc.getD (e.enc.getD .array)) <;> rfl
      · exact (u32_length _).symm
    all_goals
      simp only [List.length_append, u32_length, tagBytes_length, idxLen, ih, hframe]
      rfl
  there _ _ _ _ _ ih := ih

theorem len_exact : ∀ (t : FTy) (v : Derive.Val), accepted t = true → hasTy t v = true →
    lenTy t v = (encTy t v).length :=
  fun t v ha => typed_ind_ty len_exact_cases t v (accField_of_accepted ha)

theorem fields_len : ∀ (fs : Fields) (vs : List Derive.Val), acceptedFields fs = true → hasFields fs vs = true →
    lenFields fs vs = (encFields fs vs).map toLen :=
  typed_ind_fields len_exact_cases

theorem vars_len (e : EAttr) : ∀ (vars : Variants) (k : Nat) (vs : List Derive.Val),
    acceptedVars e vars = true → hasVars vars k vs = true →
    lenVars e vars k vs = (encVars e vars k vs).length :=
  typed_ind_vars len_exact_cases e

/-- C07 for derived types: the derived length is exactly the number of bytes the derived encoder
    writes, for every accepted schema (any number of fields, any index and tag sizes, both encodings
    at every level, `index_only`, transparent, skip, custom codecs, tagged optional fields present
    or absent at any position, nesting) and every well-typed value. -/
theorem len_exact_derived (t : FTy) (v : Derive.Val) (ha : accepted t = true) (hv : hasTy t v = true) :
    deriveLen t v = (deriveEncode t v).length := len_exact t v ha hv

theorem len_exact_derived_statement_holds : len_exact_derived_statement := len_exact_derived

theorem lenArray_exact (S : List (Piece Bytes)) (hasc : Asc S) (hok : ∀ p ∈ S, p.idx < U32 ∧ tagOk p.tag = true)
    (hnb : ∀ p ∈ S, p.nil = true → 1 ≤ p.body.length) :
    lenArray (S.map toLen) = (frameArray S).length := lenArray_sorted S hasc hnb

theorem lenMap_exact (S : List (Piece Bytes)) (hlen : S.length < U64) (hok : ∀ p ∈ S, tagOk p.tag = true) :
    lenMap (S.map toLen) = (frameMap S).length := lenMap_sorted S

/-! ### the inputs of the repaired defects -/

theorem len_witness {t : FTy} {v : Derive.Val} {bs : Bytes} (ha : accepted t = true) (hv : hasTy t v = true)
    (he : deriveEncode t v = bs) :
    accepted t = true ∧ hasTy t v = true ∧ deriveEncode t v = bs ∧ deriveLen t v = bs.length :=
  ⟨ha, hv, he, he ▸ len_exact_derived t v ha hv⟩

/-- 24 optional fields `#[n(0)] … #[n(23)]`, map encoding. -/
def k2Fields : Nat → Fields
  | 0 => []
  | n + 1 => k2Fields n ++ [({ idx := n }, .option (.int .u8))]

def k2Type : FTy := .struct { enc := some .map } (k2Fields 24)
def k2Val : Derive.Val := .struct (List.replicate 24 .none)

/-- the K2 witness (24 declared fields, none present: `a0`), exact since d85a3d2. -/
theorem len_derived_K2_repaired :
    accepted k2Type = true ∧ hasTy k2Type k2Val = true ∧ deriveEncode k2Type k2Val = [0xa0] ∧ deriveLen k2Type k2Val = 1 :=
  len_witness (by rfl) (by rfl) (by rfl)

def k3Type : FTy := .struct {} [({ idx := 0, tag := some 5 }, .option (.int .u8)), ({ idx := 1 }, .int .u8)]

/-- the K3 witness: `struct{#[n(0)] #[cbor(tag(5))] a: Option<u8>, #[n(1)] b: u8}`,
    `{a: None, b: 1}`: the encoder writes `82 c5 f6 01` (4 bytes); `len` said 3, exact since 0196d88. -/
theorem len_derived_K3_repaired :
    accepted k3Type = true ∧ hasTy k3Type (.struct [.none, .int 1]) = true ∧
      deriveEncode k3Type (.struct [.none, .int 1]) = [0x82, 0xc5, 0xf6, 0x01] ∧ deriveLen k3Type (.struct [.none, .int 1]) = 4 :=
  len_witness (by rfl) (by rfl) (by rfl)

/-- a second K3-shaped witness: two tagged nil fields and a nil-codec field below the last present
    one, then a nil field beyond it (not written, not counted). -/
def k3Type2 : FTy := .struct {}
  [({ idx := 0, tag := some 5 }, .option (.int .u8)), ({ idx := 2, tag := some 1000 }, .option (.int .u8)),
   ({ idx := 3, codec := .nilu }, .int .u32), ({ idx := 5 }, .int .u8), ({ idx := 7, tag := some 9 }, .option (.int .u8))]

theorem len_derived_K3_repaired2 :
    accepted k3Type2 = true ∧ hasTy k3Type2 (.struct [.none, .none, .int 0, .int 1, .none]) = true ∧
      deriveLen k3Type2 (.struct [.none, .none, .int 0, .int 1, .none])
        = (deriveEncode k3Type2 (.struct [.none, .none, .int 0, .int 1, .none])).length ∧
      (deriveEncode k3Type2 (.struct [.none, .none, .int 0, .int 1, .none])).length = 11 :=
  have ha : accepted k3Type2 = true := by rfl
  have hv : hasTy k3Type2 (.struct [.none, .none, .int 0, .int 1, .none]) = true := by rfl
  ⟨ha, hv, len_exact_derived _ _ ha hv, by rfl⟩

def kd1Type : FTy := .struct { enc := some .map } [({ idx := 4294967295 }, .int .u8)]

/-- the KD1 witness (`#[cbor(map)] struct{#[n(4294967295)] a: u8}`, 7 bytes), exact since 36d21e9. -/
theorem len_derived_KD1_repaired :
    accepted kd1Type = true ∧ hasTy kd1Type (.struct [.int 1]) = true ∧
      deriveEncode kd1Type (.struct [.int 1]) = [0xa1, 0x1a, 0xff, 0xff, 0xff, 0xff, 0x01] ∧ deriveLen kd1Type (.struct [.int 1]) = 7 :=
  len_witness (by rfl) (by rfl) (by rfl)

end Minicbor.C07Derive
