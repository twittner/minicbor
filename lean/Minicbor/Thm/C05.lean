/-
  C05 — Integer decoding is value-preserving across widths; it never wraps or truncates.
-/
import Minicbor.Lemmas.Accessors
import Minicbor.IntConv

namespace Minicbor.C05
open Dec

/-- the mathematical value of a CBOR integer head: major type 0 → `n`, major type 1 → `-1 - n`. -/
def intVal (neg : Bool) (n : Nat) : Int := if neg then -1 - (n : Int) else n

def intHead (neg : Bool) (w : Width) (n : Nat) : Bytes := headW (if neg then 1 else 0) w n

@[reducible] def Representable (t : IntTy) (v : Int) : Prop := t.lo ≤ v ∧ v ≤ t.hi

theorem representable_iff (t : IntTy) (neg : Bool) (n : Nat) :
    Representable t (intVal neg n) ↔ ((neg = true → t.neg = true) ∧ n ≤ t.max) := by
  unfold Representable intVal IntTy.lo IntTy.hi
  cases neg <;> cases hn : t.neg <;> simp <;> omega

/-- On a head whose sign the accessor admits, `intAcc` is the range check `try_as` and nothing else. -/
theorem intAcc_head (t : IntTy) (w : Width) (neg : Bool) (n : Nat) (rest : Bytes)
    (hfit : w.fits n = true) (hneg : neg = true → t.neg = true) :
    intAcc t (intHead neg w n ++ rest) = (do let v ← tryAs n t.max; pure (intVal neg v)) rest := by
  have hai := Width.ai_le w n hfit
  cases neg
  · have h1 : w.ai n % 256 ≤ 27 := by omega
    simp [intAcc, intHead, headW, intVal, Dec.bind_run, h1, Dec.unsigned_head w n rest hfit]
  · have hn : t.neg = true := hneg rfl
    have h1 : ¬ (32 + w.ai n) % 256 ≤ 27 := by omega
    have h2 : 32 ≤ (32 + w.ai n) % 256 := by omega
    have h3 : (32 + w.ai n) % 256 ≤ 59 := by omega
    have h4 : (32 + w.ai n) % 256 - 32 = w.ai n := by omega
    simp [intAcc, intHead, headW, intVal, Dec.bind_run, h1, h2, h3, h4, hn,
      Dec.unsigned_head w n rest hfit]

theorem int_accessor_ok (t : IntTy) (w : Width) (neg : Bool) (n : Nat) (rest : Bytes)
    (hfit : w.fits n = true) (hneg : neg = true → t.neg = true) (hmax : n ≤ t.max) :
    intAcc t (intHead neg w n ++ rest) = .ok (intVal neg n) rest := by
  simp [intAcc_head t w neg n rest hfit hneg, Dec.bind_run, tryAs, hmax]

theorem int_accessor_overflow (t : IntTy) (w : Width) (neg : Bool) (n : Nat) (rest : Bytes)
    (hfit : w.fits n = true) (hneg : neg = true → t.neg = true) (hmax : t.max < n) :
    intAcc t (intHead neg w n ++ rest) = .err .overflow rest := by
  simp [intAcc_head t w neg n rest hfit hneg, Dec.bind_run, tryAs, Nat.not_le.mpr hmax]

theorem typeMismatch_err (b : UInt8) (bs : Bytes) :
    ∃ e r, (typeMismatch b : Dec Int) bs = .err e r :=
  typeMismatch_is_err b bs

theorem int_accessor_neg_rejected (t : IntTy) (w : Width) (n : Nat) (rest : Bytes)
    (hfit : w.fits n = true) (hneg : t.neg = false) :
    ∃ e r, intAcc t (intHead true w n ++ rest) = .err e r := by
  have hai := Width.ai_le w n hfit
  have h1 : ¬ (32 + w.ai n) % 256 ≤ 27 := by omega
  simp [intAcc, intHead, headW, Dec.bind_run, h1, hneg]
  exact typeMismatch_err _ _

/-- C05.  Decoding an integer head of either sign, at any width, with any
    of the integer accessors returns the mathematically equal value (and stops exactly after
    the head) if and only if that value is representable in the requested type; otherwise it
    returns an error. -/
theorem int_accessor_exact (t : IntTy) (w : Width) (neg : Bool) (n : Nat) (rest : Bytes)
    (hfit : w.fits n = true) :
    (Representable t (intVal neg n) →
        intAcc t (intHead neg w n ++ rest) = .ok (intVal neg n) rest) ∧
    (¬ Representable t (intVal neg n) →
        ∃ e r, intAcc t (intHead neg w n ++ rest) = .err e r) := by
  rw [representable_iff]
  constructor
  · intro ⟨h1, h2⟩; exact int_accessor_ok t w neg n rest hfit h1 h2
  · intro h
    by_cases hneg : neg = true → t.neg = true
    · have : t.max < n := by
        by_cases hm : n ≤ t.max
        · exact absurd ⟨hneg, hm⟩ h
        · omega
      exact ⟨_, _, int_accessor_overflow t w neg n rest hfit hneg this⟩
    · have hn : neg = true := by cases neg <;> simp_all
      have ht : t.neg = false := by cases h' : t.neg <;> simp_all
      subst hn
      exact int_accessor_neg_rejected t w n rest hfit ht

/-- the ranges of the nine accessors are the ranges of the Rust types. -/
theorem ranges :
    (IntTy.u8.lo, IntTy.u8.hi) = (0, 2^8 - 1) ∧ (IntTy.u16.lo, IntTy.u16.hi) = (0, 2^16 - 1) ∧
    (IntTy.u32.lo, IntTy.u32.hi) = (0, 2^32 - 1) ∧ (IntTy.u64.lo, IntTy.u64.hi) = (0, 2^64 - 1) ∧
    (IntTy.i8.lo, IntTy.i8.hi) = (-2^7, 2^7 - 1) ∧ (IntTy.i16.lo, IntTy.i16.hi) = (-2^15, 2^15 - 1) ∧
    (IntTy.i32.lo, IntTy.i32.hi) = (-2^31, 2^31 - 1) ∧ (IntTy.i64.lo, IntTy.i64.hi) = (-2^63, 2^63 - 1) ∧
    (IntTy.int.lo, IntTy.int.hi) = (-2^64, 2^64 - 1) := by decide

/-- non-vacuity: -2^63 encoded at width 8 is an `i64` but not an `i32`. -/
example : Representable .i64 (intVal true 9223372036854775807) ∧
    ¬ Representable .i32 (intVal true 9223372036854775807) := by decide


/-! ### `Int` and its conversions -/

/-- every well-formed `Int` denotes a value in `[-2^64, 2^64 - 1]`.  That every value in the range is
    denoted, by exactly the `Int` that `TryFrom<i128>` builds: `int_of_i128_exact`. -/
theorem int_range (c : CInt) (h : c.wf) :
    -18446744073709551616 ≤ c.denote ∧ c.denote ≤ 18446744073709551615 := by
  unfold CInt.denote CInt.wf at *; cases c.neg <;> simp <;> omega

theorem int_of_i128_exact (i : Int) :
    (∀ c, CInt.ofI128 i = some c → c.denote = i ∧ c.wf) ∧
    (CInt.ofI128 i = none ↔ (i < -18446744073709551616 ∨ 18446744073709551615 < i)) := by
  unfold CInt.ofI128
  constructor
  · intro c hc
    split at hc
    · split at hc
      · cases hc
      · cases hc; simp [CInt.denote, CInt.wf]; omega
    · split at hc
      · cases hc
      · cases hc; simp [CInt.denote, CInt.wf]; omega
  · (repeat' split) <;> simp <;> omega

theorem int_of_u128_exact (n : Nat) :
    (∀ c, CInt.ofU128 n = some c → c.denote = n ∧ c.wf) ∧ (CInt.ofU128 n = none ↔ 18446744073709551615 < n) := by
  unfold CInt.ofU128 CInt.ofU64
  constructor
  · intro c hc; split at hc
    · cases hc; simp [CInt.denote, CInt.wf]; omega
    · cases hc
  · split <;> simp <;> omega

theorem int_of_i64_exact (i : Int) (h : -9223372036854775808 ≤ i ∧ i ≤ 9223372036854775807) :
    (CInt.ofI64 i).denote = i ∧ (CInt.ofI64 i).wf := by
  unfold CInt.ofI64; split <;> simp [CInt.denote, CInt.wf] <;> omega

theorem int_of_u64_exact (n : Nat) (h : n ≤ 18446744073709551615) :
    (CInt.ofU64 n).denote = n ∧ (CInt.ofU64 n).wf := by
  simp [CInt.ofU64, CInt.denote, CInt.wf]; omega

/-- every elimination is exact or fails: it returns `v` iff `v` is the denoted value and lies
    in the target type's range. -/
theorem int_to_unsigned_exact (max : Nat) (c : CInt) (v : Nat) :
    CInt.toUnsigned max c = some v ↔ (c.denote = v ∧ v ≤ max) := by
  unfold CInt.toUnsigned CInt.toU64 CInt.denote
  cases c.neg
  · by_cases h : c.val ≤ max <;> simp [h] <;> omega
  · simp; omega

theorem int_to_u64_exact (c : CInt) (v : Nat) : CInt.toU64 c = some v ↔ c.denote = v := by
  unfold CInt.toU64 CInt.denote; cases c.neg <;> simp <;> omega

theorem int_to_u128_exact (c : CInt) (v : Nat) : CInt.toU128 c = some v ↔ c.denote = v := by
  unfold CInt.toU128 CInt.denote; cases c.neg <;> simp <;> omega

theorem int_to_i64_exact (c : CInt) (v : Int) :
    CInt.toI64 c = some v ↔ (c.denote = v ∧ -9223372036854775808 ≤ v ∧ v ≤ 9223372036854775807) := by
  unfold CInt.toI64 CInt.denote
  cases c.neg <;> by_cases h : c.val ≤ 9223372036854775807 <;> simp [h] <;> omega

theorem int_to_signed_exact (lo hi : Int) (c : CInt) (v : Int)
    (hlo : -9223372036854775808 ≤ lo) (hhi : hi ≤ 9223372036854775807) :
    CInt.toSigned lo hi c = some v ↔ (c.denote = v ∧ lo ≤ v ∧ v ≤ hi) := by
  unfold CInt.toSigned
  cases h : CInt.toI64 c with
  | none =>
    constructor
    · intro e; cases e
    · intro ⟨h1, h2, h3⟩
      have := (int_to_i64_exact c v).mpr ⟨h1, by omega, by omega⟩
      rw [h] at this; cases this
  | some n =>
    have hn := (int_to_i64_exact c n).mp h
    simp only []
    split
    · simp; constructor
      · intro e; subst e; exact ⟨hn.1, by omega, by omega⟩
      · intro ⟨h1, _, _⟩; omega
    · simp; intro h1; omega

theorem int_to_i128_exact (c : CInt) : CInt.toI128 c = c.denote := rfl

end Minicbor.C05
