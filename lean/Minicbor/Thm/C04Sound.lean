/-
  C04 — typed decoding (`decodeT`, the built-in `Decode` impls) agrees with the RFC 8949 data model
  on every well-formed encoding of an item, in any framing.

  `interp t w` (Lemmas/C04Interp.lean, specification side) says which wire trees `w` — any head
  width, definite or indefinite — a type `t` accepts and which value the data model assigns.
  The theorems hold for every type descriptor without a bare `data::Tag` (`Ty.NoBareTag`: that impl
  reads a tag head, which is not a data item — it is covered as the accessor `tag` in
  Thm/C04Acc.lean), every valid `w` whose encoding fits in a slice (`FitsSlice`) and every `rest`.
  No `WF` / `NoOptOpt` side condition is needed on this side: decoding `Option<Option<T>>` is
  deterministic, only its round trip is lossy.
-/
import Minicbor.Lemmas.C04SpecTy
import Minicbor.Lemmas.TypesItem
import Minicbor.Thm.C01
import Minicbor.Thm.C03Builtin
import Minicbor.Thm.C04Typed

namespace Minicbor.C04
open Dec

mutual
theorem interp_spec : (t : Ty) → t.NoBareTag = true → Spec (decodeT t) (interp t)
  | .int k, _ => Spec.map Val.int (Spec.int k.ty)
  | .bool, _ => Spec.map Val.bool Spec.bool
  | .char, _ => Spec.map (fun c => Val.int (c : Nat)) Spec.char
  | .f32, _ => Spec.map Val.float (Spec.f32 true)
  | .f64, _ => Spec.map Val.float (Spec.f64 true)
  | .str, _ => Spec.map Val.str Spec.str
  | .bytes, _ => Spec.map Val.bytes Spec.bytes
  | .barr n, _ => Spec.barr n
  | .cstr, _ => Spec.cstr
  | .unit, _ => Spec.unit
  | .skipUnit, _ => Spec.skipUnit
  | .nz k, _ => Spec.nz k.ty
  | .duration, _ => Spec.duration false
  | .systime, _ => Spec.duration true
  | .tag, h => by simp [Ty.NoBareTag, Ty.all, Ty.noBareTagNode] at h
  | .opt t, h => Spec.opt (interp_spec t (by simpa [Ty.NoBareTag, Ty.all, Ty.noBareTagNode] using h))
  | .tagged n t, h => Spec.tagged (interp_spec t (by simpa [Ty.NoBareTag, Ty.all, Ty.noBareTagNode] using h)) n
  | .seq t, h => by
    have ih := interp_spec t (by simpa [Ty.NoBareTag, Ty.all, Ty.noBareTagNode] using h)
    refine (Spec.map Val.list (Spec.arrayIter ih)).congr (fun w => ?_)
    simp only [interp]; cases elems w <;> rfl
  | .arr n t, h => by
    have ih := interp_spec t (by simpa [Ty.NoBareTag, Ty.all, Ty.noBareTagNode] using h)
    refine (Spec.map Val.list (Spec.arrayN ih n)).congr (fun w => ?_)
    simp only [interp]
    cases elems w with
    | none => rfl
    | some xs => simp only [Option.bind_some]; split <;> rfl
  | .map k v, h => by
    have hh : k.NoBareTag = true ∧ v.NoBareTag = true := by
      simpa [Ty.NoBareTag, Ty.all, Ty.noBareTagNode] using h
    refine (Spec.map Val.map (Spec.mapIter (interp_spec k hh.1) (interp_spec v hh.2))).congr (fun w => ?_)
    simp only [interp]; cases entries w <;> rfl
  | .tup ts, h =>
    Spec.tup (interps_spec ts (by simpa [Ty.NoBareTag, Ty.all, Ty.noBareTagNode] using h)) Val.list ts.length
      (decoders_length ts).symm
  | .enum ts, h => Spec.enum (interps_spec ts (by simpa [Ty.NoBareTag, Ty.all, Ty.noBareTagNode] using h))
  | .fields ts, h => by
    have ih := interps_spec ts (by simpa [Ty.NoBareTag, Ty.all, Ty.noBareTagNode] using h)
    refine (Spec.map Val.list (Spec.fieldsDec ih)).congr (fun w => ?_)
    simp only [interp]; cases elems w <;> rfl
theorem interps_spec : (ts : List Ty) → Ty.allL Ty.noBareTagNode ts = true → SpecL (decoders ts) (interps ts)
  | [], _ => .nil
  | t :: ts, h => by
    simp only [Ty.allL, Bool.and_eq_true] at h
    exact .cons (interp_spec t h.1) (interps_spec ts h.2)
end

/-- the encoding fits in a Rust slice (`len ≤ isize::MAX < 2^64`), as in `C06.FitsSlice`: wherever
    `skip()` is involved (`Option` on null, `Bound::Unbounded`, trailing `decode_fields!` entries) its
    saturating `u64` counters could otherwise clip on a model list that no slice can hold. -/
abbrev FitsSlice (w : WItem) : Prop := (encW w).length < 2 ^ 64

/-- if the data model assigns `v` to the well-formed item `w` at type `t` (`interp`, any head widths,
    definite or indefinite as the type allows), decoding `encW w` followed by anything returns
    exactly `v` and stops exactly at the end of the item. -/
theorem typed_sound (t : Ty) (w : WItem) (v : Val) (rest : Bytes) (hnb : t.NoBareTag = true)
    (hv : w.Valid) (hfit : FitsSlice w) (h : interp t w = some v) :
    decodeT t (encW w ++ rest) = .ok v rest :=
  ((interp_spec t hnb w rest hv hfit).ok_iff v rest).2 ⟨h, rfl⟩

/-- a type that does not match the shape never returns a value. -/
theorem typed_rejects (t : Ty) (w : WItem) (rest : Bytes) (hnb : t.NoBareTag = true)
    (hv : w.Valid) (hfit : FitsSlice w) (h : interp t w = none) (v : Val) (r : Bytes) :
    decodeT t (encW w ++ rest) ≠ .ok v r :=
  (h ▸ interp_spec t hnb w rest hv hfit :) v r

theorem typed_ok_iff (t : Ty) (w : WItem) (rest : Bytes) (hnb : t.NoBareTag = true)
    (hv : w.Valid) (hfit : FitsSlice w) (v : Val) (r : Bytes) :
    decodeT t (encW w ++ rest) = .ok v r ↔ (interp t w = some v ∧ r = rest) :=
  (interp_spec t hnb w rest hv hfit).ok_iff v r

/-- a type that does not match the shape returns an error (it does not panic either, C02). -/
theorem typed_mismatch_err (t : Ty) (w : WItem) (rest : Bytes) (hnb : t.NoBareTag = true)
    (hv : w.Valid) (hfit : FitsSlice w) (h : interp t w = none) :
    ∃ e r, decodeT t (encW w ++ rest) = .err e r :=
  NotOk.exists_err (typed_rejects t w rest hnb hv hfit h) (decodeT_noPanic t _)

/-- every strict prefix of any well-formed encoding that a type accepts (wider heads, indefinite
    lengths, whatever `interp` allows) fails with the end-of-input class. -/
theorem typed_prefix_eoi_reframed (t : Ty) (w : WItem) (v : Val) (hnb : t.NoBareTag = true)
    (hv : w.Valid) (hfit : FitsSlice w) (h : interp t w = some v) (p q : Bytes)
    (hpq : encW w = p ++ q) (hq : q ≠ []) : ∃ r, decodeT t p = .err .eoi r := by
  have hd := typed_sound t w v [] hnb hv hfit h
  rw [List.append_nil, hpq] at hd
  exact (decodeT_stable t).prefix_eoi_nil (decodeT_noPanic t) hd hq

/-- the excluded impl, `data::Tag`: it succeeds exactly on tagged items, returns the tag number and
    leaves the tagged content unread — a head reader, not an item decoder. -/
theorem typed_bare_tag (w : WItem) (rest : Bytes) (hv : w.Valid) (v : Val) (r : Bytes) :
    decodeT .tag (encW w ++ rest) = .ok v r ↔
      ∃ n, view .tag w = some n ∧ v = .int (n : Nat) ∧ r = after .tag w ++ rest := by
  have e : decodeT .tag = (Dec.tag >>= fun n => pure (Val.int (n : Nat))) := by
    unfold decodeT; rfl
  rw [e]
  constructor
  · intro h
    obtain ⟨n, r', h1, h2⟩ := bind_ok_inv h
    obtain ⟨hview, hr⟩ := accessor_rejects .tag w hv rest n r' h1
    cases h2
    exact ⟨n, hview, rfl, hr⟩
  · intro ⟨n, hview, hvv, hr⟩
    have := (accessor_ok_iff .tag w hv rest n _).mpr ⟨hview, rfl⟩
    simp only [Acc.run] at this
    rw [Dec.bind_run, this, hvv, hr]; rfl

/-- `typed_sound` and `typed_rejects` over the whole universe of built-in types, with no exclusion. -/
def typed_sound_statement : Prop :=
  ∀ (t : Ty) (w : WItem) (rest : Bytes), w.Valid → FitsSlice w →
    (∀ v, interp t w = some v → decodeT t (encW w ++ rest) = .ok v rest) ∧
    (interp t w = none → ∀ v r, decodeT t (encW w ++ rest) ≠ .ok v r)

/-- `typed_sound_statement` holds of every type without a bare `data::Tag`. -/
theorem typed_sound_partial (t : Ty) (hnb : t.NoBareTag = true) (w : WItem) (rest : Bytes)
    (hv : w.Valid) (hfit : FitsSlice w) :
    (∀ v, interp t w = some v → decodeT t (encW w ++ rest) = .ok v rest) ∧
    (interp t w = none → ∀ v r, decodeT t (encW w ++ rest) ≠ .ok v r) :=
  ⟨fun v h => typed_sound t w v rest hnb hv hfit h, fun h v r => typed_rejects t w rest hnb hv hfit h v r⟩

/-- the exclusion in `typed_sound_partial` is necessary: `Tag::decode` on `c1 00` (`1(0)`) "succeeds" after the head,
    in the middle of the item (see `typed_bare_tag`; C03's K9 is the encoder side of the same fact). -/
theorem typed_sound_statement_needs_exclusion : ¬ typed_sound_statement := by
  intro h
  have := (h .tag (.tag .w0 1 (.uint .w0 0)) [] (by decide) (by decide)).2 rfl (.int 1) [0x00]
  exact this rfl

/-- the specification agrees with the encoder: what a built-in `Encode` impl writes for `v` is a
    valid preferred-form item which `interp` maps back to `v` (cross-check of `interp` against
    `encodeT`, via `C03.builtin_pref` and `C01.roundtrip`). -/
theorem interp_of_encode (t : Ty) (v : Val) (bs : Bytes)
    (hwf : t.WF = true) (hno : t.NoOptOpt = true) (hnb : t.NoBareTag = true)
    (henc : encodeT t v = some bs) (hlen : bs.length < 2 ^ 64) :
    ∃ w : WItem, w.Valid ∧ bs = encW w ∧ interp t w = some v := by
  obtain ⟨i, _, hb, hv⟩ := C03.builtin_pref t v bs hwf hnb henc hlen
  refine ⟨prefTree i, hv, hb, ?_⟩
  have hr := C01.roundtrip t v bs [] hwf hno henc hlen
  have hfit : FitsSlice (prefTree i) := by unfold FitsSlice; rw [← show bs = encW (prefTree i) from hb]; exact hlen
  rw [show bs = encW (prefTree i) from hb] at hr
  exact ((typed_ok_iff t (prefTree i) [] hnb hv hfit v []).mp hr).1

/-! ### non-vacuity -/

/-- `BTreeMap<String, Vec<Option<(u8, Tagged<5, &str>)>>>`. -/
def sampleTy : Ty := .map .str (.seq (.opt (.tup [.int .u8, .tagged 5 .str])))

/-- a value of `sampleTy`, re-framed: indefinite map, a one-byte-length key, an indefinite array
    holding a tuple with a two-byte array head, `200` at width 8, tag 5 at width 4, a null, and an
    empty array with an eight-byte head. -/
def sampleWire : WItem :=
  .mapI [.text .w1 [0x61],
         .arrayI [.array .w2 [.uint .w8 200, .tag .w4 5 (.text .w0 [0x62, 0x63])], .simple 22],
         .text .w0 [0xc3, 0xa9],
         .array .w8 []]

def sampleVal : Val :=
  .map [.str [0x61], .list [.some (.list [.int 200, .tagged (.str [0x62, 0x63])]), .none],
        .str [0xc3, 0xa9], .list []]

example : sampleTy.NoBareTag = true ∧ sampleWire.Valid ∧ FitsSlice sampleWire ∧
    interp sampleTy sampleWire = some sampleVal ∧ (encW sampleWire).length = 40 ∧
    decodeT sampleTy (encW sampleWire ++ [0xff]) = .ok sampleVal [0xff] := by
  refine ⟨by decide, by decide, by decide, rfl, by decide, ?_⟩
  exact typed_sound sampleTy sampleWire sampleVal [0xff] (by decide) (by decide) (by decide) rfl

/-- cut anywhere, the re-framed sample reports end of input (here: inside the 8-byte head of `200`). -/
example : ∃ r, decodeT sampleTy ((encW sampleWire).take 12) = .err .eoi r :=
  typed_prefix_eoi_reframed sampleTy sampleWire sampleVal (by decide) (by decide) (by decide) rfl _
    ((encW sampleWire).drop 12) (List.take_append_drop 12 _).symm (by decide)

/-- the same tree with the inner text as an indefinite-length string is not accepted (`&str`
    demands a definite string): no value is returned. -/
example :
    let w : WItem := .mapI [.text .w1 [0x61], .arrayI [.array .w2 [.uint .w8 200, .tag .w4 5 (.textI [(.w0, [0x62, 0x63])])]]]
    w.Valid ∧ interp sampleTy w = none := ⟨by decide, rfl⟩

end Minicbor.C04
