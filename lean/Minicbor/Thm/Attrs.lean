/-
  The attribute front end of the derive macros (model: Minicbor/Attrs.lean) — property theorems.

  C08–C10 quantify over "every type definition accepted by the derive macros".  Which definitions those are, and
  what each accepted definition means (index, tag, codec functions of every field), is decided by the front end
  modelled in `Attrs.lean`.  Its Rust original moves the entries of a per-attribute `HashMap` into the accumulated
  map in `HashMap` iteration order, which std randomises per process.  No test can sample that; the
  `*_order_irrelevant` theorems settle it.  The written order of attributes is not irrelevant for acceptance
  (`order_sensitive_*`), but it is for the meaning (`accepted_meaning_order_free`), and the alternative spellings
  the documentation offers mean the same (`spelling_*`).
-/
import Minicbor.Lemmas.AttrsInv
import Minicbor.Lemmas.AttrsMeaning

namespace Minicbor.Attrs

theorem Order.canonical_valid : Order.Valid Order.canonical := fun _ => List.Perm.refl _

/-- a second valid order (non-vacuity of the quantification over orders). -/
def Order.reversed : Order := fun m => m.entries.reverse
theorem Order.reversed_valid : Order.Valid Order.reversed := fun m => List.reverse_perm m.entries

theorem mergeAttrs_order_irrelevant (ord1 ord2 : Order) (h1 : ord1.Valid) (h2 : ord2.Valid) (l : Level) :
    ∀ (attrs : List Attr) (acc : A), Eqv (mergeAttrs ord1 l acc attrs) (mergeAttrs ord2 l acc attrs)
  | [], acc => Eqv.refl _
  | att :: rest, acc => by
    simp only [mergeAttrs]
    cases hm : ofAttr l att with
    | error e => exact Eqv.err _ _
    | ok m =>
      simp only
      have hpw : (ord1 m).Pairwise Indep := ((h1 m).pairwise_iff Indep.symm).2 (entries_indep m (ofAttr_inv l att m hm))
      exact Eqv.elim (fun _ _ => Eqv.err _ _) (fun a' => mergeAttrs_order_irrelevant ord1 ord2 h1 h2 l rest a')
        (insertAll_perm l ((h1 m).trans (h2 m).symm) hpw acc)

/-- `Attributes::try_from_iter` does not depend on the `HashMap` iteration order. -/
theorem fromAttrs_order_irrelevant (ord1 ord2 : Order) (h1 : ord1.Valid) (h2 : ord2.Valid) (l : Level) (attrs : List Attr) :
    Eqv (fromAttrs ord1 l attrs) (fromAttrs ord2 l attrs) := by
  unfold fromAttrs
  exact Eqv.elim (fun _ _ => Eqv.err _ _) (fun _ => Eqv.refl _) (mergeAttrs_order_irrelevant ord1 ord2 h1 h2 l attrs {})

theorem fieldsSem_order_irrelevant (ord1 ord2 : Order) (h1 : ord1.Valid) (h2 : ord2.Valid) :
    ∀ fields : List (List Attr), Eqv (fieldsSem ord1 fields) (fieldsSem ord2 fields)
  | [] => Eqv.refl _
  | f :: fs => by
    simp only [fieldsSem]
    refine Eqv.elim (fun _ _ => Eqv.err _ _) (fun a => ?_) (fromAttrs_order_irrelevant ord1 ord2 h1 h2 .field f)
    simp only
    cases fieldSem a with
    | error e => exact Eqv.err _ _
    | ok s => exact Eqv.elim (fun _ _ => Eqv.err _ _) (fun _ => Eqv.refl _) (fieldsSem_order_irrelevant ord1 ord2 h1 h2 fs)

theorem structSem_order_irrelevant (ord1 ord2 : Order) (h1 : ord1.Valid) (h2 : ord2.Valid)
    (attrs : List Attr) (fields : List (List Attr)) :
    Eqv (structSem ord1 attrs fields) (structSem ord2 attrs fields) := by
  unfold structSem
  refine Eqv.elim (fun _ _ => Eqv.err _ _) (fun a => ?_) (fromAttrs_order_irrelevant ord1 ord2 h1 h2 .struct_ attrs)
  exact Eqv.elim (fun _ _ => Eqv.err _ _) (fun _ => Eqv.refl _) (fieldsSem_order_irrelevant ord1 ord2 h1 h2 fields)

theorem variantHeads_order_irrelevant (ord1 ord2 : Order) (h1 : ord1.Valid) (h2 : ord2.Valid) :
    ∀ vars : List RawVariant, Eqv (variantHeads ord1 vars) (variantHeads ord2 vars)
  | [] => Eqv.refl _
  | v :: vs => by
    simp only [variantHeads]
    refine Eqv.elim (fun _ _ => Eqv.err _ _) (fun a => ?_) (fromAttrs_order_irrelevant ord1 ord2 h1 h2 .variant v.attrs)
    simp only
    split
    · exact Eqv.err _ _
    · exact Eqv.elim (fun _ _ => Eqv.err _ _) (fun _ => Eqv.refl _) (variantHeads_order_irrelevant ord1 ord2 h1 h2 vs)

theorem variantBodies_order_irrelevant (ord1 ord2 : Order) (h1 : ord1.Valid) (h2 : ord2.Valid) (io : Bool) :
    ∀ (vars : List RawVariant) (heads : List A), Eqv (variantBodies ord1 io vars heads) (variantBodies ord2 io vars heads)
  | [], _ => by simp only [variantBodies]; exact Eqv.refl _
  | _ :: _, [] => by simp only [variantBodies]; exact Eqv.refl _
  | v :: vs, a :: as => by
    simp only [variantBodies]
    refine Eqv.elim (fun _ _ => Eqv.err _ _) (fun ss => ?_) (fieldsSem_order_irrelevant ord1 ord2 h1 h2 v.fields)
    simp only
    cases checkUniq ss with
    | error e => exact Eqv.err _ _
    | ok u =>
      simp only
      split
      · exact Eqv.err _ _
      · exact Eqv.elim (fun _ _ => Eqv.err _ _) (fun _ => Eqv.refl _) (variantBodies_order_irrelevant ord1 ord2 h1 h2 io vs as)

theorem enumSem_order_irrelevant (ord1 ord2 : Order) (h1 : ord1.Valid) (h2 : ord2.Valid)
    (attrs : List Attr) (vars : List RawVariant) :
    Eqv (enumSem ord1 attrs vars) (enumSem ord2 attrs vars) := by
  unfold enumSem
  refine Eqv.elim (fun _ _ => Eqv.err _ _) (fun a => ?_) (fromAttrs_order_irrelevant ord1 ord2 h1 h2 .enum_ attrs)
  refine Eqv.elim (fun _ _ => Eqv.err _ _) (fun hs => ?_) (variantHeads_order_irrelevant ord1 ord2 h1 h2 vars)
  simp only
  split
  · exact Eqv.err _ _
  · exact Eqv.elim (fun _ _ => Eqv.err _ _) (fun _ => Eqv.refl _) (variantBodies_order_irrelevant ord1 ord2 h1 h2 a.indexOnly vars hs)

/-! ### spellings -/

/-- what a field means, for the canonical order (by the theorems above: for every order). -/
def fieldMeaning (attrs : List Attr) : Except Err FieldSem :=
  match fromAttrs Order.canonical .field attrs with
  | .error e => .error e
  | .ok a => fieldSem a

theorem mergeAttrs_congr (ord : Order) (l : Level) : ∀ (as bs : List Attr) (acc : A),
    as.map (ofAttr l) = bs.map (ofAttr l) → mergeAttrs ord l acc as = mergeAttrs ord l acc bs
  | [], [], _, _ => rfl
  | [], _ :: _, _, h => nomatch h
  | _ :: _, [], _, h => nomatch h
  | x :: as, y :: bs, acc, h => by
    obtain ⟨hxy, hrest⟩ := List.cons.inj h
    simp only [mergeAttrs, hxy]
    cases ofAttr l y with
    | error e => rfl
    | ok m =>
      simp only
      cases insertAll l acc (ord m) with
      | error e => rfl
      | ok a' => exact mergeAttrs_congr ord l as bs a' hrest

theorem fromAttrs_congr (ord : Order) (l : Level) (as bs : List Attr) (h : as.map (ofAttr l) = bs.map (ofAttr l)) :
    fromAttrs ord l as = fromAttrs ord l bs := by
  unfold fromAttrs
  rw [mergeAttrs_congr ord l as bs {} h]

/-- `#[n(i)]` and `#[cbor(n(i))]` (likewise `b`) mean the same on every level, whatever else is
    written on the item, under every iteration order. -/
theorem spelling_index (ord : Order) (l : Level) (isB : Bool) (i : Nat) (before after : List Attr) :
    fromAttrs ord l (before ++ (if isB then Attr.b i else Attr.n i) :: after)
      = fromAttrs ord l (before ++ Attr.cbor [if isB then Item.b i else Item.n i] :: after) := by
  have h : ofAttr l (if isB then .b i else .n i) = ofAttr l (.cbor [if isB then .b i else .n i]) := by
    cases isB <;> exact ofAttr_eq_insertItems l _
  exact fromAttrs_congr ord l _ _ (by rw [List.map_append, List.map_append, List.map_cons, List.map_cons, h])

/-- evaluates the front end on attribute lists with symbolic paths and numbers (bounds on the
    numbers are taken from the context). -/
macro "eval_attrs" : tactic => `(tactic|
  simp [*, fieldMeaning, fromAttrs, mergeAttrs, ofAttr, insertItems, Item.toVal, parseIdx, tryInsert, allowed, Val.kind,
      isCluster, insertCl, insertRs, insertAll, Order.canonical, A.entries, A.codec, A.encoding, A.index, A.indexOnly, A.transparent,
      A.typeParam, A.nil, A.isNil, A.hasNil, A.contextBound, A.cborLen, A.tag, A.skip, finalChecks, A.len, o2n, b2n, fieldSem,
      CC.isModule, CC.encodePath, CC.decodePath, CC.isNilPath, CC.nilPath, CC.cborLenPath, A.cborLenFn, U32, U64])

/-- `with = "m"` ≡ `encode_with = "m::encode", decode_with = "m::decode", cbor_len = "m::cbor_len"`. -/
theorem spelling_with (i : Nat) (hi : i < U32) (t : Option Nat) (ht : ∀ x, t = some x → x < U64) (m : Path) :
    fieldMeaning [.n i, .cbor ((t.map Item.tag).toList ++ [.with_ m])] =
    fieldMeaning [.n i, .cbor ((t.map Item.tag).toList ++ [.encodeWith (m ++ ["encode"]), .decodeWith (m ++ ["decode"]), .cborLen (m ++ ["cbor_len"])])] := by
  simp only [U32, U64] at hi ht
  cases t with
  | none => eval_attrs
  | some x => have := ht x rfl; eval_attrs

/-- `with = "m", has_nil` ≡ the five separate functions. -/
theorem spelling_with_has_nil (m : Path) :
    fieldMeaning [.n 1, .cbor [.with_ m, .hasNil]] =
    fieldMeaning [.n 1, .cbor [.encodeWith (m ++ ["encode"]), .isNil (m ++ ["is_nil"]), .decodeWith (m ++ ["decode"]), .nil (m ++ ["nil"]),
                               .cborLen (m ++ ["cbor_len"])]] := by
  eval_attrs

/-- `has_nil` may come before `with`, in the same or in another attribute. -/
theorem spelling_has_nil_first (m : Path) :
    fieldMeaning [.n 1, .cbor [.hasNil, .with_ m]] = fieldMeaning [.n 1, .cbor [.with_ m, .hasNil]] ∧
    fieldMeaning [.cbor [.hasNil], .n 1, .cbor [.with_ m]] = fieldMeaning [.n 1, .cbor [.with_ m, .hasNil]] := by
  constructor <;> eval_attrs

/-- one `#[cbor(...)]` with several items ≡ one attribute per item (here: index, tag, codec). -/
theorem spelling_split_attributes (m : Path) :
    fieldMeaning [.cbor [.n 2, .tag 7, .with_ m]] = fieldMeaning [.cbor [.n 2], .cbor [.tag 7], .cbor [.with_ m]] := by
  eval_attrs

theorem meaning_split_codec (e z d y c : Path) :
    fieldMeaning [.n 3, .cbor [.encodeWith e, .isNil z, .decodeWith d, .nil y, .cborLen c]] =
      .ok ⟨false, false, 3, none, some e, some z, some d, some y, some c⟩ := by
  eval_attrs

/-- skip: no index needed, none allowed. -/
theorem meaning_skip : fieldMeaning [.cbor [.skip]] = .ok ⟨true, false, 4294967295, none, none, none, none, none, none⟩ ∧
    fieldMeaning [.n 0, .cbor [.skip]] = .error .skipAlone ∧ fieldMeaning [.cbor [.skip, .tag 1]] = .error .skipAlone :=
  ⟨rfl, rfl, rfl⟩

/-- `is_nil` alone, then `decode_with`, then `encode_with`, each in its own attribute, is rejected:
    `is_nil` stays pending, because `encode_with` meeting the `decode_with` already present does not
    pick it up. -/
theorem order_sensitive_rejected (e z d : Path) :
    fieldMeaning [.n 0, .cbor [.isNil z], .cbor [.decodeWith d], .cbor [.encodeWith e]] = .error .isNilNeedsEncodeWith := by
  eval_attrs

/-- the same three items with `encode_with` first, or all in one attribute in the rejected order, are
    accepted. -/
theorem order_sensitive_accepted (e z d : Path) :
    fieldMeaning [.n 0, .cbor [.encodeWith e], .cbor [.isNil z], .cbor [.decodeWith d]]
      = .ok ⟨false, false, 0, none, some e, some z, some d, none, none⟩ ∧
    fieldMeaning [.n 0, .cbor [.isNil z, .decodeWith d, .encodeWith e]]
      = .ok ⟨false, false, 0, none, some e, some z, some d, none, none⟩ := by
  constructor <;> eval_attrs

/-- `cbor_len` next to `with` is refused in either order, with different messages. -/
theorem with_cbor_len_exclusive (m c : Path) :
    fieldMeaning [.n 0, .cbor [.with_ m, .cborLen c]] = .error .cborLenWith ∧
    fieldMeaning [.n 0, .cbor [.cborLen c, .with_ m]] = .error .withCborLen := by
  constructor <;> eval_attrs

/-- rejected definitions (non-vacuity of "accepted"): duplicate index, missing index, tag on a
    transparent struct / index_only enum, index_only with a field, transparent with two fields. -/
theorem rejected_examples :
    structSem Order.canonical [] [[.n 0], [.n 0]] = .error .duplicateIndex ∧
    structSem Order.canonical [] [[.n 0], []] = .error .missingIndex ∧
    structSem Order.canonical [.cbor [.transparent, .tag 1]] [[.n 0]] = .error .tagTransparent ∧
    structSem Order.canonical [.cbor [.transparent]] [[.n 0], [.n 1]] = .error .transparentOneField ∧
    enumSem Order.canonical [.cbor [.indexOnly, .tag 1]] [] = .error .tagIndexOnly ∧
    enumSem Order.canonical [.cbor [.indexOnly]] [⟨[.n 0], false, [[.n 0]]⟩] = .error .indexOnlyFields ∧
    enumSem Order.canonical [] [⟨[.n 0], true, []⟩, ⟨[.b 0], true, []⟩] = .error .duplicateIndex ∧
    structSem Order.canonical [.cbor [.indexOnly]] [] = .error .notSupportedOnLevel :=
  ⟨rfl, rfl, rfl, rfl, rfl, rfl, rfl, rfl⟩

/-- an accepted struct with a transparent wrapper around one live and one skipped field (the macros
    count only the non-skipped fields). -/
theorem accepted_examples :
    (structSem Order.canonical [.cbor [.transparent]] [[.n 0], [.cbor [.skip]]]).toOption.isSome = true ∧
    (structSem Order.reversed [.cbor [.map, .tag 9]] [[.b 1, .cbor [.tag 2]], [.cbor [.n 0]]]).toOption.isSome = true :=
  ⟨rfl, rfl⟩

/-! ### the written order never changes the meaning of an accepted field -/

theorem fromAttrs_facts (ord : Order) (hord : ord.Valid) (l : Level) (attrs : List Attr) (a : A) (h : fromAttrs ord l attrs = .ok a) :
    Settled a ∧ ∀ f, f ∈ a.facts ↔ f ∈ factsOfItems (allItems attrs) := by
  unfold fromAttrs at h
  split at h
  · cases h
  · rename_i a0 hm
    obtain ⟨rfl, hs⟩ := finalChecks_settled a0 a h
    exact ⟨hs, fun _ => (mergeAttrs_facts ord hord l attrs {} a hm).mem_iff⟩

theorem accepted_meaning_of_facts (ord1 ord2 : Order) (h1 : ord1.Valid) (h2 : ord2.Valid) (l : Level) (attrs1 attrs2 : List Attr)
    (hf : ∀ f, f ∈ factsOfItems (allItems attrs1) ↔ f ∈ factsOfItems (allItems attrs2)) (a1 a2 : A)
    (ha1 : fromAttrs ord1 l attrs1 = .ok a1) (ha2 : fromAttrs ord2 l attrs2 = .ok a2) :
    fieldSem a1 = fieldSem a2 ∧ topSem a1 = topSem a2 := by
  obtain ⟨s1, f1⟩ := fromAttrs_facts ord1 h1 l attrs1 a1 ha1
  obtain ⟨s2, f2⟩ := fromAttrs_facts ord2 h2 l attrs2 a2 ha2
  have h : ∀ f, f ∈ a1.facts ↔ f ∈ a2.facts := fun f => (f1 f).trans ((hf f).trans (f2 f).symm)
  exact ⟨fieldSem_of_facts a1 a2 s1 s2 h, topSem_of_facts a1 a2 h⟩

/-- No definition is accepted with two meanings: two field definitions whose attributes state the same
    items (any order, any grouping into `#[n]` / `#[b]` / `#[cbor(...)]` attributes), both accepted, each
    under an arbitrary `HashMap` iteration order, mean the same. -/
theorem accepted_meaning_order_free (ord1 ord2 : Order) (h1 : ord1.Valid) (h2 : ord2.Valid) (attrs1 attrs2 : List Attr)
    (hp : (allItems attrs1).Perm (allItems attrs2)) (a1 a2 : A)
    (ha1 : fromAttrs ord1 .field attrs1 = .ok a1) (ha2 : fromAttrs ord2 .field attrs2 = .ok a2) :
    fieldSem a1 = fieldSem a2 :=
  (accepted_meaning_of_facts ord1 ord2 h1 h2 .field attrs1 attrs2 (fun _ => (hp.flatMap_right _).mem_iff) a1 a2 ha1 ha2).1

/-- likewise on the struct, enum and variant level. -/
theorem accepted_top_meaning_order_free (ord1 ord2 : Order) (h1 : ord1.Valid) (h2 : ord2.Valid) (l : Level) (attrs1 attrs2 : List Attr)
    (hp : (allItems attrs1).Perm (allItems attrs2)) (a1 a2 : A)
    (ha1 : fromAttrs ord1 l attrs1 = .ok a1) (ha2 : fromAttrs ord2 l attrs2 = .ok a2) :
    topSem a1 = topSem a2 :=
  (accepted_meaning_of_facts ord1 ord2 h1 h2 l attrs1 attrs2 (fun _ => (hp.flatMap_right _).mem_iff) a1 a2 ha1 ha2).2

/-- non-vacuity: the two accepted spellings of `order_sensitive_accepted` state the same items and
    are instances of the theorem (and the rejected third order is outside its hypotheses). -/
theorem accepted_meaning_order_free_example (e z d : Path) :
    (allItems [.n 0, .cbor [.encodeWith e], .cbor [.isNil z], .cbor [.decodeWith d]]).Perm
      (allItems [.n 0, .cbor [.isNil z, .decodeWith d, .encodeWith e]]) := by
  simp only [allItems, List.flatMap_cons, List.flatMap_nil, Attr.items, List.append_nil, List.cons_append, List.nil_append]
  exact List.Perm.cons _ ((List.Perm.swap _ _ _).trans (List.Perm.cons _ (List.Perm.swap _ _ _)))

end Minicbor.Attrs
