/-
  C20 — Same behaviour in every feature configuration, up to documented differences.

  In the model the feature configuration is an explicit parameter of exactly the functions
  whose Rust source is `cfg`-dependent: `Dec.skip alloc`, `Dec.f32 half`, `Dec.f64 half`
  (and everything built on them).  Every other model function has no such parameter, i.e. is
  the same function in every configuration by construction; the correspondence check runs
  the six separately built libraries against the model instantiated at their configuration.
  The theorems below relate the two instantiations of `half`; those of `alloc` are related in
  Thm/C06.lean (`noalloc_lockstep`).
-/
import Minicbor.Decoder

namespace Minicbor.C20
open Dec

theorem typeMismatch_f9 (bs : Bytes) : (typeMismatch 0xf9 : Dec α) bs = .err .type bs := by
  simp [typeMismatch, typeOf, Dec.bind_run]

/-- without `half`, a half-precision item is a type error for the `f32` accessor. -/
theorem f32_nohalf_f16_is_type_error (rest : Bytes) :
    Dec.f32 false (0xf9 :: rest) = .err .type (0xf9 :: rest) := by
  simp [Dec.f32, Dec.bind_run, typeMismatch_f9]

theorem f64_nohalf_f16_is_type_error (rest : Bytes) :
    Dec.f64 false (0xf9 :: rest) = .err .type (0xf9 :: rest) := by
  simp [Dec.f64, Dec.bind_run, typeMismatch_f9]

/-- on every input that is not a half-precision item the accessor behaves exactly as with `half`:
    same value, same error class, same position. -/
theorem f32_half_irrelevant (bs : Bytes) (h : bs.head? ≠ some 0xf9) :
    Dec.f32 false bs = Dec.f32 true bs := by
  cases bs with
  | nil => simp [Dec.f32, Dec.bind_run]
  | cons b rest =>
    have hb : b ≠ 0xf9 := by simpa using h
    simp [Dec.f32, Dec.bind_run, hb]

theorem f64_half_irrelevant (bs : Bytes) (h : bs.head? ≠ some 0xf9) :
    Dec.f64 false bs = Dec.f64 true bs := by
  cases bs with
  | nil => simp [Dec.f64, Dec.bind_run]
  | cons b rest =>
    have hb : b ≠ 0xf9 := by simpa using h
    by_cases hfa : b = 0xfa
    · subst hfa
      have := f32_half_irrelevant (0xfa :: rest) (by simp)
      simp [Dec.f64, Dec.bind_run, this]
    · simp [Dec.f64, Dec.bind_run, hb, hfa]

end Minicbor.C20
