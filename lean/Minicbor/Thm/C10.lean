/-
  C10 — Derived codecs are forward and backward compatible as documented.
  The one-level theorems about an added or dropped field instantiate `fieldsDec_same`
  (Lemmas/DeriveCompat.lean); the general theorem is one induction over the writer's schema
  (`compat_cases`), the reader's type quantified in the motive.

  Vocabulary (Compat.lean): `compatTy lenient w r` — "a reader of version `r` reads what a writer
  of version `w` wrote" (directional; `lenient` = the position is the declared type of an
  optional field, the only place where the writer's enum may have variants unknown to the
  reader); `project w r v` — the value the documentation promises the reader; `benign w r v` —
  excludes the one situation in which the code before the K5 repair broke the promise; on the
  repaired code it holds of every value (`benign_always`, Lemmas/DeriveCompatTy.lean).  Several
  statements here carry a `benign…` hypothesis; their proofs ignore it.
-/
import Minicbor.Compat
import Minicbor.Thm.C09Round
import Minicbor.Lemmas.DeriveCompat
import Minicbor.Lemmas.DeriveCompatTy

namespace Minicbor.C10
open Minicbor.Derive

/-! ## The documented compatible edits -/

/-- a field the documentation calls optional (`Option<_>`, or a nil-aware codec). -/
abbrev Optional (a : FAttr) (t : FTy) : Prop := optionalField a t = true

/-- One documented compatible edit, `CompatStep lenient old new` (lib.rs:28-45, 73-83).
    `lenient` = the edited type is the declared type of an optional field.  The edits act on the
    head of a declaration list (declaration order is irrelevant: C08.derive_encode_reorder_irrelevant)
    and anywhere below through the congruence constructors. -/
inductive CompatStep : Bool → FTy → FTy → Prop where
  /-- "Renaming every identifier" (and the `n`/`b` choice). -/
  | rename (l : Bool) (t t' : FTy) : C08.anonymize t = C08.anonymize t' → CompatStep l t t'
  /-- "Adding optional fields" to a struct, at a new or a gap index. -/
  | addField (l : Bool) (a : SAttr) (fs : Fields) (fa : FAttr) (ft : FTy) :
      a.transparent = false → fa.skip = false → Optional fa ft → fa.idx ∉ liveIdxs fs →
      CompatStep l (.struct a fs) (.struct a ((fa, ft) :: fs))
  /-- "newer software can stop producing optional values": dropping an optional field. -/
  | dropField (l : Bool) (a : SAttr) (fs : Fields) (fa : FAttr) (ft : FTy) :
      a.transparent = false → fa.skip = false → Optional fa ft → fa.idx ∉ liveIdxs fs →
      CompatStep l (.struct a ((fa, ft) :: fs)) (.struct a fs)
  /-- "Adding more variants to [an enum] iff [it] is only decoded as part of [an optional field]". -/
  | addVariant (e : EAttr) (vars : Variants) (va : VAttr) (fs : Fields) :
      va.idx ∉ vars.map (·.1.idx) → CompatStep true (.enum e vars) (.enum e ((va, fs) :: vars))
  /-- "turn a unit variant into a struct or tuple variant if all fields are optional". -/
  | unitToFields (l : Bool) (e : EAttr) (va : VAttr) (sh : Shape) (fs : Fields) (vars : Variants) :
      va.shape = .unit → sh ≠ .unit → allOptional fs = true → e.indexOnly = false →
      CompatStep l (.enum e ((va, []) :: vars)) (.enum e (({ va with shape := sh }, fs) :: vars))
  /-- an edit of a field type of a struct (`l'` = that field is optional). -/
  | inField (l : Bool) (a : SAttr) (fa : FAttr) (t t' : FTy) (fs : Fields) :
      a.transparent = false → fa.skip = false → CompatStep (optionalField fa t) t t' → optionalField fa t = optionalField fa t' →
      CompatStep l (.struct a ((fa, t) :: fs)) (.struct a ((fa, t') :: fs))
  | inOption (l : Bool) (t t' : FTy) : CompatStep l t t' → CompatStep l (.option t) (.option t')
  | inVec (l : Bool) (t t' : FTy) : CompatStep false t t' → CompatStep l (.vec t) (.vec t')

/-! ## The statement; the inputs of K5 and F5 on the repaired code; what does not hold -/

def k5Writer : FTy := .struct {} [({ idx := 0 }, .int .u8), ({ idx := 2 }, .int .u8)]
def k5Reader : FTy := .struct {} [({ idx := 0 }, .int .u8), ({ idx := 1, tag := some 5 }, .option (.int .u8)), ({ idx := 2 }, .int .u8)]

/-- the full-strength statement of the property; the size bound is what every Rust slice satisfies
    (`skip()` counts in `u64`; the model's lists are unbounded).  Proved below: `compat_decode_full`. -/
def compat_decode_statement : Prop :=
  ∀ (w r : FTy) (v : Derive.Val) (rest : Bytes), accepted w = true → accepted r = true → compatible w r = true →
    hasTy w v = true → C09.noClash w v = true → (deriveEncode w v).length < 2 ^ 64 →
    ∀ pv, project w r v = .ok pv → deriveDecode r (deriveEncode w v ++ rest) = .ok pv rest

/-- K5 (repaired in /repo): a tagged optional field added at a gap index (array encoding) used to
    reject the bare `null` the older writer put there (`83 01 f6 02` read by the newer struct was a
    type error, although the versions differ by the documented edit "add an optional field").
    The reader now accepts the bare `null`; the tagged `null` its own encoder writes (`c5 f6`) and
    a tagged value are read as before. -/
theorem compat_K5_repaired :
    accepted k5Writer = true ∧ accepted k5Reader = true ∧ compatible k5Writer k5Reader = true ∧
    compatible k5Reader k5Writer = true ∧
    deriveEncode k5Writer (.struct [.int 1, .int 2]) = [0x83, 0x01, 0xf6, 0x02] ∧
    project k5Writer k5Reader (.struct [.int 1, .int 2]) = .ok (.struct [.int 1, .none, .int 2]) ∧
    deriveDecode k5Reader [0x83, 0x01, 0xf6, 0x02] = .ok (.struct [.int 1, .none, .int 2]) [] ∧
    deriveDecode k5Reader [0x83, 0x01, 0xc5, 0xf6, 0x02] = .ok (.struct [.int 1, .none, .int 2]) [] ∧
    deriveDecode k5Reader [0x83, 0x01, 0xc5, 0x09, 0x02] = .ok (.struct [.int 1, .some (.int 9), .int 2]) [] ∧
    deriveDecode k5Reader [0x83, 0x01, 0xc6, 0x09, 0x02] = .err .tag [0x09, 0x02] := by
  refine ⟨by rfl, by rfl, by rfl, by rfl, by rfl, by rfl, by rfl, by rfl, by rfl, by rfl⟩

/-- a bare `null` is accepted only where the field has a nil value: a tagged *mandatory* field still
    insists on its tag. -/
theorem bare_null_needs_nil :
    let r : FTy := .struct {} [({ idx := 0 }, .int .u8), ({ idx := 1, tag := some 5 }, .int .u8)]
    accepted r = true ∧ deriveDecode r [0x82, 0x01, 0xf6] = .err .type [] := by
  refine ⟨by rfl, by rfl⟩

/-- F5 (repaired in /repo, 34b49ef): an `index_only` enum in an optional field that meets an
    unknown index becomes `None` and the sibling field survives — `82 05 07`. -/
theorem compat_F5_repaired :
    let io (n : Nat) : FTy := .enum { indexOnly := true } ((List.range n).map fun i => ({ idx := i }, []))
    let old : FTy := .struct {} [({ idx := 0 }, .option (io 2)), ({ idx := 1 }, .int .u8)]
    let new : FTy := .struct {} [({ idx := 0 }, .option (io 6)), ({ idx := 1 }, .int .u8)]
    compatible new old = true ∧
    deriveEncode new (.struct [.some (.enum 5 []), .int 7]) = [0x82, 0x05, 0x07] ∧
    project new old (.struct [.some (.enum 5 []), .int 7]) = .ok (.struct [.none, .int 7]) ∧
    deriveDecode old [0x82, 0x05, 0x07] = .ok (.struct [.none, .int 7]) [] := by
  refine ⟨by rfl, by rfl, by rfl, by rfl⟩

/-- The documented edits do not compose freely: dropping an optional field and later adding
    another optional field *with the same index and another type* are both documented compatible
    edits, but the first and the last version are not compatible — the writer's `Some(5)` at
    index 1 is a type error for the reader expecting a string there.  (The documentation never
    says that a retired index must not be reused; `compatible` is the relation that does hold.) -/
theorem compat_not_transitive :
    let a : FTy := .struct {} [({ idx := 0 }, .int .u8), ({ idx := 1 }, .option (.int .u8))]
    let b : FTy := .struct {} [({ idx := 0 }, .int .u8)]
    let c : FTy := .struct {} [({ idx := 0 }, .int .u8), ({ idx := 1 }, .option (.text .string))]
    compatible a b = true ∧ compatible b a = true ∧ compatible b c = true ∧ compatible c b = true ∧
    compatible a c = false ∧
    deriveDecode c (deriveEncode a (.struct [.int 1, .some (.int 5)])) = .err .type [] := by
  refine ⟨by rfl, by rfl, by rfl, by rfl, by rfl, by rfl⟩

/-! ## Missing mandatory fields are always an error -/

/-- `emptyBody`: e.g. a writer all of whose fields are absent optionals, or a unit struct. -/
theorem compat_missing_mandatory (a : SAttr) (gs : Fields) (gb : FAttr) (gu : FTy) (rest : Bytes)
    (hnt : a.transparent = false) (htag : a.tag = none) (hmem : (gb, gu) ∈ gs) (hlive : gb.skip = false)
    (hmand : nilOf gb gu = none) (hnoopt : gu.isOption = false) :
    deriveDecode (.struct a gs) (emptyBody (a.enc.getD .array) ++ rest) = .err .missing rest :=
  C09.derive_missing_mandatory a gs gb gu rest hnt htag hmem hlive hmand hnoopt

/-- concrete: the reader's mandatory field `#[n(1)]` is unknown to the writer — map and array. -/
theorem compat_missing_mandatory_example :
    let w : FTy := .struct { enc := some .map } [({ idx := 0 }, .int .u8)]
    let r : FTy := .struct { enc := some .map } [({ idx := 0 }, .int .u8), ({ idx := 1 }, .int .u8)]
    compatible w r = false ∧ deriveDecode r (deriveEncode w (.struct [.int 3])) = .err .missing [] := by
  refine ⟨by rfl, by rfl⟩

/-! ## Structs edited at the top level only -/

/-- the reader's slot loops (both encodings) on a body written by any other version, given what
    each item on the wire does to the reader (`StepH`: skip, or the field's action delivering a
    value / swallowing an unknown variant). -/
theorem compat_decode_fields (enc : Encoding) (fs : Fields) (vs : List Derive.Val) (gs : Fields) (rest : Bytes)
    (ρ : Nat → Option Derive.Val)
    (hacc : acceptedFields fs = true) (hnd : (liveIdxs fs).Nodup) (hty : hasFields fs vs = true)
    (hndR : (liveIdxs gs).Nodup)
    (hcell : enc = .array → ∀ m, maxPresent (specFields fs vs) = some m → ∀ i, i ≤ m →
      StepH gs (ρ i) i (encPref (cellAt (specFields fs vs) i)))
    (hentry : enc = .map → ∀ p ∈ encFields fs vs, p.nil = false → StepH gs (ρ p.idx) p.idx (tagBytes p.tag ++ p.body))
    (hopt : ∀ b u, (b, u) ∈ gs → b.skip = false → sigmaF enc fs vs ρ b.idx = none → slotInit u = none →
      (nilOf b u).isSome = true) :
    Derive.fieldsDec enc (decFields gs) (frame enc (encFields fs vs) ++ rest) = .ok (readerVals (sigmaF enc fs vs ρ) gs) rest :=
  fieldsDec_compat enc fs vs gs rest ρ hacc hnd hty hndR hcell hentry hopt

/-- C10 for structs whose shared fields are declared alike (`SameHyp`: shared fields have the
    same type, tag and codec; the reader's extra fields are optional; the writer's extra fields
    are skippable items), i.e. for any sequence of "add an optional field" / "drop a field" at
    new or gap indices, whatever the field types.  That `skip()` crosses the ignored items is a
    hypothesis inside `SameHyp` (C06.skip_exact gives it for items that fit a slice). -/
theorem compat_decode_struct_partial (a b : SAttr) (fs gs : Fields) (vs : List Derive.Val) (rest : Bytes)
    (haw : accepted (.struct a fs) = true) (har : accepted (.struct b gs) = true)
    (hv : hasTy (.struct a fs) (.struct vs) = true) (hc : C09.noClash (.struct a fs) (.struct vs) = true)
    (hta : a.transparent = false) (htb : b.transparent = false) (htag : a.tag = b.tag)
    (henc : a.enc.getD .array = b.enc.getD .array)
    (H : SameHyp (a.enc.getD .array) fs vs gs) :
    deriveDecode (.struct b gs) (deriveEncode (.struct a fs) (.struct vs) ++ rest)
      = .ok (.struct (expectSame fs vs gs)) rest := by
  obtain ⟨htok, hfa, hnd⟩ := accepted_struct haw
  rw [deriveEncode, encTy_struct, hta, if_neg Bool.false_ne_true, List.append_assoc, htag, henc]
  exact structDec_run htb (tagCheck_rt _ _ (htag ▸ htok)) (henc ▸ fieldsDec_same _ fs vs gs rest hfa hnd hv
    (C09.fields_roundtrip fs vs hfa hv hc) (accepted_struct har).2.1 (accepted_struct har).2.2 H)

/-- adding an optional field (new or gap index, array or map): the newer reader sees the
    older writer's fields unchanged and the new field as its nil value. -/
theorem compat_add_optional_field (a : SAttr) (fs : Fields) (fa : FAttr) (ft : FTy) (vs : List Derive.Val) (rest : Bytes)
    (haw : accepted (.struct a fs) = true) (har : accepted (.struct a ((fa, ft) :: fs)) = true)
    (hv : hasTy (.struct a fs) (.struct vs) = true) (hc : C09.noClash (.struct a fs) (.struct vs) = true)
    (hta : a.transparent = false) (hlive : fa.skip = false) (hopt : Optional fa ft) :
    deriveDecode (.struct a ((fa, ft) :: fs)) (deriveEncode (.struct a fs) (.struct vs) ++ rest)
      = .ok (.struct (nilVal fa ft :: defaultsFields fs vs)) rest := by
  have hndW := (accepted_struct haw).2.2
  have hfresh := (nodup_liveIdxs_cons (accepted_struct har).2.2).1 hlive
  have hv' : hasFields fs vs = true := by simpa only [hasTy] using hv
  have H : SameHyp (a.enc.getD .array) fs vs ((fa, ft) :: fs) := by
    refine sameHyp_of_mem _ fs _ vs hv' hndW (fun b u hbu hbs hi => ?_) (fun b u hbu hbs hi => ?_) (fun p hp hni => ?_)
    · rcases List.mem_cons.1 hbu with e | h
      · cases e; exact absurd hi hfresh
      · exact h
    · rcases List.mem_cons.1 hbu with e | h
      · cases e; exact hopt
      · exact absurd (mem_liveIdxs fs b u h hbs) hi
    · exact absurd (mem_liveIdxs_cons.2 (Or.inr (encFields_idx_live fs vs p hp))) hni
  rw [compat_decode_struct_partial a a fs ((fa, ft) :: fs) vs rest haw har hv hc hta hta rfl rfl H]
  simp only [expectSame, hlive, Bool.false_eq_true, if_false, lookupVal_none_of_not_mem fs vs fa.idx hfresh,
    expectSame_self fs vs hv' hndW]

/-- dropping a field: the reader that does not know a field ignores it whatever its type and
    content (its item is skipped), all other fields are intact. -/
theorem compat_drop_field (a : SAttr) (fs : Fields) (fa : FAttr) (ft : FTy) (v0 : Derive.Val) (vs : List Derive.Val) (rest : Bytes)
    (haw : accepted (.struct a ((fa, ft) :: fs)) = true) (har : accepted (.struct a fs) = true)
    (hv : hasTy (.struct a ((fa, ft) :: fs)) (.struct (v0 :: vs)) = true)
    (hc : C09.noClash (.struct a ((fa, ft) :: fs)) (.struct (v0 :: vs)) = true)
    (hta : a.transparent = false) (hlive : fa.skip = false)
    (hskip : ∀ r, Dec.skip true (tagBytes fa.tag ++ (encWith fa.codec (encTy ft) v0 ++ r)) = .ok () r) :
    deriveDecode (.struct a fs) (deriveEncode (.struct a ((fa, ft) :: fs)) (.struct (v0 :: vs)) ++ rest)
      = .ok (.struct (defaultsFields fs vs)) rest := by
  have hndW := (accepted_struct haw).2.2
  have hndR := (accepted_struct har).2.2
  have hv' : hasFields ((fa, ft) :: fs) (v0 :: vs) = true := by simpa only [hasTy] using hv
  have hv2 : hasFields fs vs = true := by simp only [hasFields, Bool.and_eq_true] at hv'; exact hv'.2
  have H : SameHyp (a.enc.getD .array) ((fa, ft) :: fs) (v0 :: vs) fs := by
    refine sameHyp_of_mem _ _ fs _ hv' hndW (fun b u hbu _ _ => List.mem_cons_of_mem _ hbu)
      (fun b u hbu hbs hi => absurd (mem_liveIdxs_cons.2 (Or.inr (mem_liveIdxs fs b u hbu hbs))) hi) (fun p hp hni r => ?_)
    simp only [encFields, hlive, Bool.false_eq_true, if_false, List.mem_cons] at hp
    rcases hp with rfl | hp
    · exact hskip r
    · exact absurd (encFields_idx_live fs vs p hp) hni
  rw [compat_decode_struct_partial a a ((fa, ft) :: fs) fs (v0 :: vs) rest haw har hv hc hta hta rfl rfl H,
    expectSame_drop fa ft v0 fs vs fs (nodup_liveIdxs_cons hndW).1, expectSame_self fs vs hv2 hndR]

/-- an unknown variant in an optional field becomes `None`: the action of a field that swallows
    unknown variants (`Option<Enum>`, nil-aware codec), on an item its decoder rejects with an
    unknown-variant error anywhere inside, skips the whole item — regular and `index_only` enums
    alike since the repair of F5 — and reports "keep the slot". -/
theorem compat_unknown_variant_swallowed (b : FAttr) (u : FTy) (X r r' : Bytes)
    (htag : tagOk b.tag = true) (hsw : swallows b u = true)
    (hdec : decWith b.codec (decTy u) (X ++ r) = .err .variant r')
    (hskip : Dec.skip true (tagBytes b.tag ++ (X ++ r)) = .ok () r) :
    action (fdOf b u) (tagBytes b.tag ++ (X ++ r)) = .ok none r :=
  action_swallow b u X r r' htag hsw hdec hskip

/-- a swallowed unknown variant does not disturb any sibling field. -/
theorem compat_unknown_variant_keeps_siblings (c : Nat) (X r : Bytes) : ∀ (gs : Fields) (ss : Slots),
    (∀ b u, (b, u) ∈ gs → b.skip = false → b.idx = c → action (fdOf b u) (X ++ r) = .ok none r) →
    c ∈ liveIdxs gs → gs.length = ss.length →
    runAt (decFields gs) ss c (X ++ r) = .ok ss r
  | [], _, _, hc, _ => by simp [liveIdxs] at hc
  | (b, u) :: gs, [], _, _, hl => by simp at hl
  | (b, u) :: gs, s :: ss, hact, hc, hl => by
    by_cases hcond : b.skip = false ∧ b.idx = c
    · have ha := hact b u (by simp) hcond.1 hcond.2
      simp only [fdOf] at ha
      simp only [decFields_cons, runAt, fdOf, hcond.1, hcond.2, Bool.not_false, Bool.true_and, beq_self_eq_true, if_true]
      rw [Dec.bind_run, ha]
      rfl
    · rw [runAt_ne b u gs s ss c _ fun hs e => hcond ⟨hs, e⟩, Dec.bind_ok _ _ _ _ _
        (compat_unknown_variant_keeps_siblings c X r gs ss (fun b' u' hm => hact b' u' (by simp [hm]))
          ((mem_liveIdxs_cons.1 hc).resolve_left hcond) (by simpa using hl))]
      rfl

/-- supplies `hdec` of `compat_unknown_variant_swallowed` (enum at top level of the field's type). -/
theorem compat_unknown_variant_error (e : EAttr) (us : Variants) (i : Nat) (rest : Bytes) (htag : e.tag = none)
    (hi : i < 4294967296) (hunk : i ∉ us.map (·.1.idx)) :
    decTy (.option (.enum e us)) ((if e.indexOnly then [] else Enc.array 2) ++ (Enc.u32 i ++ rest)) = .err .variant rest := by
  have h := C09.derive_unknown_variant e us i rest htag hi hunk
  have hs : startOk ((if e.indexOnly then [] else Enc.array 2) ++ (Enc.u32 i)) = true := by
    cases e.indexOnly
    · rfl
    · simpa using startOk_u32 i hi
  obtain ⟨ty, h1, h2⟩ := datatype_startOk _ rest hs
  simp only [List.append_assoc] at h1
  simp only [decTy, optionDec]
  rw [Dec.bind_run, h1]
  simp only [h2, beq_iff_eq, if_false]
  simp only [deriveDecode, decTy] at h
  rw [Dec.bind_run, h]

/-! ## Every version reads itself; adding / dropping a field or a variant is `compatible` in both directions -/

theorem onlyOptional_self (fs : Fields) : onlyOptional fs fs = true :=
  (onlyOptional_iff fs fs).2 fun b u hm hs hi => absurd (mem_liveIdxs fs b u hm hs) hi

theorem compat_blob_refl (t : FTy) (l : Bool) (hb : fieldBlob t = true) : compatTy l t t = true := by
  cases t with
  | blob k => simp [compatTy]
  | option t' =>
    cases t' with
    | blob k => simp [compatTy]
    | _ => simp [fieldBlob] at hb
  | _ => simp [fieldBlob] at hb

mutual
theorem compat_refl : ∀ (t : FTy) (l : Bool), accepted t = true → compatTy l t t = true
  | .int _, _, _ => by simp [compatTy]
  | .bool, _, _ => by simp [compatTy]
  | .text _, _, _ => by simp [compatTy]
  | .blob _, _, _ => by simp [compatTy]
  | .option t, l, ha => by simp only [accepted] at ha; simp only [compatTy]; exact compat_refl t l ha
  | .vec t, l, ha => by simp only [accepted] at ha; simp only [compatTy]; exact compat_refl t false ha
  | .struct a fs, l, ha => by
    obtain ⟨_, hfa, hnd⟩ := accepted_struct ha
    simp only [compatTy, beq_self_eq_true, Bool.true_and]
    cases htr : a.transparent
    · simp only [Bool.false_eq_true, if_false, Bool.and_eq_true]
      exact ⟨compatFields_refl fs fs hfa hnd (fun g hg => hg), onlyOptional_self fs⟩
    · simp only [if_true]
      match fs, accepted_transparent ha htr, hfa with
      | [(fa, ft)], _, hfa =>
        simp only [acceptedFields, Bool.and_eq_true, Bool.or_eq_true] at hfa
        simp only [compatOne, beq_self_eq_true, Bool.true_and]
        rcases hfa.1.2 with hb | hacc
        · exact compat_blob_refl ft false hb
        · exact compat_refl ft false hacc
      | [], h1, _ => simp at h1
      | _ :: _ :: _, h1, _ => simp at h1
  | .enum a vs, l, ha => by
    obtain ⟨_, hav, hnd⟩ := accepted_enum ha
    simp only [compatTy, beq_self_eq_true, Bool.true_and]
    exact compatVars_refl l a vs vs hav hnd (fun g hg => hg)
termination_by structural t => t
theorem compatFields_refl : ∀ (fs gs : Fields), acceptedFields fs = true → (liveIdxs gs).Nodup → (∀ g ∈ fs, g ∈ gs) →
    compatFields fs gs = true
  | [], _, _, _, _ => by simp [compatFields]
  | (fa, t) :: fs, gs, ha, hnd, hsub => by
    simp only [acceptedFields, Bool.and_eq_true, Bool.or_eq_true] at ha
    simp only [compatFields, Bool.and_eq_true]
    refine ⟨?_, compatFields_refl fs gs ha.2 hnd (fun g hg => hsub g (by simp [hg]))⟩
    cases hs : fa.skip
    · simp only [Bool.false_eq_true, if_false]
      rw [findField_of_mem gs fa t hnd (hsub _ (by simp)) hs]
      simp only [beq_self_eq_true, Bool.true_and]
      rcases ha.1.2 with hb | hacc
      · exact compat_blob_refl t _ hb
      · exact compat_refl t _ hacc
    · simp
termination_by structural fs => fs
theorem compatVars_refl (l : Bool) (e : EAttr) : ∀ (vs us : Variants), acceptedVars e vs = true →
    (us.map (·.1.idx)).Nodup → (∀ g ∈ vs, g ∈ us) → compatVars l e e vs us = true
  | [], _, _, _, _ => by simp [compatVars]
  | (va, fs) :: rest, us, ha, hnd, hsub => by
    simp only [acceptedVars, Bool.and_eq_true, decide_eq_true_eq] at ha
    obtain ⟨⟨⟨⟨⟨⟨hidx, htag⟩, hacc⟩, hndf⟩, hunit⟩, hio⟩, hrest⟩ := ha
    simp only [compatVars, Bool.and_eq_true]
    refine ⟨?_, compatVars_refl l e rest us hrest hnd (fun g hg => hsub g (by simp [hg]))⟩
    obtain ⟨k, hk⟩ := List.getElem?_of_mem (hsub (va, fs) (by simp))
    rw [findVar_nth us k 0 va fs hnd hk]
    simp only [beq_self_eq_true, Bool.true_and]
    cases hsh : va.shape
    · rfl
    all_goals
      simp only [Bool.and_eq_true]
      exact ⟨compatFields_refl fs fs hacc (nodupNat_nodup _ hndf) (fun g hg => hg), onlyOptional_self fs⟩
termination_by structural vs => vs
end

theorem compatible_refl (t : FTy) (ha : accepted t = true) : compatible t t = true := compat_refl t false ha

/-- "add an optional field" and "drop an optional field" are `compatible` in both directions. -/
theorem step_compatible_field (l : Bool) (a : SAttr) (fs : Fields) (fa : FAttr) (ft : FTy)
    (hold : accepted (.struct a fs) = true) (hnew : accepted (.struct a ((fa, ft) :: fs)) = true)
    (hta : a.transparent = false) (hlive : fa.skip = false) (hopt : Optional fa ft) :
    compatTy l (.struct a fs) (.struct a ((fa, ft) :: fs)) = true ∧
    compatTy l (.struct a ((fa, ft) :: fs)) (.struct a fs) = true := by
  obtain ⟨_, hacc, hndO⟩ := accepted_struct hold
  have hndN := (accepted_struct hnew).2.2
  have hfresh := (nodup_liveIdxs_cons hndN).1 hlive
  simp only [compatTy, hta, beq_self_eq_true, Bool.true_and, Bool.false_eq_true, if_false, Bool.and_eq_true]
  refine ⟨⟨compatFields_refl fs _ hacc hndN (fun g hg => by simp [hg]), (onlyOptional_iff _ _).2 fun b u hm hs hi => ?_⟩,
    ⟨?_, (onlyOptional_iff _ _).2 fun b u hm hs hi => absurd (mem_liveIdxs_cons.2 (Or.inr (mem_liveIdxs fs b u hm hs))) hi⟩⟩
  · -- the newer reader
    rcases List.mem_cons.1 hm with e | hm'
    · cases e; exact hopt
    · exact absurd (mem_liveIdxs fs b u hm' hs) hi
  · -- the older reader
    simp only [compatFields, hlive, Bool.false_eq_true, if_false, (findField_none fs fa.idx).2 hfresh, Bool.true_and]
    exact compatFields_refl fs fs hacc hndO (fun g hg => hg)

/-- "add a variant to an enum that is only used as an optional field". -/
theorem step_compatible_variant (e : EAttr) (vars : Variants) (va : VAttr) (fs : Fields)
    (hold : accepted (.enum e vars) = true) (hnew : accepted (.enum e ((va, fs) :: vars)) = true) :
    (∀ l, compatTy l (.enum e vars) (.enum e ((va, fs) :: vars)) = true) ∧
    compatTy true (.enum e ((va, fs) :: vars)) (.enum e vars) = true ∧
    compatTy false (.enum e ((va, fs) :: vars)) (.enum e vars) = false := by
  obtain ⟨_, hacc, hndO⟩ := accepted_enum hold
  have hndN := (accepted_enum hnew).2.2
  have hnf : findVar vars 0 va.idx = none := (findVar_none vars 0 va.idx).2 (List.nodup_cons.1 hndN).1
  refine ⟨fun l => ?_, ?_, ?_⟩
  · simp only [compatTy, beq_self_eq_true, Bool.true_and]
    exact compatVars_refl l e vars ((va, fs) :: vars) hacc hndN (fun g hg => by simp [hg])
  · simp only [compatTy, beq_self_eq_true, Bool.true_and, compatVars, hnf]
    exact compatVars_refl true e vars vars hacc hndO (fun g hg => hg)
  · simp [compatTy, compatVars, hnf]

/-! ## The general theorem: arbitrary compatible versions, at any nesting depth -/

/- One induction over the writer's accepted schema and a value of it (`TypedCases`), with the
reader's type quantified in the motive: for every reader type `r` with `compatTy l w r` the
projection is defined (`PjOk`: never `bad`, `unknown` only in lenient position), and — for a value
outside the `Some(x) = null` exclusion whose encoding fits a slice — the reader's decoder delivers
the projection, or reports an unknown-variant error where the projection is `unknown` (`TyC`); the
enclosing optional field turns that into its nil value after skipping the whole item
(`body_compat`).  Items the reader does not know are crossed by `skip()` (C06.skip_exact, the
derived encoding being a valid wire tree: `spec_valid`). -/

theorem compat_struct {l : Bool} {a b : SAttr} {fs gs : Fields} (hc : compatTy l (.struct a fs) (.struct b gs) = true)
    (hta : a.transparent = false) :
    b.transparent = false ∧ a.tag = b.tag ∧ a.enc.getD .array = b.enc.getD .array ∧ compatFields fs gs = true ∧
      onlyOptional gs fs = true := by
  simp only [compatTy, hta, Bool.false_eq_true, if_false, Bool.and_eq_true, beq_iff_eq] at hc
  exact ⟨hc.1.symm, hc.2.1.1.1, hc.2.1.1.2, hc.2.1.2, hc.2.2⟩

theorem compat_transparent {l : Bool} {a b : SAttr} {fs gs : Fields} (hc : compatTy l (.struct a fs) (.struct b gs) = true)
    (hta : a.transparent = true) : b.transparent = true ∧ ∃ gb u, gs = [(gb, u)] ∧ compatOne fs gb u = true := by
  simp only [compatTy, hta, if_true, Bool.and_eq_true, beq_iff_eq] at hc
  refine ⟨hc.1.symm, ?_⟩
  match gs, hc.2 with
  | [(gb, u)], h => exact ⟨gb, u, rfl, h⟩
  | [], h => simp at h
  | _ :: _ :: _, h => simp at h

/-- the motive of `compat_cases` at a type: every compatible reader type `r` projects `v`
    (`PjOk`), and decodes the writer's bytes to the projection (`TyC`) when `v` is outside the
    `Some(x) = null` exclusion and its encoding fits a slice. -/
def ReadBy (w : FTy) (v : Derive.Val) : Prop :=
  ∀ (r : FTy) (l : Bool), accField r = true → compatTy l w r = true →
    PjOk l w r v ∧ (C09.noClash w v = true → (encTy w v).length < 2 ^ 64 → TyC l w r v)

/-- the second part serves the single field of a transparent struct. -/
def FieldsReadBy (fs : Fields) (vs : List Derive.Val) : Prop :=
  (∀ gs, acceptedFields gs = true → compatFields fs gs = true →
    FieldsP gs fs vs ∧ (C09.noClashFields fs vs = true → FieldsFit fs vs → FieldsC gs fs vs)) ∧
  (∀ fa t x, fs = [(fa, t)] → vs = [x] → fa.skip = false → codecOk fa.codec t = true ∧ hasTy t x = true ∧ ReadBy t x)

/-- the motive of `compat_cases` at the row `k` of an enum: `ReadBy` unfolded for the reader's
    variant list `us`, on what the row writes after the wrapper (`C09.varIdx`, `C09.rowBytes`);
    `tyC_enum` wraps it up. -/
def VarsReadBy (a : EAttr) (vs : Variants) (k : Nat) (fvs : List Derive.Val) : Prop :=
  ∀ (l : Bool) (b : EAttr) (us : Variants), acceptedVars a vs = true → acceptedVars b us = true →
    compatVars l a b vs us = true →
    (projVars vs us k fvs ≠ .bad ∧ (projVars vs us k fvs = .unknown → l = true)) ∧
    (a.indexOnly = b.indexOnly → C09.noClashVars vs k fvs = true → (C09.rowBytes a vs k fvs).length < 2 ^ 64 →
      (∀ x, projVars vs us k fvs = .ok x → ∀ r,
        findVariant (decVars b us) 0 (C09.varIdx vs k) (C09.rowBytes a vs k fvs ++ r) = .ok x r) ∧
      (projVars vs us k fvs = .unknown → l = true ∧ ∀ r, ∃ r',
        findVariant (decVars b us) 0 (C09.varIdx vs k) (C09.rowBytes a vs k fvs ++ r) = .err .variant r'))

theorem readBy_ok {w : FTy} {v : Derive.Val} (h : ∀ r l, compatTy l w r = true →
    ∃ x, projTy w r v = .ok x ∧ ∀ rest, decTy r (encTy w v ++ rest) = .ok x rest) : ReadBy w v := by
  intro r l _ hc
  obtain ⟨x, hp, hd⟩ := h r l hc
  exact ⟨pjOk_of_ok hp, fun _ _ => tyC_of_ok hp hd⟩

theorem readBy_one (fa : FAttr) (t : FTy) (x : Derive.Val) (gb : FAttr) (u : FTy) (hfs : fa.skip = false)
    (hcW : codecOk fa.codec t = true) (hv : hasTy t x = true) (hR : ReadBy t x)
    (hcR : codecOk gb.codec u = true) (hau : accField u = true) (hc : compatOne [(fa, t)] gb u = true) :
    (∃ y, projOne [(fa, t)] u [x] = .ok y) ∧
    (C09.noClashFields [(fa, t)] [x] = true → (transparentBody (encFields [(fa, t)] [x])).length < 2 ^ 64 →
      ∀ y, projOne [(fa, t)] u [x] = .ok y → ∀ rest,
        decWith gb.codec (decTy u) (transparentBody (encFields [(fa, t)] [x]) ++ rest) = .ok y rest) := by
  simp only [compatOne, Bool.and_eq_true, beq_iff_eq] at hc
  obtain ⟨hP, hT⟩ := hR u false hau hc.2
  refine ⟨by simpa only [projOne] using pjOk_ok t u x hP, fun hcl hlen => ?_⟩
  simp only [C09.noClashFields, hfs, Bool.false_or, Bool.and_true] at hcl
  simp only [encFields, hfs, Bool.false_eq_true, if_false, transparentBody, projOne] at hlen ⊢
  exact (itemC_of_tyC false fa t x gb u hc.1 hcW hcR hv hc.2
    (fun hnn => hT hcl (by rwa [encWith_of_ne hnn] at hlen))).1

theorem compat_cases : TypedCases ReadBy FieldsReadBy VarsReadBy where
  int k i hr := readBy_ok fun r l hc => by
    cases r with
    | int k' =>
      have hk : k = k' := by simpa [compatTy] using hc
      subst hk
      exact ⟨.int i, rfl, fun rest => by simp only [encTy, decTy, Dec.bind_run, int_rt k _ rest hr]; rfl⟩
    | _ => cases hc
  bool b := readBy_ok fun r l hc => by
    cases r with
    | bool => exact ⟨.bool b, rfl, fun rest => by simp only [encTy, decTy, Dec.bind_run, Reads.bool b rest]; rfl⟩
    | _ => cases hc
  text k b hu hl := readBy_ok fun r l hc => by
    cases r with
    | text k' =>
      exact ⟨.text b, rfl, fun rest => by
        simp only [encTy, decTy, Dec.bind_run, Reads.str _ hu (by simpa [U64] using hl) rest]; rfl⟩
    | _ => cases hc
  blob k b hl := readBy_ok fun r l hc => by
    cases r with
    | blob k' =>
      exact ⟨.blob b, rfl, fun rest => by simp only [encTy, decTy, Dec.bind_run, Reads.bytes _ (by simpa [U64] using hl) rest]; rfl⟩
    | _ => cases hc
  none t := readBy_ok fun r l hc => by
    cases r with
    | option r' => exact ⟨.none, rfl, fun rest => by simp only [encTy, decTy]; exact optionDec_none _ rest⟩
    | _ => cases hc
  some t x _ _ ih r l har hc := by
    cases r with
    | option r' =>
      simp only [compatTy] at hc
      obtain ⟨hP, hT⟩ := ih r' l (accField_option har) hc
      refine ⟨(pjOk_tyC_option_some l t r' x hP).1, fun hcl hlen => ?_⟩
      simp only [C09.noClash, Bool.and_eq_true] at hcl
      exact (pjOk_tyC_option_some l t r' x hP).2 hcl.1 (hT hcl.2 hlen)
    | _ => cases hc
  vec t vs _ hl ih r l har hc := by
    cases r with
    | vec r' =>
      have har : accepted r' = true := har
      simp only [compatTy] at hc
      have h := fun x hx => (ih x hx).2 r' false (accField_of_accepted har) hc
      refine ⟨(pjOk_tyC_vec l t r' vs hl fun x hx => (h x hx).1).1, fun hcl hlen => ?_⟩
      simp only [C09.noClash, List.all_eq_true] at hcl
      rw [encTy_vec, List.length_append] at hlen
      refine (pjOk_tyC_vec l t r' vs hl fun x hx => (h x hx).1).2 fun x hx => (h x hx).2 (hcl x hx) ?_
      have := flatten_mem_length (vs.map (encTy t)) (encTy t x) (List.mem_map.2 ⟨x, hx, rfl⟩)
      omega
    | _ => cases hc
  struct a fs vs hta htok hfa hndW hv ih r l har hc := by
    cases r with
    | struct b gs =>
      obtain ⟨_, hga, hndR⟩ := accepted_struct (show accepted (.struct b gs) = true from har)
      obtain ⟨htb, htag, henc, hcf, hoo⟩ := compat_struct hc hta
      obtain ⟨hFP, hFC⟩ := ih.1 gs hga hcf
      obtain ⟨xs, hxs⟩ := assemble_total fs vs gs hndR hv hcf hoo hFP
      refine ⟨pjOk_of_ok (by simp only [projTy, hta, Bool.false_eq_true, if_false]; exact hxs), fun hcl hlen => ?_⟩
      simp only [C09.noClash] at hcl
      rw [encTy_struct, hta, if_neg Bool.false_ne_true, List.length_append] at hlen
      have hfl : (frame (a.enc.getD .array) (encFields fs vs)).length < 2 ^ 64 := by omega
      exact tyC_struct l a b fs gs vs hta htb htag htok henc
        ⟨hfa, hndW, hv, hga, hndR, hcf, hoo, hfl, hFC hcl (fieldsFit_of_frame _ fs vs hfa hndW hv hfl)⟩
    | _ => cases hc
  transparent a fa ft x hta hfs ih r l har hc := by
    cases r with
    | struct b gs =>
      obtain ⟨htb, gb, u, rfl, hc1⟩ := compat_transparent hc hta
      have har : accepted (.struct b [(gb, u)]) = true := har
      have hga := (accepted_struct har).2.1
      simp only [acceptedFields_cons, Bool.and_eq_true] at hga
      obtain ⟨hcW, hv, hR⟩ := ih.2 fa ft x rfl rfl hfs
      obtain ⟨⟨y, hy⟩, hT⟩ := readBy_one fa ft x gb u hfs hcW hv hR
        (fieldAttrOk_live hga.1.1 (by simpa using accepted_transparent har htb)).2.2 hga.1.2 hc1
      refine ⟨pjOk_of_ok (x := .struct [y]) (by simp only [projTy, hta, if_true, hy]), fun hcl hlen => ?_⟩
      simp only [C09.noClash] at hcl
      rw [encTy_struct, hta, if_pos rfl] at hlen
      exact tyC_transparent l a b _ gb u _ hta htb ⟨hT hcl hlen, by rw [hy]; simp⟩
    | _ => cases hc
  enum a vs k fvs _ htok haW hv ih r l har hc := by
    cases r with
    | «enum» b us =>
      have haR := (accepted_enum (show accepted (.enum b us) = true from har)).2.1
      simp only [compatTy, Bool.and_eq_true, beq_iff_eq] at hc
      obtain ⟨hP, hT⟩ := ih l b us haW haR hc.2
      refine ⟨⟨by simp only [projTy]; exact hP.1, fun hu => hP.2 (by simpa only [projTy] using hu)⟩, fun hcl hlen => ?_⟩
      simp only [C09.noClash] at hcl
      have hrl : (C09.rowBytes a vs k fvs).length < 2 ^ 64 := by
        simp only [encTy, C09.encVars_eq a vs k fvs haW hv, List.length_append] at hlen
        omega
      exact tyC_enum l a b vs us k fvs hc.1.1 htok hc.1.2 haW hv (varIdx_lt a vs k fvs haW hv) (hT hc.1.2 hcl hrl)
    | _ => cases hc
  nil := ⟨fun _ _ _ => ⟨trivial, fun _ _ => trivial⟩, fun _ _ _ h => nomatch h⟩
  cons a t v fs vs hlive hv hR ih := by
    refine ⟨fun gs hga hc => ?_, fun _ _ _ h1 h2 hs => by cases h1; cases h2; exact ⟨(hlive hs).2.2, hv, hR⟩⟩
    simp only [compatFields, Bool.and_eq_true] at hc
    obtain ⟨hFP, hFC⟩ := ih.1 gs hga hc.2
    have hitem : ∀ b u, a.skip = false → findField gs a.idx = some (b, u) →
        PjOk (optionalField b u) t u v ∧ (C09.noClash t v = true → (encWith a.codec (encTy t) v).length < 2 ^ 64 →
          ItemC (optionalField b u) a t v b u) := by
      intro b u hs hf
      obtain ⟨hbu, hbs, _⟩ := findField_mem gs a.idx b u hf
      have hc1 := hc.1
      simp only [hs, Bool.false_eq_true, if_false, hf, Bool.and_eq_true, beq_iff_eq] at hc1
      obtain ⟨hP, hT⟩ := hR u _ (accField_of_mem gs b u hga hbu) hc1.2
      exact ⟨hP, fun hcl hlen => itemC_of_tyC _ a t v b u (by simpa using hc1.1.2) (hlive hs).2.2
        (fieldOk_of_mem gs b u hga hbu hbs).2 hv hc1.2 (fun hnn => hT hcl (by rwa [encWith_of_ne hnn] at hlen))⟩
    refine ⟨⟨fun hs _ b u hf => (hitem b u hs hf).1, hFP⟩, fun hcl hfit => ?_⟩
    simp only [C09.noClashFields, Bool.and_eq_true, Bool.or_eq_true] at hcl
    refine ⟨fun hs hn b u hf => (hitem b u hs hf).2 (hcl.1.resolve_left fun h => ?_) (hfit.1 hs hn), hFC hcl.2 hfit.2⟩
    rw [hs] at h; cases h
  here e va fs rest fvs _ _ hacc hndW _ hv ih l b us haW haR hc := by
    obtain ⟨_, htag, _, _, hunitW, hioW⟩ := acceptedVars_mem e _ va fs haW (by simp)
    simp only [compatVars, Bool.and_eq_true] at hc
    refine ⟨row_proj l e b va fs rest us fvs hv haR hunitW hc.1 fun gs hga _ hcf => (ih.1 gs hga hcf).1,
      fun hio hcl hlen => ?_⟩
    simp only [C09.noClashVars] at hcl
    have hfl : (frame (va.enc.getD (e.enc.getD .array)) (encFields fs fvs)).length < 2 ^ 64 := by
      cases hsh : va.shape
      · cases hunitW hsh
        rw [show encFields [] fvs = [] by cases fvs <;> rfl, frame_nil]
        cases (va.enc.getD (e.enc.getD .array)) <;> decide
      all_goals
        simp only [C09.rowBytes, hsh, List.length_append] at hlen
        omega
    exact row_compat l e b va fs rest us fvs ⟨hio, htag, hacc, hndW, hunitW, hioW, haR, hv, hfl⟩ hc.1
      (benignVars_always e b ((va, fs) :: rest) us 0 fvs)
      fun gs hga _ hcf _ => (ih.1 gs hga hcf).2 hcl (fieldsFit_of_frame _ fs fvs hacc hndW hv hfl)
  there e r rest k fvs ih l b us haW haR hc := by
    obtain ⟨va, fs⟩ := r
    simp only [acceptedVars_cons, Bool.and_eq_true] at haW
    simp only [compatVars, Bool.and_eq_true] at hc
    simp only [projVars, C09.varIdx, C09.rowBytes, C09.noClashVars]
    exact ih l b us haW.2 haR hc.2

theorem compat_ty : ∀ (w r : FTy) (l : Bool) (v : Derive.Val), accepted w = true → accepted r = true →
    compatTy l w r = true → benignP true w r v = true → hasTy w v = true → C09.noClash w v = true →
    (encTy w v).length < 2 ^ 64 → TyC l w r v :=
  fun w r l v ha har hc _ hv hcl hlen =>
    (typed_ind_ty compat_cases w v (accField_of_accepted ha) hv r l (accField_of_accepted har) hc).2 hcl hlen

theorem proj_ty : ∀ (w r : FTy) (l : Bool) (v : Derive.Val), accepted w = true → accepted r = true →
    compatTy l w r = true → hasTy w v = true → PjOk l w r v :=
  fun w r l v ha har hc hv =>
    (typed_ind_ty compat_cases w v (accField_of_accepted ha) hv r l (accField_of_accepted har) hc).1

theorem compat_fields : ∀ (fs gs : Fields) (vs : List Derive.Val), acceptedFields fs = true → acceptedFields gs = true →
    (liveIdxs gs).Nodup → compatFields fs gs = true → benignFields true fs gs vs = true → hasFields fs vs = true →
    C09.noClashFields fs vs = true → FieldsFit fs vs → FieldsC gs fs vs :=
  fun fs gs vs ha hga _ hc _ hv hcl hfit => ((typed_ind_fields compat_cases fs vs ha hv).1 gs hga hc).2 hcl hfit

theorem proj_fields : ∀ (fs gs : Fields) (vs : List Derive.Val), acceptedFields fs = true → acceptedFields gs = true →
    compatFields fs gs = true → hasFields fs vs = true → FieldsP gs fs vs :=
  fun fs gs vs ha hga hc hv => ((typed_ind_fields compat_cases fs vs ha hv).1 gs hga hc).1

theorem compat_vars (l : Bool) (a b : EAttr) (us : Variants) : ∀ (vs : Variants) (k : Nat) (fvs : List Derive.Val),
    a.indexOnly = b.indexOnly → acceptedVars a vs = true → acceptedVars b us = true →
    compatVars l a b vs us = true → benignVars true a b vs us k fvs = true → hasVars vs k fvs = true →
    C09.noClashVars vs k fvs = true → (C09.rowBytes a vs k fvs).length < 2 ^ 64 →
    (∀ x, projVars vs us k fvs = .ok x → ∀ r,
      findVariant (decVars b us) 0 (C09.varIdx vs k) (C09.rowBytes a vs k fvs ++ r) = .ok x r) ∧
    (projVars vs us k fvs = .unknown → l = true ∧ ∀ r, ∃ r',
      findVariant (decVars b us) 0 (C09.varIdx vs k) (C09.rowBytes a vs k fvs ++ r) = .err .variant r') :=
  fun vs k fvs hio haW haR hc _ hv hcl hlen =>
    (typed_ind_vars compat_cases a vs k fvs haW hv l b us haW haR hc).2 hio hcl hlen

theorem proj_vars (l : Bool) (a b : EAttr) (us : Variants) : ∀ (vs : Variants) (k : Nat) (fvs : List Derive.Val),
    acceptedVars a vs = true → acceptedVars b us = true → compatVars l a b vs us = true → hasVars vs k fvs = true →
    projVars vs us k fvs ≠ .bad ∧ (projVars vs us k fvs = .unknown → l = true) :=
  fun vs k fvs haW haR hc hv => (typed_ind_vars compat_cases a vs k fvs haW hv l b us haW haR hc).1

theorem compat_one : ∀ (fs : Fields) (gb : FAttr) (u : FTy) (vs : List Derive.Val), acceptedFields fs = true →
    (match fs with | [(fa, _)] => !fa.skip | _ => false) = true → gb.skip = false → fieldAttrOk gb u = true →
    (fieldBlob u || accepted u) = true → compatOne fs gb u = true → benignOne true fs u vs = true →
    hasFields fs vs = true → C09.noClashFields fs vs = true → (transparentBody (encFields fs vs)).length < 2 ^ 64 →
    (∀ x, projOne fs u vs = .ok x → ∀ rest,
        decWith gb.codec (decTy u) (transparentBody (encFields fs vs) ++ rest) = .ok x rest) ∧
      projOne fs u vs ≠ .unknown := by
  intro fs gb u vs ha hs hgs hgok hgacc hc _ hv hcl hlen
  match fs, hs with
  | [(fa, t)], hs =>
    obtain ⟨x, rfl⟩ := hasFields_singleton hv
    have hfs : fa.skip = false := by simpa using hs
    simp only [acceptedFields_cons, hasFields_cons, Bool.and_eq_true] at ha hv
    obtain ⟨⟨y, hy⟩, hT⟩ := readBy_one fa t x gb u hfs (fieldAttrOk_live ha.1.1 hfs).2.2 hv.1
      (typed_ind_ty compat_cases t x ha.1.2 hv.1) (fieldAttrOk_live hgok hgs).2.2 hgacc hc
    exact ⟨hT hcl hlen, by rw [hy]; simp⟩
  | [], hs => simp at hs
  | _ :: _ :: _, hs => simp at hs

theorem proj_one : ∀ (fs : Fields) (gb : FAttr) (u : FTy) (vs : List Derive.Val), acceptedFields fs = true →
    (match fs with | [(fa, _)] => !fa.skip | _ => false) = true → (fieldBlob u || accepted u) = true →
    compatOne fs gb u = true → hasFields fs vs = true → ∃ x, projOne fs u vs = .ok x := by
  intro fs gb u vs ha hs hgacc hc hv
  match fs, hs with
  | [(fa, t)], _ =>
    obtain ⟨x, rfl⟩ := hasFields_singleton hv
    simp only [acceptedFields_cons, hasFields_cons, compatOne, Bool.and_eq_true] at ha hv hc
    simpa only [projOne] using pjOk_ok t u x (typed_ind_ty compat_cases t x ha.1.2 hv.1 u false hgacc hc.2).1
  | [], hs => simp at hs
  | _ :: _ :: _, hs => simp at hs

/-! ## C10, main statements -/

theorem project_defined (w r : FTy) (v : Derive.Val) (haw : accepted w = true) (har : accepted r = true)
    (hc : compatible w r = true) (hv : hasTy w v = true) : ∃ pv, project w r v = .ok pv :=
  pjOk_ok w r v (proj_ty w r false v haw har hc hv)

/-- C10 (`compat_decode_statement` with the extra hypothesis `benign`).  For any two accepted
    versions `w`, `r` of a type with `compatible w r` — it holds across each documented edit
    (`step_compatible`; not across every composition of them, `compat_not_transitive`): renaming,
    adding / dropping optional fields at new or gap indices in array or map encoding, adding
    variants to an enum used as an optional field, unit variant ↔ variant with only optional
    fields, at any nesting depth (structs, variants, `Option`, `Vec`, transparent wrappers) —
    and every value `v` of the writer's version, the reader's decoder on the writer's
    encoding followed by arbitrary bytes returns exactly the documented projection and stops at
    the end of the encoding: shared fields equal (recursively projected), optional fields unknown
    to the writer nil, fields unknown to the reader ignored whatever their content, an unknown
    variant in an optional field `None` without disturbing any sibling.  `benign` is not used
    (`benign_always`); `noClash` is the `Some(x) = null` exclusion of C09. -/
theorem compat_decode_partial (w r : FTy) (v : Derive.Val) (rest : Bytes) (haw : accepted w = true)
    (har : accepted r = true) (hc : compatible w r = true) (hb : benign w r v = true) (hv : hasTy w v = true)
    (hcl : C09.noClash w v = true) (hfit : (deriveEncode w v).length < 2 ^ 64) :
    ∀ pv, project w r v = .ok pv → deriveDecode r (deriveEncode w v ++ rest) = .ok pv rest :=
  fun pv hp => (compat_ty w r false v haw har hc hb hv hcl hfit).ok pv hp rest

theorem compat_decode (w r : FTy) (v : Derive.Val) (rest : Bytes) (haw : accepted w = true)
    (har : accepted r = true) (hc : compatible w r = true) (hb : benign w r v = true) (hv : hasTy w v = true)
    (hcl : C09.noClash w v = true) (hfit : (deriveEncode w v).length < 2 ^ 64) :
    ∃ pv, project w r v = .ok pv ∧ deriveDecode r (deriveEncode w v ++ rest) = .ok pv rest := by
  obtain ⟨pv, hp⟩ := project_defined w r v haw har hc hv
  exact ⟨pv, hp, compat_decode_partial w r v rest haw har hc hb hv hcl hfit pv hp⟩

/-- C10 in full. -/
theorem compat_decode_full : compat_decode_statement :=
  fun w r v rest haw har hc hv hcl hfit pv hp =>
    compat_decode_partial w r v rest haw har hc (benign_always w r v) hv hcl hfit pv hp

theorem compat_decode_full_exists (w r : FTy) (v : Derive.Val) (rest : Bytes) (haw : accepted w = true)
    (har : accepted r = true) (hc : compatible w r = true) (hv : hasTy w v = true)
    (hcl : C09.noClash w v = true) (hfit : (deriveEncode w v).length < 2 ^ 64) :
    ∃ pv, project w r v = .ok pv ∧ deriveDecode r (deriveEncode w v ++ rest) = .ok pv rest :=
  compat_decode w r v rest haw har hc (benign_always w r v) hv hcl hfit

/-- in lenient position (the declared type of an optional field) the writer's enum may have
    variants the reader does not know: then the reader's decoder reports an unknown-variant error
    (which the enclosing field turns into `None`). -/
theorem compat_decode_lenient (w r : FTy) (v : Derive.Val) (rest : Bytes) (haw : accepted w = true)
    (har : accepted r = true) (hc : compatTy true w r = true) (hb : benign w r v = true) (hv : hasTy w v = true)
    (hcl : C09.noClash w v = true) (hfit : (deriveEncode w v).length < 2 ^ 64) :
    (∃ pv, project w r v = .ok pv ∧ deriveDecode r (deriveEncode w v ++ rest) = .ok pv rest) ∨
    (project w r v = .unknown ∧ ∃ r', deriveDecode r (deriveEncode w v ++ rest) = .err .variant r') := by
  have hT := compat_ty w r true v haw har hc hb hv hcl hfit
  have hP := proj_ty w r true v haw har hc hv
  cases hp : projTy w r v with
  | ok pv => exact Or.inl ⟨pv, hp, hT.ok pv hp rest⟩
  | unknown => exact Or.inr ⟨hp, (hT.unk hp).2 rest⟩
  | bad => exact absurd hp hP.nb

/-- the projection onto the same version is `withDefaults`, by C09's round trip. -/
theorem compat_decode_self (t : FTy) (v : Derive.Val) (rest : Bytes) (ha : accepted t = true) (hb : benign t t v = true)
    (hv : hasTy t v = true) (hcl : C09.noClash t v = true) (hfit : (deriveEncode t v).length < 2 ^ 64) :
    project t t v = .ok (withDefaults t v) := by
  obtain ⟨pv, hp, hd⟩ := compat_decode t t v rest ha ha (compatible_refl t ha) hb hv hcl hfit
  have := C09.derive_roundtrip t v ha hv hcl rest
  rw [this] at hd
  cases hd
  exact hp

/-! ### non-vacuity: nesting, gap and new indices, both encodings, a new variant in optional position, unit → struct variant, `Vec` of edited structs -/

def exOld : FTy := .struct {}
  [({ idx := 0 }, .int .u8),
   ({ idx := 1 }, .option (.enum {} [({ idx := 0 }, []), ({ idx := 1 }, [])])),
   ({ idx := 3 }, .vec (.struct { enc := some .map } [({ idx := 0 }, .text .string)]))]

def exNew : FTy := .struct {}
  [({ idx := 0 }, .int .u8),
   ({ idx := 1 }, .option (.enum {} [({ idx := 0 }, []), ({ idx := 1, shape := .named }, [({ idx := 0 }, .option .bool)]), ({ idx := 2 }, [])])),
   ({ idx := 2 }, .option (.int .u16)),
   ({ idx := 3 }, .vec (.struct { enc := some .map } [({ idx := 0 }, .text .string), ({ idx := 5 }, .option .bool)]))]

def exNewVal : Derive.Val := .struct [.int 7, .some (.enum 2 []), .some (.int 300), .list [.struct [.text [0x61], .some (.bool true)]]]
def exNewVal' : Derive.Val := .struct [.int 7, .some (.enum 1 [.some (.bool true)]), .none, .list []]
def exOldVal : Derive.Val := .struct [.int 9, .some (.enum 1 []), .list [.struct [.text [0x62]]]]

theorem compat_example_hyps :
    accepted exOld = true ∧ accepted exNew = true ∧ compatible exOld exNew = true ∧ compatible exNew exOld = true ∧
    hasTy exNew exNewVal = true ∧ benign exNew exOld exNewVal = true ∧ C09.noClash exNew exNewVal = true ∧
    hasTy exOld exOldVal = true ∧ benign exOld exNew exOldVal = true ∧ C09.noClash exOld exOldVal = true := by
  refine ⟨by rfl, by rfl, by rfl, by rfl, by rfl, by rfl, by rfl, by rfl, by rfl, by rfl⟩

/-- the older reader on the newer writer: the unknown variant becomes `None`, the new fields are
    ignored (at top level and inside the `Vec`), the trailing bytes are untouched. -/
example : deriveDecode exOld (deriveEncode exNew exNewVal ++ [1, 2])
    = .ok (.struct [.int 7, .none, .list [.struct [.text [0x61]]]]) [1, 2] :=
  compat_decode_partial exNew exOld exNewVal [1, 2] (by rfl) (by rfl) (by rfl) (by rfl) (by rfl) (by rfl) (by decide) _ (by rfl)

/-- struct variant → unit variant (the body is skipped). -/
example : deriveDecode exOld (deriveEncode exNew exNewVal' ++ [1, 2])
    = .ok (.struct [.int 7, .some (.enum 1 []), .list []]) [1, 2] :=
  compat_decode_partial exNew exOld exNewVal' [1, 2] (by rfl) (by rfl) (by rfl) (by rfl) (by rfl) (by rfl) (by decide) _ (by rfl)

/-- the newer reader on the older writer: unit variant → struct variant with its optional field
    `None`, the optional field added at the gap index 2 reads the writer's gap `null` as `None`,
    the new field of the map-encoded element struct is `None`. -/
example : deriveDecode exNew (deriveEncode exOld exOldVal ++ [3])
    = .ok (.struct [.int 9, .some (.enum 1 [.none]), .none, .list [.struct [.text [0x62], .none]]]) [3] :=
  compat_decode_partial exOld exNew exOldVal [3] (by rfl) (by rfl) (by rfl) (by rfl) (by rfl) (by rfl) (by decide) _ (by rfl)

/-- the same pair with a *tag* on the field added at the gap index was K5 (a type error); since the
    repair the bare `null` at the gap is read as `None` there too. -/
example :
    let exNewK5 : FTy := .struct {}
      [({ idx := 0 }, .int .u8), ({ idx := 1 }, .option (.enum {} [({ idx := 0 }, []), ({ idx := 1 }, [])])),
       ({ idx := 2, tag := some 7 }, .option (.int .u16)), ({ idx := 3 }, .vec (.int .u8))]
    let exOldK5 : FTy := .struct {}
      [({ idx := 0 }, .int .u8), ({ idx := 1 }, .option (.enum {} [({ idx := 0 }, []), ({ idx := 1 }, [])])),
       ({ idx := 3 }, .vec (.int .u8))]
    compatible exOldK5 exNewK5 = true ∧
    deriveDecode exNewK5 (deriveEncode exOldK5 (.struct [.int 9, .none, .list []]))
      = .ok (.struct [.int 9, .none, .none, .list []]) [] := by
  refine ⟨by rfl, by rfl⟩

/-! ## Renaming, and all constructors of `CompatStep`, are instances of `compatible` in both directions -/

theorem isOption_anon (t : FTy) : (C08.anonymize t).isOption = t.isOption := by
  cases t <;> simp [C08.anonymize, FTy.isOption]

theorem optionalField_anon (a : FAttr) (t : FTy) :
    optionalField { a with name := "", isB := false } (C08.anonymize t) = optionalField a t := by
  simp [optionalField, nilOf, isOption_anon]

theorem findField_anon : ∀ (gs : Fields) (i : Nat),
    findField (C08.anonFields gs) i = (findField gs i).map fun g => ({ g.1 with name := "", isB := false }, C08.anonymize g.2)
  | [], _ => rfl
  | (b, u) :: gs, i => by
    simp only [C08.anonFields, findField]
    split
    · rfl
    · exact findField_anon gs i

theorem findVar_anon : ∀ (us : Variants) (pos i : Nat),
    findVar (C08.anonVars us) pos i =
      (findVar us pos i).map fun x => (x.1, { x.2.1 with name := "", isB := false }, C08.anonFields x.2.2)
  | [], _, _ => rfl
  | (vb, gs) :: us, pos, i => by
    simp only [C08.anonVars, findVar]
    split
    · rfl
    · exact findVar_anon us (pos + 1) i

theorem allOptional_anon (gs : Fields) : allOptional (C08.anonFields gs) = allOptional gs := by
  induction gs with
  | nil => rfl
  | cons g gs ih =>
    obtain ⟨b, u⟩ := g
    simp only [allOptional, C08.anonFields, List.all_cons] at ih ⊢
    rw [ih, optionalField_anon]

theorem onlyOptional_anon (gs fs : Fields) : onlyOptional (C08.anonFields gs) (C08.anonFields fs) = onlyOptional gs fs := by
  induction gs with
  | nil => rfl
  | cons g gs ih =>
    obtain ⟨b, u⟩ := g
    simp only [onlyOptional, C08.anonFields, List.all_cons] at ih ⊢
    rw [ih, optionalField_anon, findField_anon]
    cases findField fs b.idx <;> simp

mutual
theorem compat_anon : ∀ (w r : FTy) (l : Bool), compatTy l (C08.anonymize w) (C08.anonymize r) = compatTy l w r
  | .int _, r, l => by cases r <;> rfl
  | .bool, r, l => by cases r <;> rfl
  | .text _, r, l => by cases r <;> rfl
  | .blob _, r, l => by cases r <;> rfl
  | .option w, r, l => by
    cases r <;> simp only [C08.anonymize, compatTy]
    exact compat_anon w _ l
  | .vec w, r, l => by
    cases r <;> simp only [C08.anonymize, compatTy]
    exact compat_anon w _ false
  | .struct a fs, r, l => by
    cases r <;> simp only [C08.anonymize, compatTy]
    rename_i b gs
    rw [compatFields_anon fs gs, onlyOptional_anon]
    congr 1
    cases a.transparent
    · rfl
    · simp only [if_true]
      match gs with
      | [(gb, u)] => simp only [C08.anonFields]; exact compatOne_anon fs gb u
      | [] => rfl
      | _ :: _ :: _ => rfl
  | .enum a vs, r, l => by
    cases r <;> simp only [C08.anonymize, compatTy]
    rename_i b us
    rw [compatVars_anon l a b vs us]
termination_by structural w => w
theorem compatOne_anon : ∀ (fs : Fields) (gb : FAttr) (u : FTy),
    compatOne (C08.anonFields fs) { gb with name := "", isB := false } (C08.anonymize u) = compatOne fs gb u
  | [], _, _ => rfl
  | [(fa, t)], gb, u => by simp only [C08.anonFields, compatOne]; rw [compat_anon t u false]
  | _ :: _ :: _, _, _ => rfl
termination_by structural fs => fs
theorem compatFields_anon : ∀ (fs gs : Fields), compatFields (C08.anonFields fs) (C08.anonFields gs) = compatFields fs gs
  | [], _ => rfl
  | (fa, t) :: fs, gs => by
    simp only [C08.anonFields, compatFields]
    rw [compatFields_anon fs gs, findField_anon]
    congr 1
    cases fa.skip
    · simp only [Bool.false_eq_true, if_false]
      cases hf : findField gs fa.idx with
      | none => rfl
      | some g =>
        obtain ⟨gb, u⟩ := g
        simp only [Option.map_some, optionalField_anon, compat_anon t u]
    · rfl
termination_by structural fs => fs
theorem compatVars_anon (l : Bool) (a b : EAttr) : ∀ (vs us : Variants),
    compatVars l { a with name := "" } { b with name := "" } (C08.anonVars vs) (C08.anonVars us) = compatVars l a b vs us
  | [], _ => rfl
  | (va, fs) :: rest, us => by
    simp only [C08.anonVars, compatVars]
    rw [compatVars_anon l a b rest us, findVar_anon]
    congr 1
    cases hf : findVar us 0 va.idx with
    | none => rfl
    | some x =>
      obtain ⟨p, vb, gs⟩ := x
      simp only [Option.map_some, allOptional_anon, compatFields_anon, onlyOptional_anon]
termination_by structural vs => vs
end

/-- the same Boolean as `Derive.accField`, whose lemmas apply as they stand. -/
def accF (t : FTy) : Bool := fieldBlob t || accepted t

theorem compat_self (t : FTy) (l : Bool) (h : accF t = true) : compatTy l t t = true :=
  (Bool.or_eq_true_iff.1 h).elim (compat_blob_refl t l) (compat_refl t l)

/-- "Renaming every identifier" (and `n` ↔ `b`). -/
theorem step_compatible_rename (l : Bool) (t t' : FTy) (h : C08.anonymize t = C08.anonymize t')
    (ha : accF t = true) (ha' : accF t' = true) : compatTy l t t' = true ∧ compatTy l t' t = true := by
  constructor
  · rw [← compat_anon t t' l, ← h, compat_anon t t l]; exact compat_self t l ha
  · rw [← compat_anon t' t l, h, compat_anon t' t' l]; exact compat_self t' l ha'

/-- "turn a unit variant into a struct or tuple variant if all fields are optional". -/
theorem step_compatible_unit (l : Bool) (e : EAttr) (va : VAttr) (sh : Shape) (fs : Fields) (vars : Variants)
    (hsh : va.shape = .unit) (hne : sh ≠ .unit) (hall : allOptional fs = true)
    (hold : accepted (.enum e ((va, []) :: vars)) = true)
    (hnew : accepted (.enum e (({ va with shape := sh }, fs) :: vars)) = true) :
    compatTy l (.enum e ((va, []) :: vars)) (.enum e (({ va with shape := sh }, fs) :: vars)) = true ∧
    compatTy l (.enum e (({ va with shape := sh }, fs) :: vars)) (.enum e ((va, []) :: vars)) = true := by
  obtain ⟨_, haO, hndO⟩ := accepted_enum hold
  have hndN := (accepted_enum hnew).2.2
  simp only [acceptedVars, Bool.and_eq_true] at haO
  constructor
  · simp only [compatTy, beq_self_eq_true, Bool.true_and, compatVars, findVar, if_true, Bool.and_eq_true]
    refine ⟨?_, compatVars_refl l e vars _ haO.2 hndN (fun g hg => by simp [hg])⟩
    cases sh with
    | unit => exact absurd rfl hne
    | tuple => simp [hsh, hall]
    | named => simp [hsh, hall]
  · simp only [compatTy, beq_self_eq_true, Bool.true_and, compatVars, findVar, if_true, Bool.and_eq_true]
    refine ⟨by simp [hsh], compatVars_refl l e vars _ haO.2 hndO (fun g hg => by simp [hg])⟩

theorem step_compatible_inField (l : Bool) (a : SAttr) (fa : FAttr) (t t' : FTy) (fs : Fields)
    (hta : a.transparent = false) (hlive : fa.skip = false) (hopt : optionalField fa t = optionalField fa t')
    (h : compatTy (optionalField fa t) t t' = true ∧ compatTy (optionalField fa t) t' t = true)
    (hold : accepted (.struct a ((fa, t) :: fs)) = true) (hnew : accepted (.struct a ((fa, t') :: fs)) = true) :
    compatTy l (.struct a ((fa, t) :: fs)) (.struct a ((fa, t') :: fs)) = true ∧
    compatTy l (.struct a ((fa, t') :: fs)) (.struct a ((fa, t) :: fs)) = true := by
  obtain ⟨_, haO, hndO⟩ := accepted_struct hold
  have hndN := (accepted_struct hnew).2.2
  simp only [acceptedFields, Bool.and_eq_true] at haO
  have key : ∀ (x y : FTy), compatTy (optionalField fa y) x y = true → (liveIdxs ((fa, y) :: fs)).Nodup →
      compatTy l (.struct a ((fa, x) :: fs)) (.struct a ((fa, y) :: fs)) = true := by
    intro x y hc hndy
    simp only [compatTy, hta, beq_self_eq_true, Bool.true_and, Bool.false_eq_true, if_false, Bool.and_eq_true]
    refine ⟨?_, (onlyOptional_iff _ _).2 fun b u hm hs hi => absurd ?_ hi⟩
    · simp only [compatFields, hlive, Bool.false_eq_true, if_false, findField, Bool.not_false, Bool.true_and,
        beq_self_eq_true, if_true, Bool.and_eq_true]
      exact ⟨hc, compatFields_refl fs _ haO.2 hndy (fun g hg => by simp [hg])⟩
    · -- the live indices do not depend on the field's type
      rcases List.mem_cons.1 hm with e | hm'
      · cases e; exact mem_liveIdxs_cons.2 (Or.inl ⟨hs, rfl⟩)
      · exact mem_liveIdxs_cons.2 (Or.inr (mem_liveIdxs fs b u hm' hs))
  exact ⟨key t t' (by rw [← hopt]; exact h.1) hndN, key t' t h.2 hndO⟩

theorem accF_field (a : SAttr) (fa : FAttr) (t : FTy) (fs : Fields) (h : accepted (.struct a ((fa, t) :: fs)) = true) :
    accF t = true :=
  accField_of_mem _ fa t (accepted_struct h).2.1 List.mem_cons_self

theorem accepted_of_accF_struct {a : SAttr} {fs : Fields} (h : accF (.struct a fs) = true) : accepted (.struct a fs) = true := by
  simpa [accF, fieldBlob] using h

theorem accepted_of_accF_enum {e : EAttr} {vs : Variants} (h : accF (.enum e vs) = true) : accepted (.enum e vs) = true := by
  simpa [accF, fieldBlob] using h

theorem accF_vec {t : FTy} (h : accF (.vec t) = true) : accF t = true :=
  accField_of_accepted (show accepted t = true from h)

/-- every documented edit relates two versions that are `compatible` in both directions. -/
theorem step_compatible {l : Bool} {old new : FTy} (h : CompatStep l old new) :
    accF old = true → accF new = true → compatTy l old new = true ∧ compatTy l new old = true := by
  induction h with
  | rename l t t' he => exact fun ha ha' => step_compatible_rename l t t' he ha ha'
  | addField l a fs fa ft hta hlive hopt _ =>
    intro ha ha'
    exact step_compatible_field l a fs fa ft (accepted_of_accF_struct ha) (accepted_of_accF_struct ha') hta hlive hopt
  | dropField l a fs fa ft hta hlive hopt _ =>
    intro ha ha'
    exact (step_compatible_field l a fs fa ft (accepted_of_accF_struct ha') (accepted_of_accF_struct ha) hta hlive hopt).symm
  | addVariant e vars va fs _ =>
    intro ha ha'
    have := step_compatible_variant e vars va fs (accepted_of_accF_enum ha) (accepted_of_accF_enum ha')
    exact ⟨this.1 true, this.2.1⟩
  | unitToFields l e va sh fs vars hsh hne hall _ =>
    intro ha ha'
    exact step_compatible_unit l e va sh fs vars hsh hne hall (accepted_of_accF_enum ha) (accepted_of_accF_enum ha')
  | inField l a fa t t' fs hta hlive _ hopt ih =>
    intro ha ha'
    have ha1 := accepted_of_accF_struct ha
    have ha2 := accepted_of_accF_struct ha'
    exact step_compatible_inField l a fa t t' fs hta hlive hopt
      (ih (accF_field a fa t fs ha1) (accF_field a fa t' fs ha2)) ha1 ha2
  | inOption l t t' _ ih => exact fun ha ha' => by simpa [compatTy] using ih (accField_option ha) (accField_option ha')
  | inVec l t t' _ ih => exact fun ha ha' => by simpa [compatTy] using ih (accF_vec ha) (accF_vec ha')

/-- C10 for the documented edits: for every single documented edit between two accepted versions
    (at any depth, through the congruence constructors), each version reads what the other wrote
    and obtains the documented projection. -/
theorem compat_decode_step (old new : FTy) (h : CompatStep false old new) (ho : accepted old = true)
    (hn : accepted new = true) :
    (∀ v rest, hasTy old v = true → benign old new v = true → C09.noClash old v = true →
      (deriveEncode old v).length < 2 ^ 64 →
      ∃ pv, project old new v = .ok pv ∧ deriveDecode new (deriveEncode old v ++ rest) = .ok pv rest) ∧
    (∀ v rest, hasTy new v = true → benign new old v = true → C09.noClash new v = true →
      (deriveEncode new v).length < 2 ^ 64 →
      ∃ pv, project new old v = .ok pv ∧ deriveDecode old (deriveEncode new v ++ rest) = .ok pv rest) := by
  obtain ⟨h1, h2⟩ := step_compatible h (by simp [accF, ho]) (by simp [accF, hn])
  exact ⟨fun v rest hv hb hc hl => compat_decode old new v rest ho hn h1 hb hv hc hl,
    fun v rest hv hb hc hl => compat_decode new old v rest hn ho h2 hb hv hc hl⟩


end Minicbor.C10
