/-
  C16 — AsyncWriter delivers whole frames in order under short writes and cancel+sync.
  Model: `Minicbor/Frame.lean` (`syncLoop`, `AWCore.begin`,
  `WSys.run`); the sync-loop specification (`syncLoop_spec`, induction over sink scripts of
  arbitrary length and content) is in `Lemmas/AsyncWrite.lean`.

  A schedule = the sink script (`List Ev`: accept up to k bytes / Pending / transient error /
  accept 0, one event per `poll_write`) and the caller's acts (`List (WAct α)`: call `write v`
  or `sync` and poll the new future once, poll the pending future again, drop it).  The
  property's precondition — after a dropped (or failed) write the caller drives `sync` to
  completion before the next `write` — is `Disciplined`, defined on what the caller can see.
-/
import Minicbor.Lemmas.AsyncWrite

namespace Minicbor.C16
open Minicbor.Frame

/-- Dropping a pending `write` / `sync` future is the identity on the writer and is not
    observable (the futures hold nothing but the `&mut self` borrow). -/
theorem drop_is_identity (c : Codec α) (s : WSys) :
    (s.act c .drop).1.wr = s.wr ∧ (s.act c .drop).2 = none := ⟨rfl, rfl⟩

/-- what the caller knows after an act: is a frame possibly still in flight?  Set by a
    `Pending` answer or an I/O error, cleared by `Ok` from `write` or `sync`; an encode /
    length error and a drop change nothing. -/
def dirtyAfter (dirty : Bool) : Option (Poll WRet) → Bool
  | some .pending => true
  | some (.ready (.wrote (.ok _))) => false
  | some (.ready (.synced (.ok _))) => false
  | some (.ready (.wrote (.error (.io _)))) => true
  | some (.ready (.synced (.error (.io _)))) => true
  | _ => dirty

/-- The property's precondition: `write` is only called when nothing is in flight, i.e.
    the previous `write` / `sync` call completed with `Ok` (a write future that was dropped, or
    that failed with an I/O error, is followed by a `sync` that returns `Ok`). -/
def Disciplined (c : Codec α) : Bool → List (WAct α) → WSys → Prop
  | _, [], _ => True
  | dirty, a :: as, s =>
    (match a with | .write _ => dirty = false | _ => True) ∧
    Disciplined c (dirtyAfter dirty (s.act c a).2) as (s.act c a).1

instance Disciplined.dec (c : Codec α) : ∀ (dirty : Bool) (acts : List (WAct α)) (s : WSys),
    Decidable (Disciplined c dirty acts s)
  | _, [], _ => isTrue trivial
  | dirty, a :: as, s =>
    have : Decidable (match a with | .write _ => dirty = false | _ => True) := by
      cases a <;> simp only <;> infer_instance
    have := Disciplined.dec c (dirtyAfter dirty (s.act c a).2) as (s.act c a).1
    inferInstanceAs (Decidable (_ ∧ _))

/-- the payloads of the values whose `write` got past encoding and the `max_len` check, in
    call order: exactly these must reach the sink. -/
def armed (c : Codec α) (ml : Nat) : List (WAct α) → List Bytes
  | [] => []
  | .write v :: as =>
    (match c.enc v with
      | .ok p => if p.length ≤ ml then [p] else []
      | .error _ => []) ++ armed c ml as
  | _ :: as => armed c ml as

theorem armed_cons (c : Codec α) (ml : Nat) (a : WAct α) (as : List (WAct α)) :
    armed c ml (a :: as) = armed c ml [a] ++ armed c ml as := by
  cases a <;> simp [armed]

/-- the invariant; `A` are the armed payloads so far. -/
inductive Rep (s : WSys) (ml : Nat) (dirty : Bool) (A : List Bytes) : Prop
  | clean : s.wr.core.state = .none → s.wr.core.maxLen = ml → s.wr.snk.out = frames A → s.fut = none →
      Rep s ml dirty A
  | inFlight (init : List Bytes) (p : Bytes) (o : Nat) : dirty = true → A = init ++ [p] →
      s.wr.core = ⟨.writeFrom o, frame p, ml⟩ → o < (frame p).length →
      s.wr.snk.out = frames init ++ (frame p).take o → Rep s ml dirty A

def retOf (f : WFut) (r : Except FErr Nat) : WRet :=
  match f with
  | .write => .wrote r
  | .sync => .synced (r.map fun _ => ())

theorem pollSync_eq (w : AWriter) (f : WFut) :
    w.pollSync f =
      match syncLoop w.core w.snk.out w.snk.script with
      | (.pending, core, snk) => (.pending, ⟨core, snk⟩)
      | (.ready r, core, snk) => (.ready (retOf f (r.map fun _ => core.buffer.length - 4)), ⟨core, snk⟩) := by
  unfold AWriter.pollSync
  rcases syncLoop w.core w.snk.out w.snk.script with ⟨_ | _ | _, core, snk⟩ <;> cases f <;> rfl

theorem frames_snoc (A : List Bytes) (p : Bytes) : frames (A ++ [p]) = frames A ++ frame p := by
  rw [frames_append]; simp [frames]

theorem flight_inv (f : WFut) (wr : AWriter) (ml : Nat) (d : Bool) (A init : List Bytes) (p : Bytes) (o : Nat)
    (hA : A = init ++ [p]) (hcore : wr.core = ⟨.writeFrom o, frame p, ml⟩) (ho : o < (frame p).length)
    (hout : wr.snk.out = frames init ++ (frame p).take o) :
    Rep (WSys.settleFut f (wr.pollSync f)).1 ml (dirtyAfter d (WSys.settleFut f (wr.pollSync f)).2) A ∧
    (∀ n, (WSys.settleFut f (wr.pollSync f)).2 = some (.ready (.wrote (.ok n))) →
      ∃ init p, A = init ++ [p] ∧ n = p.length) := by
  obtain ⟨core, out, sc⟩ := wr
  simp only at hcore hout
  subst hA hcore
  rw [pollSync_eq]
  rcases syncLoop_spec (frame p) ml sc o out ho with ⟨sc', h⟩ | ⟨x, o', sc', h, h1, h2, rfl | ⟨k, rfl⟩⟩
  · rw [h]
    refine ⟨.clean rfl rfl ?_ rfl, fun n hn => ⟨init, p, rfl, ?_⟩⟩
    · simp only [WSys.settleFut, hout]
      rw [frames_snoc, List.append_assoc, List.take_append_drop]
    · cases f <;> simp [WSys.settleFut, retOf, Except.map] at hn
      omega
  all_goals
    rw [h]
    refine ⟨.inFlight init p o' ?_ rfl rfl h2 ?_, fun n hn => ?_⟩
    · cases f <;> rfl
    · simp only [WSys.settleFut, hout]
      rw [List.append_assoc, ← List.take_add, Nat.add_sub_cancel' h1]
    · cases f <;> simp [WSys.settleFut, retOf, Except.map] at hn

/-- `sync` on an idle writer writes nothing (and asks the sink nothing). -/
theorem sync_idle_noop (w : AWriter) (h : w.core.state = .none) :
    w.pollSync .sync = (.ready (.synced (.ok ())), w) := by
  obtain ⟨⟨state, buffer, maxLen⟩, ⟨out, script⟩⟩ := w
  simp only at h
  subst h
  simp only [AWriter.pollSync, syncLoop_idle]

/-- One act preserves the invariant (for every sink behaviour), the caller's flag tracks
    it, and a completed `write` reports the payload length of the frame just delivered. -/
theorem act_inv (c : Codec α) (ml : Nat) (s : WSys) (dirty : Bool) (A : List Bytes) (a : WAct α)
    (hr : Rep s ml dirty A) (hd : match a with | .write _ => dirty = false | _ => True) :
    Rep (s.act c a).1 ml (dirtyAfter dirty (s.act c a).2) (A ++ armed c ml [a]) ∧
    (∀ n, (s.act c a).2 = some (.ready (.wrote (.ok n))) →
      ∃ init p, A ++ armed c ml [a] = init ++ [p] ∧ n = p.length) := by
  cases a with
  | write v =>
    simp only at hd
    subst hd
    cases hr with
    | inFlight init p o hdirty _ _ _ _ => cases hdirty
    | clean hst hml hout hfut =>
      obtain ⟨⟨⟨state, buffer, maxLen⟩, snk⟩, fut⟩ := s
      simp only at hst hml hout hfut
      subst hst hml
      cases hv : c.enc v with
      | error part =>
        simp only [WSys.act, AWriter.startWrite, AWCore.begin, hv, WSys.settleFut, armed, List.append_nil]
        exact ⟨.clean rfl rfl hout rfl, fun n hn => by simp at hn⟩
      | ok p =>
        by_cases hl : p.length > maxLen
        · simp only [WSys.act, AWriter.startWrite, AWCore.begin, hv, hl, if_true, WSys.settleFut, armed,
            Nat.not_le.mpr hl, if_false, List.append_nil]
          exact ⟨.clean rfl rfl hout rfl, fun n hn => by simp at hn⟩
        · simp only [WSys.act, AWriter.startWrite, AWCore.begin, hv, hl, if_false, armed, Nat.not_lt.mp hl,
            if_true, List.append_nil]
          exact flight_inv .write _ maxLen false _ A p 0 rfl rfl (by simp; omega) (by simp [hout])
  | sync =>
    simp only [armed, List.append_nil]
    cases hr with
    | clean hst hml hout hfut =>
      simp only [WSys.act, sync_idle_noop s.wr hst, WSys.settleFut]
      exact ⟨.clean hst hml hout rfl, fun n hn => by simp at hn⟩
    | inFlight init p o _ hA hcore ho hout => exact flight_inv .sync s.wr ml dirty A init p o hA hcore ho hout
  | poll =>
    simp only [armed, List.append_nil]
    cases hf : s.fut with
    | none =>
      simp only [WSys.act, hf, dirtyAfter]
      exact ⟨hr, fun n hn => by simp at hn⟩
    | some f =>
      simp only [WSys.act, hf]
      cases hr with
      | clean _ _ _ hfut => simp [hf] at hfut
      | inFlight init p o _ hA hcore ho hout => exact flight_inv f s.wr ml dirty A init p o hA hcore ho hout
  | drop =>
    simp only [armed, List.append_nil, WSys.act, dirtyAfter]
    refine ⟨?_, fun n hn => by simp at hn⟩
    cases hr with
    | clean hst hml hout _ => exact .clean hst hml hout rfl
    | inFlight init p o hdirty hA hcore ho hout => exact .inFlight init p o hdirty hA hcore ho hout

theorem armed_append (c : Codec α) (ml : Nat) (xs ys : List (WAct α)) :
    armed c ml (xs ++ ys) = armed c ml xs ++ armed c ml ys := by
  induction xs with
  | nil => rfl
  | cons b bs ih => rw [List.cons_append, armed_cons, armed_cons c ml b bs, ih, List.append_assoc]

theorem run_inv_append (c : Codec α) (ml : Nat) (rest : List (WAct α)) : ∀ (acts : List (WAct α)) (s : WSys)
    (dirty : Bool) (A : List Bytes), Rep s ml dirty A → Disciplined c dirty (acts ++ rest) s →
    ∃ d', Rep (WSys.run c acts s).2 ml d' (A ++ armed c ml acts) ∧ Disciplined c d' rest (WSys.run c acts s).2 := by
  intro acts
  induction acts with
  | nil => intro s dirty A hr hd; exact ⟨dirty, by simpa [WSys.run, armed] using hr, hd⟩
  | cons a as ih =>
    intro s dirty A hr hd
    obtain ⟨d', h1, h2⟩ := ih (s.act c a).1 _ _ (act_inv c ml s dirty A a hr hd.1).1 hd.2
    refine ⟨d', ?_, h2⟩
    rw [armed_cons, ← List.append_assoc]
    exact h1

theorem run_inv (c : Codec α) (ml : Nat) : ∀ (acts : List (WAct α)) (s : WSys) (dirty : Bool) (A : List Bytes),
    Rep s ml dirty A → Disciplined c dirty acts s →
    ∃ dirty', Rep (WSys.run c acts s).2 ml dirty' (A ++ armed c ml acts) :=
  fun acts s dirty A hr hd =>
    (run_inv_append c ml [] acts s dirty A hr (by rwa [List.append_nil])).imp fun _ h => h.1

theorem init_rep (ml : Nat) (sc : List Ev) : Rep ⟨AWriter.init ml sc, none⟩ ml false [] :=
  .clean rfl rfl rfl rfl

/-- C16.  For every sequence of acts that respects the discipline and every
    sink behaviour (arbitrary non-empty partial acceptance, Pending, transient errors,
    accept-0, in any order): the sink has received exactly the frames of the armed values, in
    order — complete ones, then, if a frame is still in flight, a strict prefix of the last
    one; nothing duplicated, dropped or interleaved. -/
theorem async_writer_bytes (c : Codec α) (ml : Nat) (sc : List Ev) (acts : List (WAct α))
    (hd : Disciplined c false acts ⟨AWriter.init ml sc, none⟩) :
    let s' := (WSys.run c acts ⟨AWriter.init ml sc, none⟩).2
    (s'.wr.core.state = .none ∧ s'.wr.snk.out = frames (armed c ml acts)) ∨
    (∃ init p o, armed c ml acts = init ++ [p] ∧ s'.wr.core.state = .writeFrom o ∧ o < (frame p).length ∧
      s'.wr.core.buffer = frame p ∧ s'.wr.snk.out = frames init ++ (frame p).take o) := by
  obtain ⟨d', h⟩ := run_inv c ml acts _ false [] (init_rep ml sc) hd
  simp only [List.nil_append] at h
  cases h with
  | clean h1 _ h3 _ => exact .inl ⟨h1, h3⟩
  | inFlight init p o _ hA hcore ho hout =>
    exact .inr ⟨init, p, o, hA, by rw [hcore], ho, by rw [hcore], hout⟩

/-- … in particular, whenever the run ends with nothing in flight (the last `write` / `sync`
    returned `Ok`), the sink holds exactly the concatenation of the complete frames. -/
theorem async_writer_clean_end (c : Codec α) (ml : Nat) (sc : List Ev) (acts : List (WAct α))
    (hd : Disciplined c false acts ⟨AWriter.init ml sc, none⟩)
    (hend : (WSys.run c acts ⟨AWriter.init ml sc, none⟩).2.wr.core.state = .none) :
    (WSys.run c acts ⟨AWriter.init ml sc, none⟩).2.wr.snk.out = frames (armed c ml acts) := by
  rcases async_writer_bytes c ml sc acts hd with ⟨_, h⟩ | ⟨_, _, _, _, h, _⟩
  · exact h
  · rw [hend] at h; cases h

/-- Each completed write reports its payload length: at any point of a disciplined run,
    an act that makes a `write` future complete with `Ok(n)` has `n` = the length of the payload
    of the frame that was just delivered (the last armed one). -/
theorem completed_write_reports_length (c : Codec α) (ml : Nat) (sc : List Ev)
    (acts : List (WAct α)) (a : WAct α) (n : Nat)
    (hd : Disciplined c false (acts ++ [a]) ⟨AWriter.init ml sc, none⟩)
    (hn : ((WSys.run c acts ⟨AWriter.init ml sc, none⟩).2.act c a).2 = some (.ready (.wrote (.ok n)))) :
    ∃ init p, armed c ml (acts ++ [a]) = init ++ [p] ∧ n = p.length := by
  obtain ⟨d', hr, hda⟩ := run_inv_append c ml [a] acts _ false [] (init_rep ml sc) hd
  rw [List.nil_append] at hr
  obtain ⟨init, p, h1, h2⟩ := (act_inv c ml _ d' _ a hr hda.1).2 n hn
  exact ⟨init, p, by rw [armed_append, h1], h2⟩

/-- A sink that accepts zero bytes produces a write-zero error; nothing is written and the
    offset is kept … -/
theorem write_zero_error (B : Bytes) (ml o : Nat) (out : Bytes) (sc : List Ev) (f : WFut) (ho : o < B.length) :
    AWriter.pollSync ⟨⟨.writeFrom o, B, ml⟩, ⟨out, .zero :: sc⟩⟩ f =
      (.ready (retOf f (.error (.io .writeZero))), ⟨⟨.writeFrom o, B, ml⟩, ⟨out, sc⟩⟩) ∧
    AWriter.pollSync ⟨⟨.writeFrom o, B, ml⟩, ⟨out, .io 0 :: sc⟩⟩ f =
      (.ready (retOf f (.error (.io .writeZero))), ⟨⟨.writeFrom o, B, ml⟩, ⟨out, sc⟩⟩) := by
  simp only [pollSync_eq, syncLoop_cons B ml o out _ sc ho, Nat.zero_min, if_true, Except.map, and_self]

/-- … so that a later `sync` resumes exactly there: the frame still arrives whole. -/
theorem write_zero_then_sync_resumes (B : Bytes) (ml o : Nat) (out : Bytes) (f : WFut) (ho : o < B.length) :
    AWriter.pollSync (AWriter.pollSync ⟨⟨.writeFrom o, B, ml⟩, ⟨out, [.zero, .io B.length]⟩⟩ f).2 .sync =
      (.ready (.synced (.ok ())), ⟨⟨.none, B, ml⟩, ⟨out ++ B.drop o, []⟩⟩) := by
  have hm : min B.length (B.length - o) = B.length - o := by omega
  rw [(write_zero_error B ml o out [.io B.length] f ho).1, pollSync_eq]
  simp only [syncLoop_cons B ml o out _ [] ho, hm, if_neg (show ¬ B.length - o = 0 by omega)]
  rw [syncLoop_done B ml _ _ [] (by omega), List.take_of_length_le (by simp)]
  rfl

/-- a transient error (`Other`, `Interrupted`) is reported by the poll that met it and leaves
    offset, buffer and sink untouched. -/
theorem transient_error_keeps_offset (B : Bytes) (ml o : Nat) (out : Bytes) (sc : List Ev) (f : WFut)
    (ho : o < B.length) :
    AWriter.pollSync ⟨⟨.writeFrom o, B, ml⟩, ⟨out, .fail :: sc⟩⟩ f =
      (.ready (retOf f (.error (.io .other))), ⟨⟨.writeFrom o, B, ml⟩, ⟨out, sc⟩⟩) ∧
    AWriter.pollSync ⟨⟨.writeFrom o, B, ml⟩, ⟨out, .intr :: sc⟩⟩ f =
      (.ready (retOf f (.error (.io .interrupted))), ⟨⟨.writeFrom o, B, ml⟩, ⟨out, sc⟩⟩) := by
  simp only [pollSync_eq, syncLoop_cons B ml o out _ sc ho, Except.map, and_self]

/-- A value that fails to encode or exceeds the maximum length puts no bytes into the sink:
    the call returns the error in its first poll, the sink (bytes and script) and the write
    state are untouched — whatever state the writer was in. -/
theorem encode_failure_or_too_long_writes_nothing (c : Codec α) (w : AWriter) (v : α) :
    (∀ part, c.enc v = .error part →
      (w.startWrite c v).1 = .ready (.wrote (.error .encode)) ∧ (w.startWrite c v).2.snk = w.snk ∧
      (w.startWrite c v).2.core.state = w.core.state) ∧
    (∀ p, c.enc v = .ok p → p.length > w.core.maxLen →
      (w.startWrite c v).1 = .ready (.wrote (.error .invalidLen)) ∧ (w.startWrite c v).2.snk = w.snk ∧
      (w.startWrite c v).2.core.state = w.core.state) := by
  constructor
  · intro part h; simp [AWriter.startWrite, AWCore.begin, h]
  · intro p h hl; simp [AWriter.startWrite, AWCore.begin, h, hl]

/-- the offset stays strictly inside the buffer while a frame is in flight (the slice
    `&self.buffer[*o ..]` is never empty, never out of bounds). -/
theorem offset_le_buffer (c : Codec α) (ml : Nat) (sc : List Ev) (acts : List (WAct α))
    (hd : Disciplined c false acts ⟨AWriter.init ml sc, none⟩) :
    match (WSys.run c acts ⟨AWriter.init ml sc, none⟩).2.wr.core.state with
    | .none => True
    | .writeFrom o => o < (WSys.run c acts ⟨AWriter.init ml sc, none⟩).2.wr.core.buffer.length := by
  rcases async_writer_bytes c ml sc acts hd with ⟨h, _⟩ | ⟨_, p, o, _, h, ho, hb, _⟩
  · rw [h]; trivial
  · rw [h, hb]; exact ho

/-- Outside the precondition (documented, not constrained by the property): a `write` issued
    over a frame in flight without the intervening `sync`.  The new call refills the buffer
    first and re-arms `state` only at the end, so when it fails to encode it leaves the stale
    `WriteFrom(3)` pointing into the rewritten buffer; the next `sync` then "completes" by
    sending bytes of the failed value.  (`write(5)` cancelled after 3 bytes, `write(X)` fails
    after writing `01 02`, `sync` → sink `00 00 00 | 01 01 02`.) -/
theorem undisciplined_stale_state :
    (WSys.run valCodec [.write (.u 5), .drop, .write (.x [1, 2]), .sync]
      ⟨AWriter.init 100 [.io 3, .pend, .io 9], none⟩).2.wr.snk.out = [0, 0, 0, 1, 1, 2] ∧
    ¬ Disciplined valCodec false [.write (.u 5), .drop, .write (.x [1, 2]), .sync]
      ⟨AWriter.init 100 [.io 3, .pend, .io 9], none⟩ :=
  ⟨by decide, by decide⟩

/-- non-vacuity: a disciplined schedule with short writes, Pendings, a dropped write resumed
    by `sync` through a transient error and an accept-0, a value that fails to encode, and a
    write completed by a second poll; `max_len` exactly the payload size. -/
example :
    Disciplined valCodec false
      [.write (.u 300), .poll, .drop, .sync, .sync, .sync, .write (.x [7]), .write (.b [1, 2]), .poll]
      ⟨AWriter.init 3 [.io 1, .pend, .io 2, .pend, .fail, .io 1, .zero, .io 9, .io 2, .pend, .io 9], none⟩ ∧
    (WSys.run valCodec
      [.write (.u 300), .poll, .drop, .sync, .sync, .sync, .write (.x [7]), .write (.b [1, 2]), .poll]
      ⟨AWriter.init 3 [.io 1, .pend, .io 2, .pend, .fail, .io 1, .zero, .io 9, .io 2, .pend, .io 9], none⟩).2.wr.snk.out
      = frames [Enc.u64 300, Enc.bytes [1, 2]] :=
  ⟨by decide +kernel, by decide +kernel⟩

end Minicbor.C16
