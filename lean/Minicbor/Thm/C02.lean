/-
  C02 — Decoding untrusted bytes is total: no panic, no hang, the position stays inside the buffer
  and only moves forward, and what is built (values, chunks, tokens) is paid for by consumed input
  bytes, whatever lengths the input declares.  The proofs are in Lemmas/Total*.lean.

  Every theorem is about arbitrary remaining input `bs : Bytes`.  In the model (DESIGN.md §3) every
  Rust operation that could panic is an explicit `Res.panic`; loops without a count take a local
  fuel and exhausting it is `Res.panic`, so `NoPanic` includes termination.
  `ArrayVec<T, N>` is a bookkeeping model (ArrayVec.lean): memory safety of the `unsafe` blocks
  themselves is outside the model.
  No theorem here: `skip`'s stack bound (`C06.skip_stack_le_consumed`); `decode::info::Size`
  (Info.lean, `C04.size_head_sound`); `probe` and `set_position` are `drop`/re-run in the driver,
  covered by `pos_stuck_past_end` for p ≥ len.
-/
import Minicbor.Lemmas.TotalTok
import Minicbor.Lemmas.TotalArrayVec

namespace Minicbor.Dec

/-- `Duration::decode` before commit e7da71d (`Ok(Duration::new(secs, nanos))`): `Duration::new`
    panics when the carry `nanos / 10^9` overflows `secs`.  Only used to show that the no-panic
    theorem is sensitive to that repair (finding F1, `C02.no_panic_counterexample_prefix_duration`). -/
def decodeDurationPreFix : Dec Val := do
  match (← Dec.fieldsDec [Dec.intAcc .u64, Dec.intAcc .u32]) with
  | [s, n] =>
      let secs := s.toNat + n.toNat / NANOS_PER_SEC
      if secs > 18446744073709551615 then Dec.panic
      else pure (.list [.int secs, .int (n.toNat % NANOS_PER_SEC)])
  | _ => Dec.panic

end Minicbor.Dec

namespace Minicbor.C02
open Dec

/-- `P` holds for every accessor of `Decoder` (decoder.rs) and for `skip` in both builds. -/
structure Accessors (P : ∀ {α : Type}, Dec α → Prop) : Prop where
  bool      : P Dec.bool
  int       : ∀ t, P (Dec.intAcc t)        -- u8 u16 u32 u64 i8 i16 i32 i64 int
  f16       : P Dec.f16
  f32       : ∀ half, P (Dec.f32 half)
  f64       : ∀ half, P (Dec.f64 half)
  char      : P Dec.char
  bytes     : P Dec.bytes
  str       : P Dec.str
  bytesIter : P Dec.bytesIter              -- drained
  strIter   : P Dec.strIter                -- drained
  array     : P Dec.array
  map       : P Dec.map
  tag       : P Dec.tag
  null      : P Dec.null
  undefined : P Dec.undefined
  simple    : P Dec.simple
  datatype  : P Dec.datatype
  skip      : ∀ alloc, P (Dec.skip alloc)  -- `alloc` and no-`alloc` build

def restOf : Res α → Option Bytes
  | .ok _ r => some r
  | .err _ r => some r
  | .panic => none

/-- `Rules P` (Lemmas/DecRules.lean) gives every accessor but the two that contain loops. -/
theorem accessors_of_rules {P : ∀ {α : Type}, Dec α → Prop} (h : Rules (fun _ => @P)) (hiter : ∀ text, P (Dec.stringIter text))
    (hskip : ∀ alloc, P (Dec.skip alloc)) : Accessors P :=
  { bool := h.bool, int := h.intAcc, f16 := h.f16, f32 := h.f32, f64 := h.f64, char := h.char
    bytes := h.bytes, str := h.str, bytesIter := hiter false, strIter := hiter true
    array := h.array, map := h.map, tag := h.tag, null := h.null, undefined := h.undefined
    simple := h.simple, datatype := h.datatype, skip := hskip }

/-! ## no panic -/

/-- no accessor panics on any input (for `bytes_iter`/`str_iter`/`skip` this includes: the loop
    fuel `remaining + 1` / `remaining + 2` is never exhausted). -/
theorem no_panic_accessors : Accessors @NoPanic :=
  accessors_of_rules NoPanic.rules NoPanic.stringIter NoPanic.skip

theorem no_panic_unsigned (b : UInt8) : NoPanic (Dec.unsigned b) ∧ NoPanic (Dec.typeOf b) :=
  ⟨NoPanic.rules.unsigned b, NoPanic.rules.typeOf b⟩

theorem no_panic_accessors_pointwise (bs : Bytes) :
    Dec.bool bs ≠ .panic ∧ (∀ t, Dec.intAcc t bs ≠ .panic) ∧ Dec.bytes bs ≠ .panic ∧ Dec.str bs ≠ .panic ∧
    Dec.bytesIter bs ≠ .panic ∧ Dec.strIter bs ≠ .panic ∧ Dec.datatype bs ≠ .panic ∧
    Dec.skip true bs ≠ .panic ∧ Dec.skip false bs ≠ .panic :=
  ⟨NoPanic.bool bs, fun t => NoPanic.intAcc t bs, NoPanic.bytes bs, NoPanic.str bs, NoPanic.bytesIter bs,
   NoPanic.strIter bs, NoPanic.datatype bs, NoPanic.skip true bs, NoPanic.skip false bs⟩

/-- `decode::<T>` never panics, for every type descriptor `t` (arbitrarily nested) and every
    input.  Covers the `Duration`/`SystemTime` carry (commit e7da71d: checked, a decode error),
    the dead `| _ => panic` arm after `decode_fields!`, and the adequacy of the local fuel of every
    indefinite-length loop met on the way. -/
theorem no_panic_decodeT (t : Ty) : NoPanic (decodeT t) := decodeT_noPanic t

theorem no_panic_decodeT_pointwise (t : Ty) (bs : Bytes) : decodeT t bs ≠ .panic := decodeT_noPanic t bs

/-- what makes the fuels adequate: a successful decode of any type consumes at least one byte. -/
theorem decodeT_consumes (t : Ty) (bs : Bytes) (v : Val) (r : Bytes) (h : decodeT t bs = .ok v r) :
    r.length + 1 ≤ bs.length := Consumes.decodeT t bs v r h

/-- the termination statements: each fuelled loop runs at most `remaining + 1` iterations. -/
theorem fuel_adequate {α : Type} {m : Dec α} (hm : NoPanic m) (hc : Consumes m 1) (bs : Bytes) (fuel : Nat)
    (h : bs.length < fuel) :
    Dec.untilBreak m fuel bs ≠ .panic ∧ (∀ n k, Dec.arrayNIndef m n fuel k bs ≠ .panic) ∧
    Dec.skipUntilBreak fuel bs ≠ .panic ∧ (∀ text, Dec.chunkLoop text fuel bs ≠ .panic) ∧
    (∀ alloc s, Dec.skipLoop alloc fuel s bs ≠ .panic) ∧ tokenize fuel bs ≠ none :=
  ⟨untilBreak_ne_panic hm hc fuel bs h, fun n k => arrayNIndef_ne_panic hm hc n fuel k bs h,
   skipUntilBreak_ne_panic fuel bs h, fun text => chunkLoop_ne_panic text fuel bs h,
   fun alloc s => skipLoop_ne_panic alloc fuel s bs h, tokenize_ne_none fuel bs h⟩

/-- the fuel is only a proof device: the model's choice (`remaining + 1`, `+ 2` for `skip`)
    influences no outcome. -/
theorem fuel_irrelevant {α : Type} {m : Dec α} (hc : Consumes m 1) (bs : Bytes) (f1 f2 : Nat)
    (h1 : bs.length < f1) (h2 : bs.length < f2) :
    Dec.untilBreak m f1 bs = Dec.untilBreak m f2 bs ∧
    (∀ n k, Dec.arrayNIndef m n f1 k bs = Dec.arrayNIndef m n f2 k bs) ∧
    Dec.skipUntilBreak f1 bs = Dec.skipUntilBreak f2 bs ∧
    (∀ text, Dec.chunkLoop text f1 bs = Dec.chunkLoop text f2 bs) ∧
    (∀ alloc s, Dec.skipLoop alloc f1 s bs = Dec.skipLoop alloc f2 s bs) ∧
    tokenize f1 bs = tokenize f2 bs :=
  ⟨AtRules.agree.untilBreak (fun _ => rfl) hc f1 f2 bs h1 h2,
   fun n k => AtRules.agree.arrayNIndef (fun _ => rfl) hc n f1 f2 k bs h1 h2,
   AtRules.agree.skipUntilBreak f1 f2 bs h1 h2, fun text => AtRules.agree.chunkLoop text f1 f2 bs h1 h2,
   fun alloc s => AtRules.agree.skipLoop alloc f1 f2 s bs h1 h2, tokenize_fuel f1 f2 bs h1 h2⟩

theorem fuel_adequate_fields {α : Type} {ms : List (Dec α)} (h : ∀ m ∈ ms, NoPanic m)
    (hs : ∀ m ∈ ms, Consumes m 0) (bs : Bytes) (fuel : Nat) (hf : bs.length < fuel) :
    Dec.fieldsIndef ms fuel bs ≠ .panic := fieldsIndef_ne_panic h hs fuel bs hf

theorem no_panic_iterators {α : Type} {m : Dec α} (hm : NoPanic m) (hc : Consumes m 1) :
    NoPanic (Dec.arrayIter m) ∧ NoPanic (Dec.mapIter m m) ∧ ∀ n, NoPanic (Dec.arrayN m n) :=
  ⟨NoPanic.arrayIter hm hc, NoPanic.mapIter hm hm hc (hc.mono (Nat.zero_le _)), NoPanic.arrayN hm hc⟩

/-- the no-panic theorem is sensitive to the repair of finding F1: the pre-fix `Duration::decode`
    (`Duration::new` unchecked) panics on `82 1b ff×8 1a 3b9aca00`. -/
theorem no_panic_counterexample_prefix_duration :
    decodeDurationPreFix [0x82, 0x1b, 0xff, 0xff, 0xff, 0xff, 0xff, 0xff, 0xff, 0xff, 0x1a, 0x3b, 0x9a, 0xca, 0x00]
      = .panic := by
  have : restOf (decodeDurationPreFix
      [0x82, 0x1b, 0xff, 0xff, 0xff, 0xff, 0xff, 0xff, 0xff, 0xff, 0x1a, 0x3b, 0x9a, 0xca, 0x00]) = none := by decide
  revert this
  cases decodeDurationPreFix [0x82, 0x1b, 0xff, 0xff, 0xff, 0xff, 0xff, 0xff, 0xff, 0xff, 0x1a, 0x3b, 0x9a, 0xca, 0x00] <;>
    simp [restOf]

theorem no_panic_token : NoPanic Dec.token := NoPanic.token

/-- the `Tokenizer` iterator always terminates (`none` = fuel exhausted or panic). -/
theorem no_panic_tokens (bs : Bytes) : tokens bs ≠ none :=
  tokenize_ne_none _ bs (Nat.lt_succ_self _)

/-! ## position in bounds, forward only -/

theorem suffix_accessors : Accessors @Suffix :=
  accessors_of_rules Suffix.rules.toRules Suffix.rules.stringIter Suffix.rules.skip

theorem suffix_iterators {α : Type} {m : Dec α} (hm : Suffix m) :
    Suffix (Dec.arrayIter m) ∧ Suffix (Dec.mapIter m m) ∧ ∀ n, Suffix (Dec.arrayN m n) :=
  ⟨Suffix.arrayIter hm, Suffix.mapIter hm hm, Suffix.arrayN hm⟩

theorem suffix_decodeT (t : Ty) : Suffix (decodeT t) := decodeT_suffix t
theorem suffix_token : Suffix Dec.token := Suffix.rules.token

/-- `Decoder::position()` when the decoder over `input` has `rest` left. -/
def posOf (input rest : Bytes) : Nat := input.length - rest.length

/-- `r <:+ input`: the decoder still stands at a real position of the buffer. -/
theorem pos_of_suffix {α : Type} {m : Dec α} (hm : Suffix m) (input bs r : Bytes) (hbs : bs <:+ input)
    (h : restOf (m bs) = some r) :
    r <:+ input ∧ posOf input r ≤ input.length ∧ posOf input bs ≤ posOf input r := by
  have hr : r <:+ bs := by
    cases hmb : m bs with
    | ok a r' => rw [hmb] at h; cases h; exact (hm bs).1 a r hmb
    | err e r' => rw [hmb] at h; cases h; exact (hm bs).2 e r hmb
    | panic => rw [hmb] at h; cases h
  have h1 := hr.length_le
  have h2 := hbs.length_le
  exact ⟨hr.trans hbs, Nat.sub_le _ _, by unfold posOf; omega⟩

theorem pos_in_bounds (t : Ty) (input bs r : Bytes) (hbs : bs <:+ input) (h : restOf (decodeT t bs) = some r) :
    r <:+ input ∧ posOf input r ≤ input.length :=
  let ⟨a, b, _⟩ := pos_of_suffix (decodeT_suffix t) input bs r hbs h; ⟨a, b⟩

/-- the position never moves backwards (also when decoding fails part-way). -/
theorem pos_monotone (t : Ty) (input bs r : Bytes) (hbs : bs <:+ input) (h : restOf (decodeT t bs) = some r) :
    posOf input bs ≤ posOf input r :=
  (pos_of_suffix (decodeT_suffix t) input bs r hbs h).2.2

/-- any other accessor: `pos_of_suffix` at its field of `suffix_accessors`. -/
theorem pos_token (input bs r : Bytes) (hbs : bs <:+ input) (h : restOf (Dec.token bs) = some r) :
    r <:+ input ∧ posOf input r ≤ input.length ∧ posOf input bs ≤ posOf input r :=
  pos_of_suffix Suffix.rules.token input bs r hbs h

theorem pos_skip (alloc : Bool) (input bs r : Bytes) (hbs : bs <:+ input)
    (h : restOf (Dec.skip alloc bs) = some r) :
    r <:+ input ∧ posOf input r ≤ input.length ∧ posOf input bs ≤ posOf input r :=
  pos_of_suffix (Suffix.rules.skip alloc) input bs r hbs h

/-! ## at or past the end -/

/-- on the empty remaining input — what the real decoder sees at any position `≥ len`, e.g. after
    an arbitrary `set_position` — every accessor reports end-of-input and does not move. -/
theorem pos_stuck_past_end_accessors : Accessors @EoiNil :=
  { bool := EoiNil.bool, int := EoiNil.intAcc, f16 := EoiNil.f16, f32 := EoiNil.f32, f64 := EoiNil.f64
    char := EoiNil.char, bytes := EoiNil.bytes, str := EoiNil.str
    bytesIter := EoiNil.bytesIter, strIter := EoiNil.strIter
    array := EoiNil.array, map := EoiNil.map, tag := EoiNil.tag, null := EoiNil.null
    undefined := EoiNil.undefined, simple := EoiNil.simple, datatype := EoiNil.datatype
    skip := EoiNil.skip }

theorem pos_stuck_past_end_decodeT (t : Ty) : decodeT t [] = .err .eoi [] := decodeT_eoiNil t

theorem pos_stuck_past_end_token : Dec.token [] = .err .eoi [] ∧ tokens [] = some [] :=
  ⟨EoiNil.token, rfl⟩

/-- with `set_position(p)` modelled as `input.drop p` (as the driver does): any `p ≥ len`. -/
theorem pos_stuck_past_end (t : Ty) (input : Bytes) (p : Nat) (hp : input.length ≤ p) :
    decodeT t (input.drop p) = .err .eoi [] ∧ Dec.token (input.drop p) = .err .eoi [] ∧
    Dec.skip true (input.drop p) = .err .eoi [] ∧ Dec.datatype (input.drop p) = .err .eoi [] := by
  rw [List.drop_eq_nil_of_le hp]
  exact ⟨decodeT_eoiNil t, EoiNil.token, EoiNil.skip true, EoiNil.datatype⟩

/-! ## allocation / work bounded by the input, whatever lengths are declared -/

/-- the decoded value (one unit per node plus string payloads, `Val.size`) is never larger than
    the bytes consumed.  Declared lengths cannot blow memory: collections grow per decoded element,
    each element costs ≥ 1 input byte. -/
theorem alloc_linear_decodeT (t : Ty) (bs : Bytes) (v : Val) (r : Bytes) (h : decodeT t bs = .ok v r) :
    v.size + r.length ≤ bs.length := by
  have := decodeT_sized t bs v r h; omega

/-- the chunks collected by a drained `bytes_iter` / `str_iter`. -/
theorem alloc_linear_stringIter (text : Bool) (bs : Bytes) (cs : List Bytes) (r : Bytes)
    (h : Dec.stringIter text bs = .ok cs r) :
    listSz (fun c : Bytes => 1 + c.length) cs + r.length ≤ bs.length := by
  have := Sized.stringIter text bs cs r h; omega

/-- a byte/text string borrowed by `bytes()` / `str()` lies inside the input. -/
theorem alloc_linear_bytes (bs d r : Bytes) :
    (Dec.bytes bs = .ok d r → 1 + d.length + r.length ≤ bs.length) ∧
    (Dec.str bs = .ok d r → 1 + d.length + r.length ≤ bs.length) :=
  ⟨fun h => by have := Sized.bytes bs d r h; simp only at this; omega,
   fun h => by have := Sized.str bs d r h; simp only at this; omega⟩

/-- the tokenizer: at most one item per input byte, total payload at most the input. -/
theorem alloc_linear_tokens (bs : Bytes) (items : List TokItem) (h : tokens bs = some items) :
    listSz TokItem.size items ≤ bs.length ∧ items.length ≤ bs.length := by
  have h1 := tokenize_size _ bs items h
  exact ⟨h1, Nat.le_trans (length_le_listSz _ TokItem.size_pos items) h1⟩

/-- a definite-length loop whose (possibly hostile) declared count exceeds the remaining input
    fails within the first `remaining + 1` iterations. -/
theorem work_indep_of_declared_count {α : Type} {m : Dec α} (hc : Consumes m 1) (bs : Bytes) (n : Nat)
    (h : bs.length < n) : Dec.repeatN m n bs = Dec.repeatN m (bs.length + 1) bs :=
  repeatN_cutoff hc bs n (bs.length + 1) h (Nat.lt_succ_self _)

/-- a definite-length loop whose declared count exceeds the remaining input cannot succeed. -/
theorem repeatN_ok_count {α : Type} {m : Dec α} (hc : Consumes m 1) (bs : Bytes) (n : Nat) (l : List α)
    (r : Bytes) (h : Dec.repeatN m n bs = .ok l r) : n + r.length ≤ bs.length :=
  repeatN_ok_le hc bs n l r h

/-! ### work with an explicit step count: `Dec.Cost`, `Dec.Lin` (Lemmas/TotalWork.lean) -/

/-- every accessor, both iterators drained, and `skip` (both builds): at most
    `42 * (consumed + 1)` primitive steps on any input. -/
theorem work_linear_accessors : Accessors (fun {α} (m : Dec α) => Lin 42 m) :=
  have s := suffix_accessors
  { bool := .of_suffix s.bool, int := fun t => .of_suffix (s.int t), f16 := .of_suffix s.f16
    f32 := fun h => .of_suffix (s.f32 h), f64 := fun h => .of_suffix (s.f64 h), char := .of_suffix s.char
    bytes := .of_suffix s.bytes, str := .of_suffix s.str, bytesIter := .of_suffix s.bytesIter
    strIter := .of_suffix s.strIter, array := .of_suffix s.array, map := .of_suffix s.map, tag := .of_suffix s.tag
    null := .of_suffix s.null, undefined := .of_suffix s.undefined, simple := .of_suffix s.simple
    datatype := .of_suffix s.datatype, skip := fun a => .of_suffix (s.skip a) }

/-- `decode::<t>`, succeeding or failing: at most `workK t * (consumed + 1)` primitive steps,
    independent of every length the input declares.  Like the other step bounds this is the suffix
    property of the action (`Lin'.iff_suffix`): any slope `≥ 1` would do, and 42 and `t.workK` are
    what counting along the model's text gives. -/
theorem work_linear_decodeT (t : Ty) (bs : Bytes) :
    ∃ n, Cost (decodeT t) bs n ∧ ∀ r, (decodeT t bs).rest? = some r →
      r.length ≤ bs.length ∧ n ≤ t.workK * (bs.length - r.length + 1) :=
  (decodeT_lin t).bound bs

theorem work_linear_skip (alloc : Bool) (bs : Bytes) :
    ∃ n, Cost (Dec.skip alloc) bs n ∧ ∀ r, (Dec.skip alloc bs).rest? = some r →
      r.length ≤ bs.length ∧ n ≤ 42 * (bs.length - r.length + 1) :=
  Lin.bound (.of_suffix (suffix_accessors.skip alloc)) bs

/-- the tokenizer run to exhaustion: the `token()` calls together take at most `7 * len + 6`
    primitive steps. -/
theorem work_linear_tokens (bs : Bytes) : ∃ n, TokenizeCost (bs.length + 1) bs n ∧ n ≤ 7 * bs.length + 6 :=
  tokenize_work _ bs (Nat.lt_succ_self _)

/-- the step count is not vacuous: `null()` on `f6` is one `read`; on the empty input it is
    also one (failing) `read`. -/
example : Cost Dec.null [0xf6] 1 ∧ Cost Dec.null [] 1 := by
  unfold Dec.null
  constructor
  · exact Cost.bind_ok (n1 := 1) (n2 := 0) (a := 0xf6) (r := []) rfl (Cost.read _) (Cost.pure _ _)
  · exact Cost.bind_stop (by intro a r h; cases h) (Cost.read _)

/-! ## ArrayVec: every pushed element is moved out or dropped exactly once -/

open ArrayVec in
/-- For every run of `<[T; N]>::decode` (the iterator yields the elements `ids`, then ends or
    fails): the elements that went through `push` are the first `N+1` at most, and the multiset of
    (destructor runs ++ slots moved out in the result array) is exactly that of the pushed
    elements: each is dropped or moved out exactly once, none leaked, and no uninitialised slot
    (`none`) is ever dropped or moved out.  The array is returned iff exactly `N` elements arrived
    and the iterator did not fail; then nothing is dropped.  A rejected `N+1`-th element is dropped
    once (by the `map_err` closure). -/
theorem arrayvec_drops_once (n : Nat) (ids : List Nat) (iterErr : Bool) :
    let o := decodeArr n ids iterErr
    o.pushed = ids.take (n + 1) ∧
    (o.dropped ++ (o.array.getD [])).Perm (o.pushed.map some) ∧
    (o.array.isSome ↔ (ids.length = n ∧ iterErr = false)) ∧
    (o.array.isSome → o.dropped = [] ∧ o.array = some (ids.map some)) :=
  arrayvec_ledger n ids iterErr

open ArrayVec in
/-- with distinct element identities: each pushed element has exactly one fate, every other
    value none. -/
theorem arrayvec_each_once (n : Nat) (ids : List Nat) (iterErr : Bool) (hnd : ids.Nodup) (id : Nat) :
    let o := decodeArr n ids iterErr
    (o.dropped ++ (o.array.getD [])).count (some id) = (if id ∈ ids.take (n + 1) then 1 else 0) ∧
    none ∉ o.dropped ++ (o.array.getD []) :=
  arrayvec_count n ids iterErr hnd id

/-! ## non-vacuity: concrete hostile inputs -/

/-- to compare by `decide`. -/
def outcome : Res α → Option (Option Err × Bytes)
  | .ok _ r => some (none, r)
  | .err e r => some (some e, r)
  | .panic => none

/-- an array header declaring 2^64-1 elements, nothing behind it: `Vec<u8>` decoding fails with
    end-of-input after consuming the header (no allocation proportional to the count). -/
example : outcome (decodeT (.seq (.int .u8)) [0x9b, 0xff, 0xff, 0xff, 0xff, 0xff, 0xff, 0xff, 0xff])
    = some (some .eoi, []) := by decide

/-- the crate's two hostile-length tests (minicbor-tests/tests/misc.rs: `7b ff×8`, `5b ff×8`). -/
example : outcome (decodeT .str [0x7b, 0xff, 0xff, 0xff, 0xff, 0xff, 0xff, 0xff, 0xff]) = some (some .eoi, []) ∧
    outcome (decodeT .bytes [0x5b, 0xff, 0xff, 0xff, 0xff, 0xff, 0xff, 0xff, 0xff]) = some (some .eoi, []) := by
  decide

/-- finding F1 (`82 1b ff×8 1a 3b9aca00` as `Duration`): with the checked carry it is a decode
    error; the un-fixed code (`Duration::new`) panicked here. -/
example : outcome (decodeT .duration
    [0x82, 0x1b, 0xff, 0xff, 0xff, 0xff, 0xff, 0xff, 0xff, 0xff, 0x1a, 0x3b, 0x9a, 0xca, 0x00])
    = some (some .message, []) := by decide

/-- the theorems are not vacuous on the success side either. -/
example : decodeT (.seq (.int .u8)) [0x82, 0x01, 0x02, 0x03] = .ok (.list [.int 1, .int 2]) [0x03] := by rfl
example : tokens [0x9b, 0xff, 0xff, 0xff, 0xff, 0xff, 0xff, 0xff, 0xff] = some [.tok (.array 18446744073709551615)] := by
  rfl
example : outcome (Dec.skip true [0x9f, 0x9f, 0x9f]) = some (some .eoi, []) := by decide

open ArrayVec in
example : decodeArr 2 [10, 11, 12, 13] false = ⟨none, [some 12, some 10, some 11], [10, 11, 12]⟩ ∧
    decodeArr 2 [10, 11] false = ⟨some [some 10, some 11], [], [10, 11]⟩ ∧
    decodeArr 2 [10] false = ⟨none, [some 10], [10]⟩ ∧
    decodeArr 2 [10, 11] true = ⟨none, [some 10, some 11], [10, 11]⟩ := by decide

end Minicbor.C02
