/-
  C06 — `skip()` consumes exactly one data item, whatever its nesting.

  The exactness statements rest on the simulation of Lemmas/SkipRefine.lean (the loop's state
  against the true count of items still to come) and on Lemmas/SkipExact.lean (the tokens read on
  a wire tree, what the true machine does on them, and that the loop follows it).
-/
import Minicbor.Lemmas.Consumes
import Minicbor.Lemmas.SkipExact
import Minicbor.Lemmas.C04Stable
import Minicbor.Lemmas.SkipNoAlloc
import Minicbor.Lemmas.SkipMem
import Minicbor.Lemmas.ParseSpec

namespace Minicbor.C06
open Dec

/-- the encoding fits in a Rust slice (`len ≤ isize::MAX < 2^64`).  Needed because the model's
    byte lists are unbounded while `nrounds`/`irounds` are saturating `u64` counters: a valid
    tree whose encoding exceeds `2^64` bytes could make `saturating_add` clip. -/
abbrev FitsSlice (w : WItem) : Prop := (encW w).length < 2 ^ 64

/-- C06 (alloc build).  For every well-formed item — arbitrarily nested
    definite and indefinite arrays and maps, chunked strings, tag chains — followed by
    arbitrary bytes, `skip` succeeds and stops exactly at the first byte after the item. -/
theorem skip_exact (w : WItem) (rest : Bytes) (hv : w.Valid) (hfit : FitsSlice w) :
    Dec.skip true (encW w ++ rest) = .ok () rest :=
  Dec.skip_encW w rest hv (by unfold FitsSlice at hfit; unfold U64MAX; omega)

/-- `Decoder::skip` (alloc and no-alloc build) never panics on arbitrary bytes: the
    `*n -= 1` in the stack bookkeeping never meets a `Some(0)`, no other operation can
    panic, and the local fuel of the model's loop (`remaining + 2`) is never exhausted
    (every iteration consumes at least one byte). -/
theorem skip_no_panic (alloc : Bool) (bs : Bytes) : Dec.skip alloc bs ≠ .panic :=
  Dec.skip_ne_panic alloc bs

/-- a successful `skip` does not look beyond the bytes it consumed (arbitrary bytes). -/
theorem skip_ext (alloc : Bool) (bs r q : Bytes) (h : Dec.skip alloc bs = .ok () r) :
    Dec.skip alloc (bs ++ q) = .ok () (r ++ q) :=
  Stable.ok_ext (ExtRel.rules.skip alloc) q h

/-- on every strict prefix of a well-formed item `skip` returns an error (it never stops early
    and never panics). -/
theorem skip_prefix_err (w : WItem) (p q : Bytes) (hv : w.Valid) (hfit : FitsSlice w)
    (hp : encW w = p ++ q) (hq : q ≠ []) : ∃ e r, Dec.skip true p = .err e r := by
  have h := skip_exact w [] hv hfit
  rw [List.append_nil, hp] at h
  exact ⟨_, Stable.prefix_eoi_nil (ExtRel.rules.skip true) (NoPanic.skip true) h hq⟩

theorem skip_prefix_err' (w : WItem) (p : Bytes) (hv : w.Valid) (hfit : FitsSlice w)
    (hp : p <+: encW w) (hne : p ≠ encW w) : ∃ e r, Dec.skip true p = .err e r := by
  obtain ⟨q, hq⟩ := hp
  exact skip_prefix_err w p q hv hfit hq.symm fun e => hne (by simpa [e] using hq)

/-- an indefinite-length array or map occurs somewhere inside a definite-length array or map
    (the nesting the no-alloc build documents as unsupported).  Necessary for the no-alloc build's
    `message` error on a well-formed item (`noalloc_exact`), not sufficient: `[[_ ]]` = `81 9f ff`
    is skipped, only an indefinite head met with two or more items pending is refused. -/
abbrev HasIndefInsideDef (w : WItem) : Prop := w.indefInDef = true

/-- lockstep of the two builds on arbitrary bytes: the no-alloc `skip` either computes
    exactly what the alloc `skip` computes (same result, same position) or returns the
    documented `message` error. -/
theorem noalloc_lockstep (bs : Bytes) :
    Dec.skip false bs = Dec.skip true bs ∨ ∃ r, Dec.skip false bs = .err .message r := by
  unfold Dec.skip
  simp only [Dec.bind_run, Dec.remaining]
  exact skipLoop_lock (bs.length + 1) SkipSt.init bs NoStack.init (by omega)

/-- whenever the no-alloc `skip` returns `ok`, so does the alloc `skip`, at the same position
    (arbitrary bytes, not only valid items): never a wrong position. -/
theorem noalloc_refines (bs r : Bytes) (h : Dec.skip false bs = .ok () r) :
    Dec.skip true bs = .ok () r := by
  rcases noalloc_lockstep bs with he | ⟨r', he⟩
  · rw [← he]; exact h
  · rw [he] at h; cases h

/-- the no-alloc build is exact on every well-formed item that does not nest an indefinite
    array/map inside a definite one. -/
theorem noalloc_exact (w : WItem) (rest : Bytes) (hv : w.Valid) (hfit : FitsSlice w)
    (hs : ¬ HasIndefInsideDef w) : Dec.skip false (encW w ++ rest) = .ok () rest :=
  skip_of_run (item_run false w hv 1 [] (Or.inl (by omega))
      (by unfold FitsSlice at hfit; unfold U64MAX; simp; omega)
      (fun _ => Or.inl ⟨by omega, by simpa [HasIndefInsideDef] using hs⟩))
    (reads_item w hv rest)

/-- no-alloc build: on a well-formed item followed by arbitrary bytes it returns either
    the exact position, or the documented unsupported-nesting error — and the latter only if
    the tree really has an indefinite array/map inside a definite one. -/
theorem noalloc_exact_or_unsupported (w : WItem) (rest : Bytes) (hv : w.Valid) (hfit : FitsSlice w) :
    Dec.skip false (encW w ++ rest) = .ok () rest ∨
    ((∃ r, Dec.skip false (encW w ++ rest) = .err .message r) ∧ HasIndefInsideDef w) := by
  by_cases hs : HasIndefInsideDef w
  · rcases noalloc_lockstep (encW w ++ rest) with he | he
    · left; rw [he]; exact skip_exact w rest hv hfit
    · right; exact ⟨he, hs⟩
  · left; exact noalloc_exact w rest hv hfit hs

/-- on a strict prefix the no-alloc build never returns `ok` either. -/
theorem noalloc_prefix_err (w : WItem) (p q : Bytes) (hv : w.Valid) (hfit : FitsSlice w)
    (hp : encW w = p ++ q) (hq : q ≠ []) : ∃ e r, Dec.skip false p = .err e r := by
  cases h : Dec.skip false p with
  | ok u r =>
    obtain ⟨e, r', he⟩ := skip_prefix_err w p q hv hfit hp hq
    rw [noalloc_refines p r h] at he; cases he
  | err e r => exact ⟨e, r, rfl⟩
  | panic => exact absurd h (skip_no_panic false p)

/-- fuel adequacy (termination / proportional work): the skip loop started with more fuel than
    remaining bytes never runs dry, because every iteration consumes at least one byte. -/
theorem skip_fuel_adequate (alloc : Bool) (fuel : Nat) (s : SkipSt) (bs : Bytes)
    (h : bs.length < fuel) : Dec.skipLoop alloc fuel s bs ≠ .panic :=
  Dec.skipLoop_ne_panic alloc fuel s bs h

/-- memory bound on arbitrary bytes (C02 refers to it for `skip`): at every head of the `while` loop
    (`Reach` = small-step semantics of the loop of `skip` started on `bs0`) the number of
    stack frames plus `irounds` is at most the number of bytes consumed so far. -/
theorem skip_stack_le_consumed (alloc : Bool) (bs0 : Bytes) (s : SkipSt) (bs : Bytes)
    (h : Reach alloc bs0 s bs) : s.stack.length + s.ir + bs.length ≤ bs0.length :=
  reach_stack_le_consumed alloc bs0 s bs h

/-- the reference parser (`Parse.lean`) reads back every valid tree followed by anything … -/
theorem parse_encW (w : WItem) (rest : Bytes) (hv : w.Valid) : parse (encW w ++ rest) = some (w, rest) :=
  Minicbor.parse_encW w rest hv

/-- … and accepts nothing else: "well-formed" = image of `encW` on valid trees = accepted by `parse`. -/
theorem parse_sound (bs : Bytes) (w : WItem) (r : Bytes) (h : parse bs = some (w, r)) :
    w.Valid ∧ bs = encW w ++ r :=
  Minicbor.parse_sound bs w r h

theorem wellformed_iff (bs : Bytes) :
    (∃ w : WItem, w.Valid ∧ bs = encW w) ↔ (∃ w, parse bs = some (w, [])) :=
  Minicbor.wellformed_iff bs

/-- `skip` agrees with full decoding of the same item: if the input (a slice) starts with a
    well-formed item, `skip` succeeds and stops exactly where the reference decoder stops. -/
theorem skip_agrees_parse (bs : Bytes) (w : WItem) (r : Bytes) (h : parse bs = some (w, r))
    (hlen : bs.length < 2 ^ 64) : Dec.skip true bs = .ok () r :=
  Dec.skip_agrees_parse bs w r h (by unfold U64MAX; omega)

/-- conversely, on a well-formed prefix a successful `skip` can only end where the parser ends. -/
theorem skip_ok_ends_at_parse (bs : Bytes) (w : WItem) (r r' : Bytes) (h : parse bs = some (w, r))
    (hlen : bs.length < 2 ^ 64) (hs : Dec.skip true bs = .ok () r') : r' = r := by
  rw [skip_agrees_parse bs w r h hlen] at hs
  injection hs with _ h2; exact h2.symm

/-- `[_ 1, [2, {_ 3: h'' }]], 4` nested: an indefinite array and an indefinite map inside definite arrays. -/
def sample : WItem :=
  .array .w0 [.arrayI [.uint .w0 1, .array .w1 [.uint .w0 2, .mapI [.uint .w0 3, .bytesI [(.w0, [1, 2])]]]],
              .tag .w0 1 (.uint .w0 4)]

example : sample.Valid ∧ FitsSlice sample ∧ HasIndefInsideDef sample := by
  refine ⟨by decide, by decide, by decide⟩

/-- the alloc build skips it exactly; the no-alloc build refuses it. -/
example : Dec.skip true (encW sample ++ [0xff, 0x00]) = .ok () [0xff, 0x00] :=
  skip_exact sample _ (by decide) (by decide)

example : ∃ r, Dec.skip false (encW sample) = .err .message r := ⟨(encW sample).drop 2, rfl⟩

/-- a supported nesting for the no-alloc build: an indefinite array as the last pending item. -/
def sample2 : WItem := .arrayI [.array .w0 [.uint .w0 1, .textI [(.w0, [0x61])]], .mapI []]

example : sample2.Valid ∧ FitsSlice sample2 ∧ ¬ HasIndefInsideDef sample2 := by
  refine ⟨by decide, by decide, by decide⟩

end Minicbor.C06
