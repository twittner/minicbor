/-
  C09 — Derived Encode/Decode round-trip for every type definition: round trip, errors, re-framed
  input (borrowing is Thm/C09.lean, which imports this file).

  `rf_dec_all` follows the decoder on re-framed input; `derive_roundtrip` is its instance at the
  encoder's own framing.  `vars_roundtrip` (the row of an enum, on the encoder's bytes) and
  `fieldsDec_indef` (the encoder's items in an indefinite-length container) go through the slot
  loops themselves.  What is said of the relation `rf` (sound and complete for the documented
  format, the preferred tree in it, only the data-model value of a tree matters) is read off its
  characterisation `rf_iff_all` (Lemmas/DeriveReframeIff.lean).

  `decTy` is the model of the generated `Decode` impl (Derive.lean, transcribed from
  minicbor-derive/src/decode.rs), `encTy` of the generated `Encode` impl.  The exclusion `noClash`
  is defined in Lemmas/DeriveDec.lean, the bytes of an enum row (`varIdx`, `rowBytes`) in
  Lemmas/DeriveLookup.lean.
-/
import Minicbor.Lemmas.DeriveSame
import Minicbor.Lemmas.DeriveReframe
import Minicbor.Lemmas.DeriveReframeIff
import Minicbor.Lemmas.DeriveSpecValid

namespace Minicbor.C09
open Minicbor.Derive Minicbor.Dec

theorem skip_emptyBody (enc : Encoding) (rest : Bytes) : Dec.skip true (emptyBody enc ++ rest) = .ok () rest := by
  cases enc
  · exact skip_emptyArray rest
  · exact Dec.skip_encW (.map .w0 []) rest rfl (by decide)

/-! ### re-framed input (indefinite-length containers, non-preferred heads) -/

/- `reframes t v w` (Reframe.lean, executable): the valid wire tree `w` carries the derived encoding
of `v : t` with every head at any width and every struct body, variant body and `Vec` in a
definite or indefinite-length container, at every nesting depth, the enum wrapper `[index, body]`
included (since the repair of K8); strings stay definite. -/

theorem rf_dec_all :
    (∀ t v, accField t = true → hasTy t v = true → ∀ w, w.valid = true → rf t v w = true →
      ∀ rest, decTy t (encW w ++ rest) = .ok (withDefaults t v) rest) ∧
    (∀ fs vs, acceptedFields fs = true → hasFields fs vs = true → FieldsRF fs vs) :=
  typed_ind (PVar := fun _ vars k vs => FieldsRF (nthFields vars k) vs) {
    here := fun _ _ _ _ _ _ _ _ _ _ _ ih => ih
    there := fun _ _ _ _ _ ih => ih
    int := fun k i hv w hw h rest => by
      simp only [decTy, withDefaults, Dec.bind_run, rf_int_dec k _ w rest hv hw h]; rfl
    bool := fun b w _ h rest => by
      simp only [decTy, withDefaults, Dec.bind_run, rf_bool_dec _ w rest h]; rfl
    text := fun k b _ _ w hw h rest => by
      simp only [decTy, withDefaults, Dec.bind_run, rf_text_dec _ w rest hw h]; rfl
    blob := fun k b _ w hw h rest => by
      simp only [decTy, withDefaults, Dec.bind_run, rf_bytes_dec _ w rest hw h]; rfl
    none := fun t w _ h rest => by
      simp only [decTy, withDefaults]
      exact rf_none_dec _ w rest h
    some := fun t x _ _ ih w hw h rest => by
      simp only [rf, Bool.and_eq_true, Bool.not_eq_true'] at h
      simp only [decTy, withDefaults]
      exact rf_some_dec _ w rest _ hw h.1 (ih w hw h.2 rest)
    vec := fun t vs _ _ ih w hw h rest => by
      obtain ⟨xs, hai, h⟩ := rf_vec_iff.1 h
      simp only [decTy, withDefaults]
      exact rf_vec_dec (decTy t) (rf t) (withDefaults t) vs w rest hw xs hai h (fun x hx y hy hp r => (ih x hx).2 y hy hp r)
    struct := fun a fs vs htr _ hacc hnd hv hF w hw h rest => by
      obtain ⟨body, hu, cell, hbc, hcell⟩ := (rf_struct_iff htr).1 h
      obtain ⟨htc, hbody⟩ := tag_rf a.tag w body rest hw hu
      exact structDec_run htr htc (body_reframed _ fs vs body rest hacc hnd hv hbody cell hbc hcell hF)
    transparent := fun a fa ft x htr hs hF w hw h rest => by
      rw [rf_transparent htr] at h
      simp only [decTy, withDefaults, structDec, htr, if_true, decFields, transparentDec, defaultsFields, hs,
        Bool.false_eq_true, if_false, Dec.bind_run, hF.1 hs w hw h rest]
      rfl
    enum := fun e vars k vs ha _ _ hv hF w hw h rest => by
      simp only [withDefaults]
      exact enum_reframed e vars k vs w rest ha hv hw h hF
    nil := trivial
    cons := fun a t v fs vs hco hv ih ihs => ⟨fun hs y hy hr r => by
      rcases codec_cases (hco hs).2.2 hv with hn | ⟨hc, rfl, i, rfl, hi⟩
      · rw [rfWith_of_ne hn] at hr
        rw [decWith_of_ne hn]
        exact ih y hy hr r
      · rw [hc] at hr ⊢
        simpa [withDefaults] using nilu_rf i y r hi hy hr, ihs⟩ }

theorem rf_dec : ∀ (t : FTy) (v : Derive.Val) (w : WItem), accepted t = true → hasTy t v = true → w.valid = true →
    rf t v w = true → ∀ rest, decTy t (encW w ++ rest) = .ok (withDefaults t v) rest :=
  fun t v w ha hv => rf_dec_all.1 t v (accField_of_accepted ha) hv w

theorem rf_fields : ∀ (fs : Fields) (vs : List Derive.Val), acceptedFields fs = true → hasFields fs vs = true →
    FieldsRF fs vs :=
  rf_dec_all.2

theorem rf_vars (e : EAttr) : ∀ (vars : Variants) (k : Nat) (vs : List Derive.Val), acceptedVars e vars = true →
    hasVars vars k vs = true → FieldsRF (nthFields vars k) vs :=
  fun vars k vs ha hv => rf_fields _ vs (acceptedFields_nth e vars k ha) (hasFields_nth vars k vs hv)

/-- C09, re-framed input, with the re-framings given by the executable relation `reframes`
    (by `reframes_sound` / `reframes_complete` these are exactly the trees of
    `derive_decode_reframed_statement`; a value in the `Some(x) = null` exclusion has none: `rf_iff`):
    decoding `encW w` followed by arbitrary bytes yields the value (skipped fields defaulted) and
    consumes exactly `encW w`. -/
theorem derive_decode_reframed (t : FTy) (v : Derive.Val) (w : WItem) (rest : Bytes) (ha : accepted t = true)
    (hv : hasTy t v = true) (hw : w.Valid) (hrf : reframes t v w = true) :
    deriveDecode t (encW w ++ rest) = .ok (withDefaults t v) rest :=
  rf_dec t v w ha hv hw hrf rest

/-- byte-string fields (incl. the kinds that exist only through `with = "minicbor::bytes"`). -/
theorem _root_.Minicbor.Derive.blob_rf (t : FTy) (v : Derive.Val) (y : WItem) (r : Bytes) (hb : fieldBlob t = true)
    (hv : hasTy t v = true) (hy : y.valid = true) (h : rf t v y = true) :
    decTy t (encW y ++ r) = .ok (withDefaults t v) r :=
  rf_dec_all.1 t v (by simp [accField, hb]) hv y hy h r

/- The relation contains the encoder's own framing: the preferred tree of the documented item
   (whose bytes are the derived encoding, C08) re-frames every value, so `derive_decode_reframed`
   contains the round trip. -/

/-- C08 for a field's declared type (`accField`: with the byte-string kinds that exist only
    through `with = "minicbor::bytes"`). -/
theorem enc_spec_field {t : FTy} {v : Derive.Val} (ha : accField t = true) (hv : hasTy t v = true) :
    encTy t v = encW (prefTree (specTy t v)) :=
  (C08.denotes ha hv).1

theorem pref_rf : ∀ (t : FTy) (v : Derive.Val), accepted t = true → hasTy t v = true → noClash t v = true →
    rf t v (prefTree (specTy t v)) = true :=
  fun _ _ ha hv hc => (rf_iff ha hv _).2 ⟨snd_prefTree _, hc⟩

theorem pref_fields : ∀ (fs : Fields) (vs : List Derive.Val), acceptedFields fs = true → hasFields fs vs = true →
    noClashFields fs vs = true → FieldsPref fs vs :=
  fun fs vs ha hv => (rf_iff_all.2 fs vs ha hv).2.2.2

theorem pref_vars (e : EAttr) : ∀ (vars : Variants) (k : Nat) (vs : List Derive.Val), acceptedVars e vars = true →
    hasVars vars k vs = true → noClashVars vars k vs = true → FieldsPref (nthFields vars k) vs :=
  fun vars k vs ha hv hc => (rf_iff_vars e vars k vs ha hv).2.2.2 (by rwa [← noClashVars_nth])

theorem reframes_preferred (t : FTy) (v : Derive.Val) (ha : accepted t = true) (hv : hasTy t v = true)
    (hc : noClash t v = true) : reframes t v (prefTree (specTy t v)) = true :=
  pref_rf t v ha hv hc

/-! ### the round trip: the re-framed decode at the encoder's own framing -/

theorem dec_roundtrip_field (t : FTy) (v : Derive.Val) (ha : accField t = true) (hv : hasTy t v = true)
    (hc : noClash t v = true) (rest : Bytes) : decTy t (encTy t v ++ rest) = .ok (withDefaults t v) rest := by
  rw [enc_spec_field ha hv]
  exact rf_dec_all.1 t v ha hv _ (spec_valid_field ha hv) ((rf_iff_all.1 t v ha hv _).2 ⟨snd_prefTree _, hc⟩) rest

theorem dec_roundtrip : ∀ (t : FTy) (v : Derive.Val), accepted t = true → hasTy t v = true → noClash t v = true →
    ∀ rest, decTy t (encTy t v ++ rest) = .ok (withDefaults t v) rest :=
  fun t v ha => dec_roundtrip_field t v (accField_of_accepted ha)

theorem blob_rt (t : FTy) (v : Derive.Val) (hb : fieldBlob t = true) (hv : hasTy t v = true) (hc : noClash t v = true)
    (rest : Bytes) : decTy t (encTy t v ++ rest) = .ok (withDefaults t v) rest :=
  dec_roundtrip_field t v (by simp [accField, hb]) hv hc rest

theorem fields_roundtrip : ∀ (fs : Fields) (vs : List Derive.Val), acceptedFields fs = true → hasFields fs vs = true →
    noClashFields fs vs = true → FieldsRT fs vs
  | [], _, _, _, _ => trivial
  | (a, t) :: fs, [], _, _, _ => trivial
  | (a, t) :: fs, v :: vs, ha, hv, hc => by
    simp only [acceptedFields, Bool.and_eq_true] at ha
    simp only [hasFields, Bool.and_eq_true] at hv
    simp only [noClashFields, Bool.and_eq_true, Bool.or_eq_true] at hc
    refine ⟨fun hs r => ?_, fields_roundtrip fs vs ha.2 hv.2 hc.2⟩
    rcases codec_cases (fieldAttrOk_live ha.1.1 hs).2.2 hv.1 with hn | ⟨hcd, rfl, i, rfl, hi⟩
    · rw [decWith_of_ne hn, encWith_of_ne hn]
      exact dec_roundtrip_field t v ha.1.2 hv.1 (hc.1.resolve_left (by simp [hs])) r
    · rw [hcd]
      simpa [withDefaults] using nilu_rt i r hi (decTy (.int .u32)) (encTy (.int .u32))

theorem vars_roundtrip (e : EAttr) : ∀ (vars : Variants) (k : Nat) (vs : List Derive.Val) (pos : Nat),
    acceptedVars e vars = true → (vars.map (·.1.idx)).Nodup → hasVars vars k vs = true →
    noClashVars vars k vs = true →
    ∀ rest, findVariant (decVars e vars) pos (varIdx vars k) (rowBytes e vars k vs ++ rest) =
      .ok (.enum (pos + k) (defaultsVars vars k vs)) rest := by
  intro vars k vs pos ha hnd hv hc rest
  obtain ⟨va, hnth, hty, hdef⟩ := hasVars_nth vars k vs hv
  rw [noClashVars_nth] at hc
  generalize nthFields vars k = fs at hnth hty hdef hc
  obtain ⟨hidx, htag, hacc, hndF, hunit, hio⟩ := acceptedVars_mem e vars va fs ha (List.mem_of_getElem? hnth)
  rw [(row_nth e vars k vs va fs hnth).1, (row_nth e vars k vs va fs hnth).2, findVariant_nth e vars k pos va fs hnd hnth,
    hdef]
  simp only [rowBytes, varBody]
  cases hsh : va.shape
  · -- unit variant: no fields
    have hfs := hunit hsh
    subst hfs
    have hvs : vs = [] := by cases vs <;> simp [hasFields] at hty ⊢
    subst hvs
    cases hix : e.indexOnly
    · simp only [Bool.false_eq_true, if_false, List.append_assoc, Dec.bind_run, tagCheck_rt _ _ htag,
        skip_emptyBody, Dec.pure_run, defaultsFields]
    · simp [Dec.bind_run, defaultsFields]
  all_goals
    simp only [List.append_assoc, Dec.bind_run, tagCheck_rt _ _ htag,
      fieldsDec_rt _ fs vs rest hacc hndF hty (fields_roundtrip fs vs hacc hty hc), Dec.pure_run]

/-- C09, main statement.  For every struct or enum definition accepted by the derive macros
    and every value of it (outside the documented `Some(x) ↦ null` exclusion), decoding the
    derived encoding followed by arbitrary bytes yields an equal value, skipped fields taking
    their default, and consumes exactly the encoding. -/
theorem derive_roundtrip (t : FTy) (v : Derive.Val) (ha : accepted t = true) (hv : hasTy t v = true)
    (hc : noClash t v = true) (rest : Bytes) :
    deriveDecode t (deriveEncode t v ++ rest) = .ok (withDefaults t v) rest :=
  dec_roundtrip t v ha hv hc rest

theorem derive_roundtrip_exact_length (t : FTy) (v : Derive.Val) (ha : accepted t = true) (hv : hasTy t v = true)
    (hc : noClash t v = true) :
    deriveDecode t (deriveEncode t v) = .ok (withDefaults t v) [] := by
  have := derive_roundtrip t v ha hv hc []
  simpa using this

/-- the statement of `derive_roundtrip`, which is the re-framed decode at `w = prefTree (specTy t v)`
    (`dec_roundtrip_field`; C08: `encW (prefTree (specTy t v)) = deriveEncode t v`, a valid tree). -/
theorem derive_roundtrip_from_reframed (t : FTy) (v : Derive.Val) (rest : Bytes) (ha : accepted t = true)
    (hv : hasTy t v = true) (hc : noClash t v = true) :
    deriveDecode t (deriveEncode t v ++ rest) = .ok (withDefaults t v) rest :=
  derive_roundtrip t v ha hv hc rest

/-! ### errors are reported, never papered over with defaults -/

theorem tagCheck_wrong (t t' : Nat) (rest : Bytes) (h : t' < 18446744073709551616) (hne : t' ≠ t) :
    tagCheck (some t) (Enc.tag t' ++ rest) = .err .tag rest := by
  simp [tagCheck, Dec.bind_run, Reads.tag t' h rest, hne]

theorem derive_wrong_tag (a : SAttr) (fs : Fields) (t t' : Nat) (rest : Bytes) (ht : a.tag = some t)
    (hnt : a.transparent = false) (h : t' < 18446744073709551616) (hne : t' ≠ t) :
    deriveDecode (.struct a fs) (Enc.tag t' ++ rest) = .err .tag rest := by
  simp only [deriveDecode, decTy, structDec, hnt, Bool.false_eq_true, if_false, ht]
  rw [Dec.bind_run, tagCheck_wrong t t' rest h hne]

theorem derive_wrong_tag_enum (a : EAttr) (vars : Variants) (t t' : Nat) (rest : Bytes) (ht : a.tag = some t)
    (h : t' < 18446744073709551616) (hne : t' ≠ t) :
    deriveDecode (.enum a vars) (Enc.tag t' ++ rest) = .err .tag rest := by
  simp only [deriveDecode, decTy, enumDec, ht]
  rw [Dec.bind_run, tagCheck_wrong t t' rest h hne]

theorem derive_missing_tag (a : SAttr) (fs : Fields) (t : Nat) (b : UInt8) (bs : Bytes) (ht : a.tag = some t)
    (hnt : a.transparent = false) (hb : Dec.majorOf b ≠ 0xc0) :
    ∃ e r, deriveDecode (.struct a fs) (b :: bs) = .err e r := by
  obtain ⟨e, r, he⟩ := typeMismatch_is_err (α := Nat) b bs
  refine ⟨e, r, ?_⟩
  simp only [deriveDecode, decTy, structDec, hnt, Bool.false_eq_true, if_false, ht, tagCheck]
  simp [Dec.bind_run, Dec.tag, hb, he]

theorem slotValue_res (fd : FDec) (s : Option Derive.Val) (r : Bytes) :
    (∃ v, slotValue fd s r = .ok v r) ∨ slotValue fd s r = .err .missing r := by
  unfold slotValue
  cases fd.a.skip
  · cases s with
    | some x => exact Or.inl ⟨x, rfl⟩
    | none =>
      cases fd.nilV with
      | some z => exact Or.inl ⟨z, rfl⟩
      | none => exact Or.inr rfl
  · exact Or.inl ⟨fd.dflt, rfl⟩

theorem resolve_missing : ∀ (fds : List FDec) (ss : Slots) (r : Bytes), fds.length = ss.length →
    (∃ i, ∃ (h : i < fds.length) (h' : i < ss.length), (fds[i]).a.skip = false ∧ ss[i] = none ∧ (fds[i]).nilV = none) →
    resolve fds ss r = .err .missing r
  | [], _, _, _, ⟨i, h, _⟩ => by simp at h
  | fd :: fds, [], _, hl, _ => by simp at hl
  | fd :: fds, s :: ss, r, hl, ⟨i, h, h', hskip, hs, hn⟩ => by
    simp only [resolve]
    cases i with
    | zero =>
      simp only [List.getElem_cons_zero] at hskip hs hn
      rw [Dec.bind_run]
      simp [slotValue, hskip, hs, hn]
    | succ i =>
      simp only [List.getElem_cons_succ] at hskip hs hn
      have ih := resolve_missing fds ss r (by simpa using hl)
        ⟨i, by simpa using h, by simpa using h', hskip, hs, hn⟩
      rw [Dec.bind_run]
      rcases slotValue_res fd s r with ⟨v, hv⟩ | hv
      · rw [hv]
        simp only []
        rw [Dec.bind_run, ih]
      · rw [hv]

theorem decFields_eq_map : ∀ (fs : Fields), decFields fs = fs.map fun f => fdOf f.1 f.2
  | [] => rfl
  | (a, t) :: fs => by rw [decFields_cons, decFields_eq_map fs]; rfl

/-- a struct that declares a mandatory (non-nil-able, non-skipped) field rejects the empty array
    and the empty map. -/
theorem derive_missing_mandatory (a : SAttr) (fs : Fields) (fa : FAttr) (ft : FTy) (rest : Bytes)
    (hnt : a.transparent = false) (htag : a.tag = none) (hmem : (fa, ft) ∈ fs) (hlive : fa.skip = false)
    (hmand : nilOf fa ft = none) (hnoopt : ft.isOption = false) :
    deriveDecode (.struct a fs) (emptyBody (a.enc.getD .array) ++ rest) = .err .missing rest := by
  have hres : resolve (decFields fs) ((decFields fs).map (·.init)) rest = .err .missing rest := by
    obtain ⟨i, hi, hget⟩ := List.getElem_of_mem hmem
    refine resolve_missing _ _ _ (by simp) ⟨i, by simpa [decFields_eq_map] using hi, by simpa [decFields_eq_map] using hi, ?_⟩
    simp [decFields_eq_map, hget, fdOf, hlive, hmand, slotInit, hnoopt]
  simp only [deriveDecode, decTy, structDec, hnt, Bool.false_eq_true, if_false, htag, tagCheck]
  cases henc : a.enc.getD .array
  · have e : emptyBody .array ++ rest = Enc.array 0 ++ rest := rfl
    simp only [Dec.bind_run, Dec.pure_run, Derive.fieldsDec, statements, e, Reads.arrayHead 0 (by decide) rest, arrLoopN, hres]
  · have e : emptyBody .map ++ rest = Enc.map 0 ++ rest := rfl
    simp only [Dec.bind_run, Dec.pure_run, Derive.fieldsDec, statements, e, Reads.mapHead 0 (by decide) rest, mapLoopN, hres]

/-- an unknown variant at top level is an error (position: right after the index). -/
theorem derive_unknown_variant (a : EAttr) (vars : Variants) (i : Nat) (rest : Bytes) (htag : a.tag = none)
    (hi : i < 4294967296) (hunk : i ∉ vars.map (·.1.idx)) :
    deriveDecode (.enum a vars) ((if a.indexOnly then [] else Enc.array 2) ++ (Enc.u32 i ++ rest)) = .err .variant rest := by
  have hfv := findVariant_unknown (decVars a vars) 0 i rest (by
    intro vd hvd e; apply hunk; rw [← e]; exact decVars_idx a vars vd hvd)
  simp only [deriveDecode, decTy, enumDec, htag, tagCheck]
  cases hix : a.indexOnly
  · simp only [Bool.false_eq_true, if_false, Dec.bind_run, Dec.pure_run, Reads.arrayHead 2 (by decide) _, beq_self_eq_true,
      if_true, intAcc_u32 i rest hi]
    simp only [Int.toNat_natCast, hfv]
  · simp only [if_true, List.nil_append, Dec.bind_run, Dec.pure_run, intAcc_u32 i rest hi]
    simp only [Int.toNat_natCast, hfv]

/-- the two-element wrapper of an enum must have exactly two elements: a definite array of another
    length is rejected with a message error (an indefinite-length wrapper is accepted since the
    repair of K8: `derive_decode_reframed`, `derive_decode_reframed_K8_repaired`). -/
theorem derive_enum_wrong_wrapper_length (a : EAttr) (vars : Variants) (n : Nat) (rest : Bytes) (htag : a.tag = none)
    (hix : a.indexOnly = false) (hn : n < 24) (h2 : n ≠ 2) :
    deriveDecode (.enum a vars) (Enc.array n ++ rest) = .err .message rest := by
  have hne : (n == 2) = false := by simpa using h2
  simp only [deriveDecode, decTy, enumDec, htag, tagCheck, hix, Bool.false_eq_true, if_false, Dec.bind_run, Dec.pure_run,
    Reads.arrayHead n (by omega) rest, hne]
  rfl

/-! ### the struct's own container in indefinite-length form; the full statement -/

/- The property also quantifies over re-framings of the encoding.  Stated on wire trees (Wire.lean):
any valid tree `w` whose data-model value is the documented value and which does not chunk its
strings (the `String` / byte-string decoders reject chunked strings by design).  Before the repair
of K8 the generated enum decoder insisted on a definite two-element wrapper, which made the
statement false; `derive_decode_reframed_K8_repaired` is that input, decoded. -/

/-- a struct / variant body as the documented items inside an *indefinite-length* container. -/
def indefBody (enc : Encoding) (fs : Fields) (vs : List Derive.Val) : Bytes :=
  match enc with
  | .array =>
      0x9f :: ((match maxPresent (specFields fs vs) with
        | none => []
        | some m => encPrefs ((List.range' 0 (m + 1)).map (cellAt (specFields fs vs)))) ++ [0xff])
  | .map => 0xbf :: (mapStmts (sortP (encFields fs vs)) ++ [0xff])

/-- `datatype()` at the start of every array cell neither fails nor answers `Break`: what the
    indefinite-length loop tests before each iteration.  It holds of every valid item
    (`startNB_encW`); `fieldsDec_indef` takes it as a hypothesis. -/
def cellsStartOk (fs : Fields) (vs : List Derive.Val) : Bool :=
  match maxPresent (specFields fs vs) with
  | none => true
  | some m => (List.range' 0 (m + 1)).all fun i => startNB (encPref (cellAt (specFields fs vs) i))

/-- the indefinite-length loops of `gen_statements` on the items the encoder writes, closed by a break
    (fuel adequacy included): the writer's own cells and entries through `fieldsDec_arrI` /
    `fieldsDec_mapI`, the slots ending as after the definite container (`readerVals_self`). -/
theorem fieldsDec_indef (enc : Encoding) (fs : Fields) (vs : List Derive.Val) (rest : Bytes)
    (hacc : acceptedFields fs = true) (hnd : (liveIdxs fs).Nodup) (hty : hasFields fs vs = true)
    (hrt : FieldsRT fs vs) (hst : enc = .array → cellsStartOk fs vs = true) :
    Derive.fieldsDec enc (decFields fs) (indefBody enc fs vs ++ rest) = .ok (defaultsFields fs vs) rest := by
  have hv := readerVals_self enc fs vs hacc hty hnd
  have H := sameHyp_self enc fs vs hty hnd
  cases enc with
  | array =>
    have hs : ∀ i, i < arrLen fs vs → startNB (encPref (cellAt (specFields fs vs) i)) = true := by
      have h := hst rfl
      unfold cellsStartOk at h
      intro i hi
      cases hm : maxPresent (specFields fs vs) with
      | none => simp [arrLen, hm] at hi
      | some m =>
        rw [hm] at h
        simp only [arrLen, hm] at hi
        exact List.all_eq_true.1 h i (List.mem_range'_1.2 ⟨Nat.zero_le i, by omega⟩)
    have hb : indefBody .array fs vs ++ rest =
        0x9f :: (catX (fun i => encPref (cellAt (specFields fs vs) i)) 0 (arrLen fs vs) ++ 0xff :: rest) := by
      rw [catX_encPref]
      unfold indefBody arrLen
      cases maxPresent (specFields fs vs) with
      | none => rfl
      | some m => simp
    rw [hb, fieldsDec_arrI fs (rhoSame fs vs fs) (arrLen fs vs) _ rest hnd
      (fun i _ => stepH_sameCell .array fs vs fs hacc hty hrt hacc hnd H i) hs (by rw [sigmaF_arr]; exact hv.2),
      sigmaF_arr, hv.1]
  | map =>
    have hS : ∀ p ∈ sortP (encFields fs vs), p.idx < U32 :=
      fun p hp => mem_encFields_idx fs vs hacc hty p ((sortP_perm _).mem_iff.1 hp)
    have hE := stmtEntries_ok fs (rhoSame fs vs fs) (sortP (encFields fs vs)) hS
      (fun p hp _ => stepH_samePiece .map fs vs fs hnd hrt hacc H p ((sortP_perm _).mem_iff.1 hp))
    have hb : indefBody .map fs vs ++ rest = 0xbf :: (catE (stmtEntries (sortP (encFields fs vs))) ++ 0xff :: rest) := by
      simp [indefBody, (stmtEntries_bytes _).2]
    rw [hb, fieldsDec_mapI fs (rhoSame fs vs fs) _ rest hnd (fun e he => (hE e he).1) (fun e he => (hE e he).2.1)
      (fun e he => (hE e he).2.2) (by rw [ovrE_stmts]; exact hv.2), ovrE_stmts]
    exact congrArg (Res.ok · rest) hv.1

/-- a struct whose array / map container is given in indefinite-length form (`9f … ff` /
    `bf … ff`), the fields inside as the encoder writes them, decodes to the same value and is
    consumed exactly. -/
theorem derive_decode_indefinite_struct (a : SAttr) (fs : Fields) (vs : List Derive.Val) (rest : Bytes)
    (ha : accepted (.struct a fs) = true) (hv : hasTy (.struct a fs) (.struct vs) = true)
    (hc : noClash (.struct a fs) (.struct vs) = true) (hta : a.transparent = false)
    (hst : a.enc.getD .array = .array → cellsStartOk fs vs = true) :
    deriveDecode (.struct a fs) (tagBytes a.tag ++ (indefBody (a.enc.getD .array) fs vs ++ rest))
      = .ok (.struct (defaultsFields fs vs)) rest := by
  obtain ⟨htag, hacc, hnd⟩ := accepted_struct ha
  exact structDec_run hta (tagCheck_rt _ _ htag)
    (fieldsDec_indef _ fs vs rest hacc hnd hv (fields_roundtrip fs vs hacc hv hc) hst)

example : deriveDecode C08.exStruct ([0xc9] ++ (indefBody .array
      [({ idx := 3, tag := some 5 }, .option (.int .u8)), ({ idx := 0 }, .text .string), ({ idx := 1, codec := .nilu }, .int .u32), ({ skip := true }, .bool)]
      [.some (.int 7), .text [0x61], .int 0, .bool true] ++ [0x01]))
    = .ok (.struct [.some (.int 7), .text [0x61], .int 0, .bool false]) [0x01] := by rfl

/-- the full-strength statement, proved as `derive_decode_reframed_full` from
    `derive_decode_reframed` and `reframes_complete`: every tree with the documented value and no
    chunked string is one that `reframes` admits. -/
def derive_decode_reframed_statement : Prop :=
  ∀ (t : FTy) (v : Derive.Val) (w : WItem) (rest : Bytes), accepted t = true → hasTy t v = true → noClash t v = true →
    w.Valid → value w = specTy t v → noChunks w = true →
    deriveDecode t (encW w ++ rest) = .ok (withDefaults t v) rest

theorem derive_decode_reframed_partial (t : FTy) (v : Derive.Val) (rest : Bytes) (ha : accepted t = true)
    (hv : hasTy t v = true) (hc : noClash t v = true) :
    deriveDecode t (encW (prefTree (specTy t v)) ++ rest) = .ok (withDefaults t v) rest :=
  enc_spec_field (accField_of_accepted ha) hv ▸ derive_roundtrip t v ha hv hc rest

def k8Type : FTy := .enum {} [({ idx := 0, shape := .unit }, [])]
def k8Wire : WItem := .arrayI [.uint .w0 0, .array .w0 []]

/-- the K8 witness: `enum E { #[n(0)] A }`; the valid re-framing `9f 00 80 ff` of `82 00 80`
    has the same data-model value; it was rejected with a message error, and decodes since the repair. -/
theorem derive_decode_reframed_K8_repaired :
    accepted k8Type = true ∧ hasTy k8Type (.enum 0 []) = true ∧ noClash k8Type (.enum 0 []) = true ∧
    k8Wire.valid = true ∧ noChunks k8Wire = true ∧ encW k8Wire = [0x9f, 0x00, 0x80, 0xff] ∧
    reframes k8Type (.enum 0 []) k8Wire = true ∧
    deriveDecode k8Type (encW k8Wire ++ [7]) = .ok (.enum 0 []) [7] := by
  refine ⟨by rfl, by rfl, by rfl, by rfl, by rfl, by rfl, by rfl, by rfl⟩

theorem val_rf : ∀ (t : FTy) (v : Derive.Val) (w : WItem), accepted t = true → hasTy t v = true → rf t v w = true →
    Snd w (specTy t v) :=
  fun _ _ w ha hv h => ((rf_iff ha hv w).1 h).1

theorem val_fields : ∀ (fs : Fields) (vs : List Derive.Val), acceptedFields fs = true → hasFields fs vs = true →
    FieldsVal fs vs :=
  fun fs vs ha hv => (rf_iff_all.2 fs vs ha hv).2.1

theorem val_vars (e : EAttr) : ∀ (vars : Variants) (k : Nat) (vs : List Derive.Val), acceptedVars e vars = true →
    hasVars vars k vs = true → FieldsVal (nthFields vars k) vs :=
  fun vars k vs ha hv => (rf_iff_vars e vars k vs ha hv).2.1

/-- `reframes` is sound for the documented format: the trees of `derive_decode_reframed` are trees
    of `derive_decode_reframed_statement`. -/
theorem reframes_sound (t : FTy) (v : Derive.Val) (w : WItem) (ha : accepted t = true) (hv : hasTy t v = true)
    (h : reframes t v w = true) : value w = specTy t v ∧ noChunks w = true :=
  val_rf t v w ha hv h

/-- `derive_decode_reframed_statement` with the extra hypothesis `reframes t v w`, which is
    redundant (`derive_decode_reframed_full`). -/
theorem derive_decode_reframed_partial2 (t : FTy) (v : Derive.Val) (w : WItem) (rest : Bytes) (ha : accepted t = true)
    (hv : hasTy t v = true) (_hc : noClash t v = true) (hw : w.Valid) (_hval : value w = specTy t v)
    (_hnc : noChunks w = true) (hrf : reframes t v w = true) :
    deriveDecode t (encW w ++ rest) = .ok (withDefaults t v) rest :=
  derive_decode_reframed t v w rest ha hv hw hrf

/-- non-vacuity: every head widened, the struct body and the inner map indefinite, tags at widths
    2 and 8; the former K8 tree (indefinite enum wrapper) and the same tree with a definite wrapper. -/
def exReframedStruct : WItem :=
  .tag .w2 9 (.arrayI [.text .w1 [0x61], .simple 22, .simple 22, .tag .w8 5 (.uint .w4 7)])
def exReframedEnum : WItem :=
  .array .w1 [.uint .w2 7, .tag .w1 1 (.mapI [.uint .w1 2, .tag .w0 9 (.array .w2 [.text .w0 [], .uint .w8 5])])]

theorem reframed_examples :
    exReframedStruct.valid = true ∧
    reframes C08.exStruct (.struct [.some (.int 7), .text [0x61], .int 0, .bool true]) exReframedStruct = true ∧
    exReframedEnum.valid = true ∧
    reframes C08.exEnum (.enum 1 [.some (.struct [.none, .text [], .int 5, .bool false])]) exReframedEnum = true ∧
    reframes k8Type (.enum 0 []) k8Wire = true ∧
    reframes k8Type (.enum 0 []) (.array .w1 [.uint .w2 0, .arrayI []]) = true := by
  refine ⟨by decide, by decide, by decide, by decide, by decide, by decide⟩

example : deriveDecode C08.exStruct (encW exReframedStruct ++ [1])
    = .ok (.struct [.some (.int 7), .text [0x61], .int 0, .bool false]) [1] :=
  derive_decode_reframed C08.exStruct (.struct [.some (.int 7), .text [0x61], .int 0, .bool true]) exReframedStruct [1]
    (by rfl) (by rfl) (by decide) (by decide)

example : deriveDecode k8Type (encW k8Wire ++ [1]) = .ok (.enum 0 []) [1] :=
  derive_decode_reframed k8Type (.enum 0 []) k8Wire [1] (by rfl) (by rfl) (by decide) (by decide)

example : deriveDecode k8Type (encW (.array .w1 [.uint .w2 0, .arrayI []]) ++ [1]) = .ok (.enum 0 []) [1] :=
  derive_decode_reframed k8Type (.enum 0 []) (.array .w1 [.uint .w2 0, .arrayI []]) [1] (by rfl) (by rfl) (by decide) (by decide)

/-! ### the exclusion is necessary; non-vacuity -/

/-- `Option<Option<u8>>`: `Some(None)` is written as `null` and comes back as `None`. -/
theorem null_clash_counterexample :
    let t : FTy := .struct {} [({ idx := 0 }, .vec (.option (.option (.int .u8))))]
    let v : Derive.Val := .struct [.list [.some .none]]
    accepted t = true ∧ hasTy t v = true ∧ noClash t v = false ∧
      deriveDecode t (deriveEncode t v) = .ok (.struct [.list [.none]]) [] := by
  refine ⟨rfl, rfl, rfl, rfl⟩

example : noClash C08.exStruct (.struct [.some (.int 7), .text [0x61], .int 0, .bool true]) = true := by rfl
example : deriveDecode C08.exStruct (deriveEncode C08.exStruct (.struct [.some (.int 7), .text [0x61], .int 0, .bool true]) ++ [1, 2])
    = .ok (.struct [.some (.int 7), .text [0x61], .int 0, .bool false]) [1, 2] := by rfl

/-! ### completeness of `reframes` -/

/- `rf t v w` says that `w` is an unchunked tree of the documented item and that `v` is outside the
exclusion (`rf_iff`, Lemmas/DeriveReframeIff.lean).  So `rf` only looks at the data-model value of a
tree (`rf_sim`), and every valid tree with the documented value and unchunked strings is in it. -/

theorem rf_sim : ∀ (t : FTy) (v : Derive.Val) (w1 w2 : WItem), accepted t = true → hasTy t v = true →
    rf t v w1 = true → Sim w1 w2 → rf t v w2 = true :=
  fun _ _ w1 w2 ha hv h hs => (rf_iff ha hv w2).2 ⟨((rf_iff ha hv w1).1 h).1.sim hs, ((rf_iff ha hv w1).1 h).2⟩

theorem sim_fields : ∀ (fs : Fields) (vs : List Derive.Val), acceptedFields fs = true → hasFields fs vs = true → FieldsSim fs vs :=
  fun fs vs ha hv => (rf_iff_all.2 fs vs ha hv).2.2.1

theorem sim_vars (e : EAttr) : ∀ (vars : Variants) (k : Nat) (vs : List Derive.Val) (w1 w2 : WItem), acceptedVars e vars = true →
    hasVars vars k vs = true → rfVars e vars k vs w1 = true → Sim w1 w2 → rfVars e vars k vs w2 = true :=
  fun vars k vs w1 w2 ha hv h hs =>
    have hi := fun w => vars_iff e vars k vs w ha hv (rf_iff_vars e vars k vs ha hv).1
    (hi w2).2 ⟨((hi w1).1 h).1.sim hs, ((hi w1).1 h).2⟩

theorem reframes_complete (t : FTy) (v : Derive.Val) (w : WItem) (ha : accepted t = true) (hv : hasTy t v = true)
    (hc : noClash t v = true) (hval : value w = specTy t v) (hnc : noChunks w = true) : reframes t v w = true :=
  (rf_iff ha hv w).2 ⟨⟨hval, hnc⟩, hc⟩

/-- C09, re-framed input, full statement: for every accepted schema, every value (outside the
    documented `Some(x) = null` exclusion) and every valid wire tree that carries the documented
    value without chunking a string — heads of any width, every container (struct / variant bodies,
    `Vec`s, the enum wrapper) definite or indefinite, at any nesting depth — the derived decoder
    returns the value (skipped fields defaulted) and consumes exactly the item. -/
theorem derive_decode_reframed_full : derive_decode_reframed_statement := by
  intro t v w rest ha hv hc hw hval hnc
  exact derive_decode_reframed t v w rest ha hv hw (reframes_complete t v w ha hv hc hval hnc)

end Minicbor.C09
