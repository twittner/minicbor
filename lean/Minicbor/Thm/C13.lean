/-
  C13 — Bounded sinks: encoding succeeds iff it fits, never overruns, sink-independent.
  Model: Sink.lean; the layout invariant and the per-call lemmas: Lemmas/SinkLemmas.lean.

  An encoding is the list `cs` of chunks the `Encoder` hands to `write_all` one after the other
  (`Encoder::put`); every theorem quantifies over all chunk lists, hence over every value of
  every type and every split of its encoding into encoder-internal writes.  A bounded sink
  is set up over a buffer `B` (capacity `B.length`) lying between canary regions `L` and `R` of a
  larger memory; `BSink` ranges over `&mut [u8]`, `Cursor<&mut [u8]>`, `Cursor<[u8; N]>`,
  `Cursor<Box<[u8]>>` (`.mem k`) and `Writer<W>` over a limited `std::io::Write` accepting at
  most `step > 0` bytes per call (`.io step`).
-/
import Minicbor.Lemmas.SinkLemmas
import Minicbor.EncPuts

namespace Minicbor.C13
open Sink

def fresh (t : BSink) (L B R : Bytes) : Sink := t.mk (freshBuf L B R)

theorem fresh_view (t : BSink) {b' : Buf} {L B R X : Bytes} (l : Lay b' L X (B.drop X.length) R) :
    (t.mk b').accepted = X ∧ (t.mk b').position = (t.mk b').accepted.length ∧
    (t.mk b').memory = L ++ (t.mk b').accepted ++ B.drop (t.mk b').accepted.length ++ R := by
  obtain ⟨h1, h2, h3⟩ := l.accepted t
  rw [h1]
  exact ⟨rfl, h2, h3⟩

theorem putAll_fresh (t : BSink) (ht : t.good) (L B R : Bytes) (cs : List Bytes) :
    ∃ s', (fresh t L B R).putAll cs = (if cs.flatten.length ≤ B.length then .ok s' else .err s') ∧
      s'.accepted = fitPrefix t.atomic B.length cs ∧ s'.position = s'.accepted.length ∧
      s'.memory = L ++ s'.accepted ++ B.drop s'.accepted.length ++ R := by
  obtain ⟨b', e, l⟩ := putAll_fit t ht cs (freshBuf_lay L B R)
  exact ⟨t.mk b', e, fresh_view t l⟩

/-- succeeds iff it fits: encoding into a bounded sink of capacity `n = B.length` succeeds
    exactly when the encoding is at most `n` bytes long. -/
theorem sink_iff_fits (t : BSink) (ht : t.good) (L B R : Bytes) (cs : List Bytes) :
    (∃ s', (fresh t L B R).putAll cs = .ok s') ↔ cs.flatten.length ≤ B.length := by
  obtain ⟨s', e, -⟩ := putAll_fresh t ht L B R cs
  rw [e]
  by_cases hfit : cs.flatten.length ≤ B.length
  · rw [if_pos hfit]; exact ⟨fun _ => hfit, fun _ => ⟨s', rfl⟩⟩
  · rw [if_neg hfit]; exact ⟨fun ⟨_, h⟩ => (nomatch h), fun h => absurd h hfit⟩

/-- never overruns, leaves a prefix: whatever happens, the canary regions `L` and `R` are
    intact and the memory is `L ++ A ++ (untouched rest of the buffer) ++ R`, where `A` — the
    bytes the sink reports as accepted — is the whole encoding on success and a prefix of it
    (never longer than the buffer) on failure; and it never panics. -/
theorem sink_prefix (t : BSink) (ht : t.good) (L B R : Bytes) (cs : List Bytes) :
    match (fresh t L B R).putAll cs with
    | .ok s' => s'.memory = L ++ cs.flatten ++ B.drop cs.flatten.length ++ R ∧ s'.accepted = cs.flatten
    | .err s' => ∃ A, A <+: cs.flatten ∧ A.length ≤ B.length ∧
        s'.memory = L ++ A ++ B.drop A.length ++ R ∧ s'.accepted = A
    | .panic => False := by
  obtain ⟨s', e, ha, -, hm⟩ := putAll_fresh t ht L B R cs
  by_cases hfit : cs.flatten.length ≤ B.length
  · rw [e, if_pos hfit]
    rw [fitPrefix_all _ _ _ hfit] at ha
    exact ⟨ha ▸ hm, ha⟩
  · rw [e, if_neg hfit]
    exact ⟨_, ha ▸ fitPrefix_prefix _ _ _, ha ▸ fitPrefix_le _ _ _, hm, rfl⟩

/-- `Vec<u8>` is infallible and collects exactly the encoding. -/
theorem vec_collects (d : Bytes) (cs : List Bytes) :
    (Sink.vec d).putAll cs = .ok (.vec (d ++ cs.flatten)) := by
  induction cs generalizing d with
  | nil => simp [Sink.putAll]
  | cons c cs ih => simp [Sink.putAll, Sink.writeAll, ih]

/-- sink-independent: whenever two sinks (of any kinds, capacities and surroundings) both
    accept an encoding they hold the same bytes — the bytes `to_vec` returns. -/
theorem sink_independent (t₁ t₂ : BSink) (h₁ : t₁.good) (h₂ : t₂.good) (L₁ B₁ R₁ L₂ B₂ R₂ : Bytes)
    (cs : List Bytes) (s₁ s₂ : Sink)
    (e₁ : (fresh t₁ L₁ B₁ R₁).putAll cs = .ok s₁) (e₂ : (fresh t₂ L₂ B₂ R₂).putAll cs = .ok s₂) :
    s₁.accepted = s₂.accepted ∧
    (Sink.vec []).putAll cs = .ok (.vec s₁.accepted) := by
  have p₁ := sink_prefix t₁ h₁ L₁ B₁ R₁ cs
  have p₂ := sink_prefix t₂ h₂ L₂ B₂ R₂ cs
  rw [e₁] at p₁; rw [e₂] at p₂
  rw [p₁.2, p₂.2, vec_collects]
  simp

def keptChunks : List Bytes → List Bool → Bytes
  | c :: cs, true :: os => c ++ keptChunks cs os
  | _ :: cs, false :: os => keptChunks cs os
  | _, _ => []

theorem specSeq_atomic (cs : List Bytes) : ∀ free,
    (specSeq true free cs).2 = keptChunks cs (specSeq true free cs).1 := by
  induction cs with
  | nil => intro free; simp [specSeq, keptChunks]
  | cons c cs ih =>
    intro free
    unfold specSeq
    split <;> simp [keptChunks, ih]

/-- scripts of Encoder calls on one bounded sink, carrying on after a call that did not fit
    (`Sink.callSeq`, what the six-configuration op `encseq` runs).  `pss` gives, per call, the `put`
    chunks of the method.  A call succeeds iff its whole encoding fits into what is left at that
    time (`specCalls`); whatever happened before, the position is the number of bytes accepted,
    the memory is `L ++ accepted ++ untouched rest of B ++ R`, and a failed call has added a prefix
    of its own encoding only (`fitPrefix`): on the all-or-nothing sinks whole chunks, never part of
    one.  So what the next call sees after a failure is determined by the sizes alone. -/
theorem call_script (t : BSink) (ht : t.good) (L B R : Bytes) (pss : List (List Bytes)) :
    ∃ s', (fresh t L B R).callSeq pss = some (s', (specCalls t.atomic B.length pss).1) ∧
      s'.position = s'.accepted.length ∧
      s'.accepted = (specCalls t.atomic B.length pss).2 ∧
      s'.accepted.length ≤ B.length ∧
      s'.memory = L ++ s'.accepted ++ B.drop s'.accepted.length ++ R := by
  obtain ⟨b', e, l⟩ := callSeq_spec t ht pss (freshBuf_lay L B R)
  obtain ⟨ha, hp, hm⟩ := fresh_view t l
  exact ⟨t.mk b', e, hp, ha, ha ▸ specCalls_le _ _ _, hm⟩

/-- cursor position: after any sequence of raw `write_all` calls (carrying on after failed
    ones) the position equals the number of bytes accepted so far and indexes the next free
    byte: the memory is `L ++ accepted ++ rest of B ++ R`.  The per-call outcomes are those of the
    specification `specSeq` (a call succeeds iff the chunk fits into what is left); on the
    all-or-nothing sinks the accepted bytes are exactly the chunks of the successful calls. -/
theorem cursor_position (t : BSink) (ht : t.good) (L B R : Bytes) (cs : List Bytes) :
    ∃ s', (fresh t L B R).writeSeq cs = some (s', (specSeq t.atomic B.length cs).1) ∧
      s'.position = s'.accepted.length ∧
      s'.accepted = (specSeq t.atomic B.length cs).2 ∧
      s'.accepted.length ≤ B.length ∧
      s'.memory = L ++ s'.accepted ++ B.drop s'.accepted.length ++ R ∧
      (t.atomic = true → s'.accepted = keptChunks cs (specSeq t.atomic B.length cs).1) := by
  obtain ⟨s', e, hp, ha, hl, hm⟩ := call_script t ht L B R (cs.map fun c => [c])
  rw [← writeSeq_eq_callSeq, ← specSeq_eq_specCalls] at e
  rw [← specSeq_eq_specCalls] at ha
  exact ⟨s', e, hp, ha, hl, hm, fun h => by rw [ha, h]; exact specSeq_atomic cs _⟩

/-- the same for an encoding (which stops at the first failed `put`). -/
theorem position_after_encoding (t : BSink) (ht : t.good) (L B R : Bytes) (cs : List Bytes) :
    match (fresh t L B R).putAll cs with
    | .ok s' => s'.position = s'.accepted.length ∧ s'.position = cs.flatten.length
    | .err s' => s'.position = s'.accepted.length ∧ s'.position ≤ B.length
    | .panic => False := by
  obtain ⟨s', e, ha, hp, -⟩ := putAll_fresh t ht L B R cs
  by_cases hfit : cs.flatten.length ≤ B.length
  · rw [e, if_pos hfit]
    exact ⟨hp, by rw [hp, ha, fitPrefix_all _ _ _ hfit]⟩
  · rw [e, if_neg hfit]
    exact ⟨hp, by rw [hp, ha]; exact fitPrefix_le _ _ _⟩

/-- what one call leaves behind (`fitPrefix`) in `free` bytes of room: a prefix of its encoding no
    longer than the room; all of it if it fits, strictly less if not. -/
theorem call_leaves_prefix (atomic : Bool) (free : Nat) (ps : List Bytes) :
    fitPrefix atomic free ps <+: ps.flatten ∧ (fitPrefix atomic free ps).length ≤ free ∧
    (ps.flatten.length ≤ free → fitPrefix atomic free ps = ps.flatten) ∧
    (free < ps.flatten.length → (fitPrefix atomic free ps).length < ps.flatten.length) :=
  ⟨fitPrefix_prefix _ _ _, fitPrefix_le _ _ _, fitPrefix_all _ _ _, Nat.lt_of_le_of_lt (fitPrefix_le _ _ _)⟩

/-- a script without failures is one encoding: the chunks of all calls in order. -/
theorem call_script_all_fit (t : BSink) (ht : t.good) (L B R : Bytes) (pss : List (List Bytes))
    (h : pss.flatten.flatten.length ≤ B.length) :
    (specCalls t.atomic B.length pss).1 = pss.map (fun _ => true) ∧
    (specCalls t.atomic B.length pss).2 = pss.flatten.flatten := by
  revert h
  generalize B.length = free
  induction pss generalizing free with
  | nil => simp [specCalls]
  | cons ps rest ih =>
    intro h
    simp only [List.flatten_cons, List.flatten_append, List.length_append] at h
    have e := fitPrefix_all t.atomic ps free (by omega)
    obtain ⟨i1, i2⟩ := ih (free - ps.flatten.length) (by omega)
    simp only [specCalls, e, List.map_cons, List.flatten_cons, List.flatten_append, i1, i2,
      decide_eq_true (show ps.flatten.length ≤ free by omega), and_self]

/-- failure is a write error, never a panic: too long an encoding yields `Error::write`. -/
theorem failure_is_write_error (t : BSink) (ht : t.good) (L B R : Bytes) (cs : List Bytes) :
    (fresh t L B R).putAll cs ≠ .panic ∧
    (fresh t L B R).writeSeq cs ≠ none ∧
    (B.length < cs.flatten.length → ∃ s', (fresh t L B R).putAll cs = .err s') := by
  obtain ⟨s', e, -⟩ := putAll_fresh t ht L B R cs
  obtain ⟨s'', e', -⟩ := cursor_position t ht L B R cs
  rw [e, e']
  refine ⟨by split <;> simp, by simp, fun hlt => ⟨s', by rw [if_neg (by omega)]⟩⟩

/-- exact fit (what `no_std` users rely on): a buffer of exactly the encoding's length
    accepts it; one byte less does not. -/
theorem exact_buffer (t : BSink) (ht : t.good) (L B R : Bytes) (cs : List Bytes) :
    (B.length = cs.flatten.length → ∃ s', (fresh t L B R).putAll cs = .ok s' ∧ s'.accepted = cs.flatten ∧
        s'.memory = L ++ cs.flatten ++ R) ∧
    (B.length + 1 = cs.flatten.length → ∃ s', (fresh t L B R).putAll cs = .err s') := by
  constructor
  · intro hB
    obtain ⟨s', e⟩ := (sink_iff_fits t ht L B R cs).mpr (by omega)
    have p := sink_prefix t ht L B R cs
    rw [e] at p
    refine ⟨s', e, p.2, ?_⟩
    rw [p.1, ← hB, List.drop_length]; simp
  · intro hB
    exact (failure_is_write_error t ht L B R cs).2.2 (by omega)

/-- the `put` chunks the model gives a head and a string (`Enc.putsOfHead`, `Enc.putsString`)
    concatenate to the bytes `Encoder` writes for them, so a chunk list `cs` above may be taken to be
    those chunks and `cs.flatten` the encoding. -/
theorem encoder_puts_sound (bs : Bytes) (t : Nat) (b : Bytes) :
    (Enc.putsOfHead bs).flatten = bs ∧ (Enc.putsString t b).flatten = Enc.typeLen t b.length ++ b :=
  ⟨Enc.putsOfHead_flatten bs, Enc.putsString_flatten t b⟩

/-- `u32(70000)` is written as `put([0x1a])`, `put([0,1,0x11,0x70])`: into a 3-byte slice between
    canaries `[0xAA]`/`[0xBB]` the first chunk is accepted, the second is refused as a whole; into
    a 3-byte `std::io` writer the second is written as far as it fits.  Canaries intact. -/
example :
    (match (fresh (.mem .slice) [0xAA] [0, 0, 0] [0xBB]).putAll [[0x1a], [0, 1, 0x11, 0x70]] with
      | .err s' => s'.memory == [0xAA, 0x1a, 0, 0, 0xBB] && s'.position == 1 | _ => false) = true ∧
    (match (fresh (.io 1) [0xAA] [0, 0, 0] [0xBB]).putAll [[0x1a], [0, 1, 0x11, 0x70]] with
      | .err s' => s'.memory == [0xAA, 0x1a, 0, 1, 0xBB] && s'.position == 3 | _ => false) = true ∧
    (match (fresh (.mem .cursorArray) [0xAA] [0, 0, 0, 0, 0] [0xBB]).putAll [[0x1a], [0, 1, 0x11, 0x70]] with
      | .ok s' => s'.memory == [0xAA, 0x1a, 0, 1, 0x11, 0x70, 0xBB] && s'.position == 5 | _ => false) = true := by
  decide

/-- the script `u8(1); bytes([0x11; 8]); u16(1000)` on a 6-byte slice: the second call writes its head and
    fails on the payload, the third still fits: `01 48 19 03 e8`, one byte left untouched. -/
example :
    (match (fresh (.mem .slice) [0xAA] [0xEE, 0xEE, 0xEE, 0xEE, 0xEE, 0xEE] [0xBB]).callSeq
        [[[1]], [[0x48], [0x11, 0x11, 0x11, 0x11, 0x11, 0x11, 0x11, 0x11]], [[0x19], [3, 0xe8]]] with
      | some (s', oks) => s'.memory == [0xAA, 1, 0x48, 0x19, 3, 0xe8, 0xEE, 0xBB] && s'.position == 5 && oks == [true, false, true]
      | none => false) = true := by
  decide

end Minicbor.C13
