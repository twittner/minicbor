/-
  C04 — Typed decoding agrees with the RFC 8949 data model on every well-formed encoding.
  Here: the accessors of `Decoder` one by one, on any valid wire tree of the matching shape (any
  head width, definite or indefinite), followed by arbitrary bytes.
-/
import Minicbor.Lemmas.Accessors
import Minicbor.Wire
import Minicbor.Info

namespace Minicbor.C04
open Dec

/-- `bytes()` on a definite byte string of any head width returns the payload. -/
theorem bytes_sound (w : Width) (b rest : Bytes) (h : w.fits b.length = true) :
    Dec.bytes (encW (.bytes w b) ++ rest) = .ok b rest := by
  rw [encW, List.append_assoc]; exact bytes_on_head w b rest h

/-- `str()` on a definite text string with valid UTF-8 returns the text. -/
theorem str_sound (w : Width) (b rest : Bytes) (h : w.fits b.length = true) (hu : validUtf8 b = true) :
    Dec.str (encW (.text w b) ++ rest) = .ok b rest := by
  rw [encW, List.append_assoc, str_on_head w b rest h, if_pos hu]

/-- invalid UTF-8 is rejected, never returned. -/
theorem str_invalid_utf8 (w : Width) (b rest : Bytes) (h : w.fits b.length = true) (hu : validUtf8 b = false) :
    Dec.str (encW (.text w b) ++ rest) = .err .utf8 rest := by
  rw [encW, List.append_assoc, str_on_head w b rest h, if_neg (by simp [hu])]

/-- `array()` / `map()` / `tag()` on a definite head return the argument. -/
theorem array_sound (w : Width) (n : Nat) (rest : Bytes) (h : w.fits n = true) :
    Dec.array (headW 4 w n ++ rest) = .ok (some n) rest :=
  container_on_head 4 w n rest (by decide) h

theorem map_sound (w : Width) (n : Nat) (rest : Bytes) (h : w.fits n = true) :
    Dec.map (headW 5 w n ++ rest) = .ok (some n) rest :=
  container_on_head 5 w n rest (by decide) h

theorem tag_sound (w : Width) (n : Nat) (rest : Bytes) (h : w.fits n = true) :
    Dec.tag (headW 6 w n ++ rest) = .ok n rest := by
  obtain ⟨i, e, -, hM, -, hu⟩ := headW_cons 6 w n rest (by decide) h
  simp [e, Dec.tag, Dec.bind_run, hM, hu]

/-- `array()` / `map()` on the indefinite marker report "no length". -/
theorem array_indef (rest : Bytes) : Dec.array (0x9f :: rest) = .ok none rest := by
  simp [Dec.array, Dec.container, Dec.bind_run, majorOf, infoOf, u8_31]
theorem map_indef (rest : Bytes) : Dec.map (0xbf :: rest) = .ok none rest := by
  simp [Dec.map, Dec.container, Dec.bind_run, majorOf, infoOf, u8_31]


theorem bool_sound (b : Bool) (rest : Bytes) :
    Dec.bool (encW (.simple (if b then 21 else 20)) ++ rest) = .ok b rest := by
  cases b <;> simp [encW, Dec.bool, Dec.bind_run, u8_eq_iff]
theorem null_sound (rest : Bytes) : Dec.null (encW (.simple 22) ++ rest) = .ok () rest := by
  simp [encW, Dec.null, Dec.bind_run, u8_eq_iff]
theorem undefined_sound (rest : Bytes) : Dec.undefined (encW (.simple 23) ++ rest) = .ok () rest := by
  simp [encW, Dec.undefined, Dec.bind_run, u8_eq_iff]

/-- `simple()` on every valid simple value other than false/true/null/undefined. -/
theorem simple_sound (n : Nat) (rest : Bytes) (h : n < 20 ∨ (32 ≤ n ∧ n < 256)) :
    Dec.simple (encW (.simple n) ++ rest) = .ok n rest := by
  rcases h with h | ⟨h1, h2⟩
  · have h24 : n < 24 := by omega
    have e1 : (224 + n) % 256 = 224 + n := by omega
    have e2 : 224 + n ≤ 243 := by omega
    simp [encW, h24, Dec.simple, Dec.bind_run, e1, e2]
  · have h24 : ¬ n < 24 := by omega
    have e1 : n % 256 = n := by omega
    simp [encW, h24, Dec.simple, Dec.bind_run, e1]

/-! ### the float accessors on a float item of their own width, and the wider ones on the narrower items -/

theorem f16_sound (b : Nat) (rest : Bytes) (h : b < 65536) :
    Dec.f16 (encW (.f16 b) ++ rest) = .ok (f16ToF32 b) rest := by
  have hb : fromBe (be 2 b) = b := fromBe_be 2 b (by simpa using h)
  simp [encW, Dec.f16, Dec.bind_run, Dec.readSlice_be, hb]

theorem f32_sound (b : Nat) (rest : Bytes) (h : b < 4294967296) (half : Bool) :
    Dec.f32 half (encW (.f32 b) ++ rest) = .ok b rest := by
  have hb : fromBe (be 4 b) = b := fromBe_be 4 b (by simpa using h)
  simp [encW, Dec.f32, Dec.bind_run, Dec.readSlice_be, hb]

theorem f32_f16_sound (b : Nat) (rest : Bytes) (h : b < 65536) :
    Dec.f32 true (encW (.f16 b) ++ rest) = .ok (f16ToF32 b) rest := by
  have := f16_sound b rest h
  simp only [encW, List.cons_append] at this ⊢
  simp [Dec.f32, Dec.bind_run, this]

theorem f64_sound (b : Nat) (rest : Bytes) (h : b < 18446744073709551616) (half : Bool) :
    Dec.f64 half (encW (.f64 b) ++ rest) = .ok b rest := by
  have hb : fromBe (be 8 b) = b := fromBe_be 8 b (by simpa using h)
  simp [encW, Dec.f64, Dec.bind_run, Dec.readSlice_be, hb]

theorem f64_f32_sound (b : Nat) (rest : Bytes) (h : b < 4294967296) (half : Bool) :
    Dec.f64 half (encW (.f32 b) ++ rest) = .ok (f32ToF64 b) rest := by
  have := f32_sound b rest h half
  simp only [encW, List.cons_append] at this ⊢
  simp [Dec.f64, Dec.bind_run, this]

theorem f64_f16_sound (b : Nat) (rest : Bytes) (h : b < 65536) :
    Dec.f64 true (encW (.f16 b) ++ rest) = .ok (f32ToF64 (f16ToF32 b)) rest := by
  have := f16_sound b rest h
  simp only [encW, List.cons_append] at this ⊢
  simp [Dec.f64, Dec.bind_run, this]

theorem chunkLoop_bytes (cs : List (Width × Bytes)) (rest : Bytes) (hv : chunksValid false cs = true)
    (fuel : Nat) (hf : cs.length < fuel) :
    chunkLoop false fuel (encChunks 2 cs ++ 0xff :: rest) = .ok (cs.map (·.2)) rest :=
  chunkLoop_sound false cs rest hv fuel hf

theorem chunkLoop_text (cs : List (Width × Bytes)) (rest : Bytes) (hv : chunksValid true cs = true)
    (fuel : Nat) (hf : cs.length < fuel) :
    chunkLoop true fuel (encChunks 3 cs ++ 0xff :: rest) = .ok (cs.map (·.2)) rest :=
  chunkLoop_sound true cs rest hv fuel hf

theorem bytesIter_indef_sound (cs : List (Width × Bytes)) (rest : Bytes) (hv : chunksValid false cs = true) :
    Dec.bytesIter (encW (.bytesI cs) ++ rest) = .ok (cs.map (·.2)) rest := by
  simpa [encW, Dec.bytesIter] using stringIter_indefinite false cs rest hv

theorem strIter_indef_sound (cs : List (Width × Bytes)) (rest : Bytes) (hv : chunksValid true cs = true) :
    Dec.strIter (encW (.textI cs) ++ rest) = .ok (cs.map (·.2)) rest := by
  simpa [encW, Dec.strIter] using stringIter_indefinite true cs rest hv

/-- the byte-string iterator on an indefinite-length byte string yields the chunks, whose
    concatenation is the data-model value of the item. -/
theorem bytes_iter_indef (cs : List (Width × Bytes)) (rest : Bytes) (hv : (WItem.bytesI cs).Valid) :
    ∃ chunks, Dec.bytesIter (encW (.bytesI cs) ++ rest) = .ok chunks rest ∧
      value (.bytesI cs) = .bytes chunks.flatten :=
  ⟨_, bytesIter_indef_sound cs rest hv, by rw [value, joinChunks_eq_flatten]⟩

theorem str_iter_indef (cs : List (Width × Bytes)) (rest : Bytes) (hv : (WItem.textI cs).Valid) :
    ∃ chunks, Dec.strIter (encW (.textI cs) ++ rest) = .ok chunks rest ∧
      value (.textI cs) = .text chunks.flatten :=
  ⟨_, strIter_indef_sound cs rest hv, by rw [value, joinChunks_eq_flatten]⟩


/-! ### size introspection (`decode::info::Size`) -/

/-- `Size::head` on the first byte of any definite head gives the head length. -/
theorem size_head_sound (maj : Nat) (w : Width) (n : Nat) (hm : maj < 8) (h : w.fits n = true) :
    Size.headLen (u8 (maj * 32 + w.ai n)) = .ok (headW maj w n).length := by
  have hb := headByte_toNat maj w n hm h
  have hai := Width.ai_le w n h
  simp only [Size.headLen, hb, headW, List.length_cons, be_length]
  have e1 : (maj * 32 + w.ai n) % 32 = w.ai n := by omega
  rw [e1]
  cases w <;> simp [Width.ai, Width.bytes, Width.fits] at * <;> omega

/-- `Size::tail` on a definite head classifies the item and returns its length / count. -/
theorem size_tail_sound (maj : Nat) (w : Width) (n : Nat) (hm : maj < 8) (h : w.fits n = true) :
    Size.tail (headW maj w n) =
      .ok (if maj = 2 ∨ maj = 3 then .bytes n else if maj = 4 ∨ maj = 5 then .items n else .head) := by
  obtain ⟨i, e, hb, -, hne, hu⟩ := headW_cons maj w n [] hm h
  have hai := Width.ai_le w n h
  have hmaj : i.toNat / 32 = maj := by omega
  rw [List.append_nil] at e hu
  simp only [e, Size.tail, hmaj]
  have : maj = 0 ∨ maj = 1 ∨ maj = 2 ∨ maj = 3 ∨ maj = 4 ∨ maj = 5 ∨ maj = 6 ∨ maj = 7 := by omega
  rcases this with rfl | rfl | rfl | rfl | rfl | rfl | rfl | rfl <;> simp [hne, hu]

end Minicbor.C04
