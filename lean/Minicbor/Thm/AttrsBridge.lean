/-
  Bridge between the two derive models: the attribute front end (Attrs.lean: what is written) and
  the schema model of the generated code (Derive.lean: `FAttr`, `Codec`), for the spellings the
  correspondence generator (verifkit/derivegen.py, `Emitter.field_attrs`) writes, so the bytes /
  values the C07–C10 streams compare are those of the schema the front end really produces.
  Not covered: `crate::rt::plainopt`, a custom module without nil functions on an `Option` field,
  which the generator maps to the default codec (`proto_field`) and `codecClass` to `none`.
-/
import Minicbor.Thm.Attrs
import Minicbor.Derive

namespace Minicbor.Attrs

def bytesMod : Path := ["minicbor", "bytes"]
def niluMod : Path := ["crate", "nilu"]

/-- the codec class of the schema model that a front-end meaning denotes (none: a combination of
    functions the schema model does not have). -/
def codecClass (f : FieldSem) : Option Derive.Codec :=
  if f.encode = none ∧ f.isNil = none ∧ f.decode = none ∧ f.nil = none ∧ f.cborLen = none then some .dflt
  else if f.encode = some (bytesMod ++ ["encode"]) ∧ f.isNil = none ∧ f.decode = some (bytesMod ++ ["decode"]) ∧ f.nil = none
          ∧ f.cborLen = some (bytesMod ++ ["cbor_len"]) then some .bytes
  else if f.encode = some (niluMod ++ ["encode"]) ∧ f.isNil = some (niluMod ++ ["is_nil"]) ∧ f.decode = some (niluMod ++ ["decode"])
          ∧ f.nil = some (niluMod ++ ["nil"]) ∧ f.cborLen = some (niluMod ++ ["cbor_len"]) then some .nilu
  else none

def toFAttr (f : FieldSem) : Option Derive.FAttr :=
  (codecClass f).map fun c => { idx := f.idx, isB := f.isB, tag := f.tag, codec := c, skip := f.skip }

def schemaOf (attrs : List Attr) : Except Err (Option Derive.FAttr) :=
  match fieldMeaning attrs with
  | .error e => .error e
  | .ok f => .ok (toFAttr f)

def idxAttr (isB : Bool) (i : Nat) : Attr := if isB then .b i else .n i
def idxItem (isB : Bool) (i : Nat) : Item := if isB then .b i else .n i
def tagItems (t : Option Nat) : List Item := (t.map Item.tag).toList

theorem ofAttr_idxAttr (l : Level) (isB : Bool) (i : Nat) :
    ofAttr l (idxAttr isB i) = match parseIdx isB i with | .error e => .error e | .ok v => tryInsert l {} v := by
  cases isB <;> rfl

theorem toVal_idxItem (isB : Bool) (i : Nat) : (idxItem isB i).toVal = parseIdx isB i := by
  cases isB <;> rfl

attribute [local simp] schemaOf toFAttr codecClass bytesMod niluMod tagItems
attribute [local simp ↓] ofAttr_idxAttr toVal_idxItem

/-- default codec, styles 0/1 (`#[n(i)]` + optional `#[cbor(tag(t))]`) and 2/3 (`#[cbor(n(i), tag(t))]`). -/
theorem bridge_default (isB : Bool) (i : Nat) (hi : i < 4294967296) (t : Option Nat) (ht : ∀ x, t = some x → x < 18446744073709551616) :
    schemaOf ([idxAttr isB i] ++ (if (tagItems t).isEmpty then [] else [.cbor (tagItems t)])) = .ok (some { idx := i, isB := isB, tag := t, codec := .dflt }) ∧
    schemaOf [.cbor (idxItem isB i :: tagItems t)] = .ok (some { idx := i, isB := isB, tag := t, codec := .dflt }) := by
  cases t with
  | none => constructor <;> eval_attrs
  | some x => have := ht x rfl; constructor <;> eval_attrs

/-- `with = "minicbor::bytes"` and its three-function spelling. -/
theorem bridge_bytes (isB : Bool) (i : Nat) (hi : i < 4294967296) (t : Option Nat) (ht : ∀ x, t = some x → x < 18446744073709551616) :
    schemaOf [idxAttr isB i, .cbor (tagItems t ++ [.with_ bytesMod])] = .ok (some { idx := i, isB := isB, tag := t, codec := .bytes }) ∧
    schemaOf [idxAttr isB i, .cbor (tagItems t ++ [.encodeWith (bytesMod ++ ["encode"]), .decodeWith (bytesMod ++ ["decode"]), .cborLen (bytesMod ++ ["cbor_len"])])]
      = .ok (some { idx := i, isB := isB, tag := t, codec := .bytes }) ∧
    schemaOf [.cbor (idxItem isB i :: tagItems t ++ [.with_ bytesMod])] = .ok (some { idx := i, isB := isB, tag := t, codec := .bytes }) := by
  cases t with
  | none => refine ⟨?_, ?_, ?_⟩ <;> eval_attrs
  | some x => have := ht x rfl; refine ⟨?_, ?_, ?_⟩ <;> eval_attrs

/-- the nil-aware codec: `with = "crate::nilu", has_nil` and the five-function spelling in the generator's order. -/
theorem bridge_nilu (isB : Bool) (i : Nat) (hi : i < 4294967296) (t : Option Nat) (ht : ∀ x, t = some x → x < 18446744073709551616) :
    schemaOf [idxAttr isB i, .cbor (tagItems t ++ [.with_ niluMod, .hasNil])] = .ok (some { idx := i, isB := isB, tag := t, codec := .nilu }) ∧
    schemaOf [idxAttr isB i, .cbor (tagItems t ++ [.encodeWith (niluMod ++ ["encode"]), .isNil (niluMod ++ ["is_nil"]), .decodeWith (niluMod ++ ["decode"]),
                                                    .nil (niluMod ++ ["nil"]), .cborLen (niluMod ++ ["cbor_len"])])]
      = .ok (some { idx := i, isB := isB, tag := t, codec := .nilu }) := by
  cases t with
  | none => refine ⟨?_, ?_⟩ <;> eval_attrs
  | some x => have := ht x rfl; refine ⟨?_, ?_⟩ <;> eval_attrs

/-- `#[cbor(skip)]`: the schema's skipped field (its index and tag are never read). -/
theorem bridge_skip : schemaOf [.cbor [.skip]] = .ok (some { idx := 4294967295, skip := true }) := rfl

/-- a combination outside the schema model is recognised as such (no silent mapping). -/
theorem bridge_outside (e : Path) (h : e ≠ bytesMod ++ ["encode"]) (h' : e ≠ niluMod ++ ["encode"]) :
    schemaOf [.n 0, .cbor [.encodeWith e]] = .ok none := by
  eval_attrs

end Minicbor.Attrs
