/-
  C08 — Derived `Encode` emits exactly the documented wire format.
  One induction over an accepted schema and a value of it (`typed_ind`, Lemmas/DeriveBase.lean).
  At a struct / variant body it uses that the generated statements write the documented array /
  map of the pieces whatever their declaration order (`frame_spec`, Lemmas/DeriveFrame.lean, over
  the index sort of Lemmas/DeriveSort.lean) and that this item is valid (`pv_specBody`,
  Lemmas/DeriveSpecValid.lean).

  `denotes` is stated with `Pref` (Lemmas/Pref.lean): the bytes are the preferred serialisation of
  the documented item and that item's tree is valid; the side conditions of the two halves coincide
  node by node, so one induction proves both.  `enc_spec` / `derive_encode_spec` are its first
  half, `Derive.spec_valid` (end of this file) its second.

  `encTy` is the model of the generated `Encode` impl (Derive.lean, transcribed from
  minicbor-derive/src/encode.rs), `specTy` the documented format as a data-model value
  (transcribed from the documentation in lib.rs), `encPref` the RFC 8949 preferred
  serialisation (Wire.lean).
-/
import Minicbor.Lemmas.DeriveSpecValid
import Minicbor.Lemmas.DeriveBase

namespace Minicbor.C08
open Minicbor.Derive

theorem specFields_idxs : ∀ (fs : Fields) (vs : List Val), hasFields fs vs = true →
    idxs (specFields fs vs) = liveIdxs fs
  | [], [], _ => rfl
  | (a, t) :: fs, v :: vs, h => by
    have ih := specFields_idxs fs vs (Bool.and_eq_true_iff.1 h).2
    rw [specFields_cons, liveIdxs_cons]
    cases a.skip
    · exact congrArg (a.idx :: ·) ih
    · exact ih
  | [], _ :: _, h | _ :: _, [], h => Bool.noConfusion h

theorem specFields_nodup {fs : Fields} {vs : List Val} (hty : hasFields fs vs = true) (hnd : (liveIdxs fs).Nodup) :
    (idxs (specFields fs vs)).Nodup := by
  rw [specFields_idxs fs vs hty]; exact hnd

theorem intItem_nonneg {i : Int} (h : 0 ≤ i) : intItem i = .uint i.toNat := if_pos h

theorem int_spec (k : IntK) (i : Int) (h : k.inRange i = true) : k.enc i = encPref (intItem i) := by
  simp only [IntK.inRange, Bool.and_eq_true, decide_eq_true_eq] at h
  cases k <;> simp [IntK.ty, Dec.IntTy.lo, Dec.IntTy.hi, Dec.IntTy.u8, Dec.IntTy.u16, Dec.IntTy.u32, Dec.IntTy.u64,
    Dec.IntTy.i8, Dec.IntTy.i16, Dec.IntTy.i32, Dec.IntTy.i64] at h
  · rw [intItem_nonneg h.1]; exact C03.u8_pref _ (by omega)
  · rw [intItem_nonneg h.1]; exact C03.u16_pref _ (by omega)
  · rw [intItem_nonneg h.1]; exact C03.u32_pref _ (by omega)
  · rw [intItem_nonneg h.1]; exact C03.u64_pref _ (by omega)
  · exact C03.i8_pref i h
  · exact C03.i16_pref i h
  · exact C03.i32_pref i h
  · exact C03.i64_pref i h

theorem isNil_spec (a : FAttr) (t : FTy) (v : Val) (hv : hasTy t v = true) :
    isNilField a t v = specAbsent a v := by
  unfold isNilField specAbsent
  cases a.codec
  case nilu => rfl
  all_goals
    cases hn : v.isNone
    · exact Bool.and_false _
    · -- only an `Option` has the value `None`
      cases v with
      | none =>
        cases t with
        | option _ => rfl
        | _ => exact Bool.noConfusion hv
      | _ => exact Bool.noConfusion hn

/-- the nil-aware codec writes `null` or a `u32` head, every other codec the type's own bytes: a
    relation between bytes and items that holds of those two heads passes from a field's type to
    the field. -/
theorem with_rel {R : Bytes → Item → Prop} (hnull : R Enc.null nullI) (hu32 : ∀ n, n < U32 → R (Enc.u32 n) (.uint n))
    (a : FAttr) (t : FTy) (v : Val) (hc : codecOk a.codec t = true) (hv : hasTy t v = true)
    (hbody : R (encTy t v) (specTy t v)) : R (encWith a.codec (encTy t) v) (specWith a.codec (specTy t) v) := by
  cases hcd : a.codec
  case nilu =>
    obtain ⟨rfl, i, rfl, hi⟩ := nilu_inv (hcd ▸ hc) hv
    show R (if (i == 0) = true then _ else _) (if (i == 0) = true then _ else _)
    split
    · exact hnull
    · exact hu32 _ (u32_inRange hi).2
  all_goals exact hbody

theorem with_spec (a : FAttr) (t : FTy) (v : Val) (hc : codecOk a.codec t = true) (hv : hasTy t v = true)
    (hbody : encTy t v = encPref (specTy t v)) :
    encWith a.codec (encTy t) v = encPref (specWith a.codec (specTy t) v) :=
  with_rel (R := fun bs i => bs = encPref i) rfl C03.u32_pref a t v hc hv hbody

theorem variant_pref (va : VAttr) {bs : Bytes} {body : Item} (hidx : va.idx < U32) (htag : tagOk va.tag = true)
    (h : Pref bs body) :
    Pref (Enc.array 2 ++ Enc.u32 va.idx ++ tagBytes va.tag ++ bs) (.array [.uint va.idx, tagI va.tag body]) := by
  have := Pref.array (is := [.uint va.idx, tagI va.tag body]) (by simp)
    (.cons (.u32 hidx) (.cons (pref_tagI htag h) .nil))
  simpa using this

/-- what `typed_ind` carries for a field list: the pieces are the documented pieces encoded, and
    those are valid with indices and tags in range. -/
def FieldsDen (fs : Fields) (vs : List Val) : Prop :=
  encFields fs vs = (specFields fs vs).map toBytes ∧
    ∀ q ∈ specFields fs vs, q.idx < U32 ∧ tagOk q.tag = true ∧ PV q.body

theorem body_denotes (enc : Encoding) (fs : Fields) (vs : List Val) (hnd : (liveIdxs fs).Nodup)
    (hty : hasFields fs vs = true) (ih : FieldsDen fs vs) :
    Pref (frame enc (encFields fs vs)) (specBody enc (specFields fs vs)) := by
  have nd := specFields_nodup hty hnd
  rw [ih.1]
  exact ⟨frame_spec _ _ nd fun q hq => (ih.2 q hq).1, pv_specBody _ _ nd ih.2⟩

theorem denotes_cases : TypedCases (fun t v => Pref (encTy t v) (specTy t v)) FieldsDen
    (fun e vars k vs => Pref (encVars e vars k vs) (specVars e vars k vs)) where
  int k i h := ⟨int_spec k i h, pv_intItem k i h⟩
  bool := .bool
  text _ _ hu hl := .str hu hl
  blob _ _ hl := .bytes hl
  none _ := .null
  some _ _ _ _ ih := ih
  vec t vs _ hl ih := by
    rw [encTy_vec, specTy_vec, ← List.length_map (f := specTy t)]
    exact .array (by simpa [U64] using hl) (.flatten_map fun x hx => (ih x hx).2)
  struct a fs vs htr htag _ hnd hty ih := by
    rw [encTy_struct, specTy_struct, htr, if_neg Bool.false_ne_true, if_neg Bool.false_ne_true]
    exact pref_tagI htag (body_denotes _ fs vs hnd hty ih)
  transparent a fa ft w htr hs ih := by
    have := (ih.2 _ (by rw [specFields_cons, hs]; exact List.mem_cons_self)).2.2
    rw [encTy_struct, specTy_struct, htr, ih.1, specFields_cons, hs]
    exact ⟨rfl, this⟩
  enum a vars k vs _ htag _ _ ih := by rw [encTy_enum, specTy_enum]; exact pref_tagI htag ih
  nil := ⟨rfl, fun _ hp => nomatch hp⟩
  cons a t v fs vs hlive hv ihv ih := by
    unfold FieldsDen
    rw [encFields_cons, specFields_cons, ih.1]
    cases hs : a.skip
    · have hw := with_rel (R := Pref) .null (fun _ => .u32) a t v (hlive hs).2.2 hv ihv
      refine ⟨?_, fun q hq => ?_⟩
      · rw [if_neg Bool.false_ne_true, if_neg Bool.false_ne_true, isNil_spec a t v hv, hw.1]
        rfl
      · rcases List.mem_cons.1 hq with rfl | hq
        · exact ⟨(hlive hs).1, (hlive hs).2.1, hw.2⟩
        · exact ih.2 q hq
    · exact ⟨rfl, ih.2⟩
  here e va fs rest vs hidx htag _ hnd hio hty ih := by
    have hframe := body_denotes (va.enc.getD (e.enc.getD .array)) fs vs hnd hty ih
    rw [encVars_zero, specVars_zero]
    cases hix : e.indexOnly
    · refine if_neg Bool.false_ne_true ▸ ?_
      cases va.shape
      · have : Pref (emptyBody (va.enc.getD (e.enc.getD .array))) (specEmpty (va.enc.getD (e.enc.getD .array))) := by
          cases va.enc.getD (e.enc.getD .array) <;> exact ⟨rfl, rfl⟩
        exact variant_pref va hidx htag this
      all_goals exact variant_pref va hidx htag hframe
    · rw [hio hix]
      exact .u32 hidx
  there _ _ _ _ _ ih := ih

/-- over `accField`, the declared types of fields: with the byte-string kinds that exist only
    through `with = "minicbor::bytes"`. -/
theorem denotes {t : FTy} {v : Val} (ha : accField t = true) (hv : hasTy t v = true) : Pref (encTy t v) (specTy t v) :=
  typed_ind_ty denotes_cases t v ha hv

theorem enc_spec : ∀ (t : FTy) (v : Val), accepted t = true → hasTy t v = true →
    encTy t v = encPref (specTy t v) :=
  fun _ _ ha hv => (denotes (accField_of_accepted ha) hv).1

theorem fields_spec : ∀ (fs : Fields) (vs : List Val), acceptedFields fs = true → hasFields fs vs = true →
    encFields fs vs = (specFields fs vs).map toBytes :=
  fun fs vs ha hv => (typed_ind_fields denotes_cases fs vs ha hv).1

theorem vars_spec (e : EAttr) : ∀ (vars : Variants) (k : Nat) (vs : List Val),
    acceptedVars e vars = true → hasVars vars k vs = true →
    encVars e vars k vs = encPref (specVars e vars k vs) :=
  fun vars k vs ha hv => (typed_ind_vars denotes_cases e vars k vs ha hv).1

/-- byte-string fields (incl. the kinds that exist only through `with = "minicbor::bytes"`). -/
theorem blob_spec (t : FTy) (v : Val) (hb : fieldBlob t = true) (hv : hasTy t v = true) :
    encTy t v = encPref (specTy t v) :=
  (denotes (accField_of_blob hb) hv).1

/-- C08, main statement.  For every struct or enum definition accepted by the derive macros
    and every value of it, the bytes produced by the derived `Encode` are exactly the documented
    format: `deriveEncode = encPref ∘ specTy` (= `specEncode`). -/
theorem derive_encode_spec (t : FTy) (v : Val) (ha : accepted t = true) (hv : hasTy t v = true) :
    deriveEncode t v = specEncode t v := enc_spec t v ha hv

/-! ### what the documented format says (read off `specTy`) -/

/-- array encoding: the array ends at the highest present index; position `i` holds the (tagged)
    field with index `i`, every other position is `null`. -/
theorem spec_array_shape (ps : List (Piece Item)) (m : Nat) (h : maxPresent ps = some m) :
    ∃ xs, specArray ps = .array xs ∧ xs.length = m + 1 ∧
      ∀ i, i ≤ m → xs[i]? = some (match ps.find? (fun p => p.idx == i) with
        | some p => tagI p.tag p.body
        | none => nullI) := by
  refine ⟨_, by rw [specArray_eq, h], by simp, ?_⟩
  intro i hi
  simp only [List.getElem?_map]
  rw [List.getElem?_range (by omega)]
  rfl

/-- map encoding: exactly the present fields, as `index, (tagged) value` pairs in ascending
    index order (stated on the index-sorted field list). -/
theorem spec_map_shape (ps : List (Piece Item)) (nd : (idxs ps).Nodup) :
    specMap ps = .map (entries (sortP ps)) :=
  specMap_of ps _ (sortP_asc ps nd) (fun _ => (Derive.sortP_perm ps).mem_iff) nd

/-! ### names, `n` vs `b`, declaration order -/

mutual
/-- erase everything the documentation says is irrelevant for the bytes: all names and the
    `n`/`b` choice. -/
def anonymize : FTy → FTy
  | .option t => .option (anonymize t)
  | .vec t => .vec (anonymize t)
  | .struct a fs => .struct { a with name := "" } (anonFields fs)
  | .enum a vars => .enum { a with name := "" } (anonVars vars)
  | t => t
termination_by structural t => t
def anonFields : Fields → Fields
  | [] => []
  | (a, t) :: fs => ({ a with name := "", isB := false }, anonymize t) :: anonFields fs
termination_by structural fs => fs
def anonVars : Variants → Variants
  | [] => []
  | (va, fs) :: rest => ({ va with name := "", isB := false }, anonFields fs) :: anonVars rest
termination_by structural vars => vars
end

mutual
theorem enc_anon : ∀ (t : FTy) (v : Val), encTy (anonymize t) v = encTy t v
  | .int _, _ => rfl
  | .bool, _ => rfl
  | .text _, _ => rfl
  | .blob _, _ => rfl
  | .option t, v => by
    cases v
    case some w => exact enc_anon t w
    all_goals rfl
  | .vec t, v => by
    cases v
    case list vs =>
      show encTy (.vec (anonymize t)) (.list vs) = _
      rw [encTy_vec, encTy_vec, funext (enc_anon t)]
    all_goals rfl
  | .struct a fs, v => by
    cases v
    case struct vs =>
      show encTy (.struct _ (anonFields fs)) (.struct vs) = _
      rw [encTy_struct, encTy_struct, fields_anon fs vs]
    all_goals rfl
  | .enum a vars, v => by
    cases v
    case «enum» k vs =>
      show encTy (.enum _ (anonVars vars)) (.enum k vs) = _
      rw [encTy_enum, encTy_enum, vars_anon a vars k vs]
    all_goals rfl
termination_by structural t => t
theorem fields_anon : ∀ (fs : Fields) (vs : List Val), encFields (anonFields fs) vs = encFields fs vs
  | [], [] | [], _ :: _ | _ :: _, [] => rfl
  | (a, t) :: fs, v :: vs => by
    have h1 : isNilField { a with name := "", isB := false } (anonymize t) v = isNilField a t v := by
      have : (anonymize t).isOption = t.isOption := by cases t <;> rfl
      unfold isNilField; rw [this]
    show (if a.skip then _ else _) = (if a.skip then _ else _)
    rw [fields_anon fs vs, h1, funext (enc_anon t)]
termination_by structural fs => fs
theorem vars_anon (e : EAttr) : ∀ (vars : Variants) (k : Nat) (vs : List Val),
    encVars { e with name := "" } (anonVars vars) k vs = encVars e vars k vs
  | [], _, _ => rfl
  | (va, fs) :: rest, 0, vs => by
    show (match va.shape with | .unit => _ | _ => _) = (match va.shape with | .unit => _ | _ => _)
    rw [fields_anon fs vs]
  | (va, fs) :: rest, k + 1, vs => vars_anon e rest k vs
termination_by structural vars => vars
end

/-- names never influence the bytes: two definitions that differ only in type, field and
    variant names and in the `n`/`b` choice (at any nesting depth) encode every value alike. -/
theorem derive_encode_names_irrelevant (t t' : FTy) (h : anonymize t = anonymize t') (v : Val) :
    deriveEncode t v = deriveEncode t' v := by
  unfold deriveEncode
  rw [← enc_anon t v, ← enc_anon t' v, h]

theorem encFields_zip : ∀ (fs : Fields) (vs : List Val), fs.length = vs.length →
    encFields fs vs = ((fs.zip vs).filter (fun x => !x.1.1.skip)).map
      (fun x => ⟨x.1.1.idx, x.1.1.tag, isNilField x.1.1 x.1.2 x.2, encWith x.1.1.codec (encTy x.1.2) x.2⟩)
  | [], [], _ => by simp [encFields]
  | (a, t) :: fs, v :: vs, h => by
    have ih := encFields_zip fs vs (by simpa using h)
    cases hs : a.skip <;> simp [encFields, hs, ih]
  | [], _ :: _, h => by simp at h
  | _ :: _, [], h => by simp at h

theorem idxs_encFields : ∀ (fs : Fields) (vs : List Val), fs.length = vs.length →
    idxs (encFields fs vs) = liveIdxs fs
  | [], [], _ => rfl
  | (a, t) :: fs, v :: vs, h => by
    have ih := idxs_encFields fs vs (Nat.succ.inj h)
    rw [encFields_cons, liveIdxs_cons]
    cases a.skip
    · exact congrArg (a.idx :: ·) ih
    · exact ih
  | [], _ :: _, h | _ :: _, [], h => nomatch h

theorem encFields_nodup {fs : Fields} {vs : List Val} (hl : fs.length = vs.length) (hnd : (liveIdxs fs).Nodup) :
    (idxs (encFields fs vs)).Nodup := by
  rw [idxs_encFields fs vs hl]; exact hnd

theorem frame_reorder (enc : Encoding) (fs fs' : Fields) (vs vs' : List Val)
    (hl : fs.length = vs.length) (hl' : fs'.length = vs'.length)
    (hperm : (fs.zip vs).Perm (fs'.zip vs')) (nd : (liveIdxs fs).Nodup) :
    frame enc (encFields fs vs) = frame enc (encFields fs' vs') := by
  have hp : (encFields fs vs).Perm (encFields fs' vs') := by
    rw [encFields_zip fs vs hl, encFields_zip fs' vs' hl']
    exact (hperm.filter _).map _
  unfold frame
  rw [Derive.sortP_perm_eq hp (encFields_nodup hl nd)]

/-- declaration order never influences the bytes: declaring the fields of a struct in another
    order (the values permuted alike) gives the same encoding. -/
theorem derive_encode_reorder_irrelevant (a : SAttr) (fs fs' : Fields) (vs vs' : List Val)
    (hl : fs.length = vs.length) (hl' : fs'.length = vs'.length)
    (hperm : (fs.zip vs).Perm (fs'.zip vs')) (nd : (liveIdxs fs).Nodup) (hnt : a.transparent = false) :
    deriveEncode (.struct a fs) (.struct vs) = deriveEncode (.struct a fs') (.struct vs') := by
  unfold deriveEncode
  rw [encTy_struct, encTy_struct, hnt, if_neg Bool.false_ne_true, if_neg Bool.false_ne_true,
    frame_reorder _ fs fs' vs vs' hl hl' hperm nd]

theorem derive_encode_reorder_variants (e : EAttr) (va : VAttr) (fs fs' : Fields) (rest : Variants)
    (vs vs' : List Val) (hl : fs.length = vs.length) (hl' : fs'.length = vs'.length)
    (hperm : (fs.zip vs).Perm (fs'.zip vs')) (nd : (liveIdxs fs).Nodup) :
    deriveEncode (.enum e ((va, fs) :: rest)) (.enum 0 vs) = deriveEncode (.enum e ((va, fs') :: rest)) (.enum 0 vs') := by
  show tagBytes e.tag ++ (match va.shape with | .unit => _ | _ => _ ++ frame _ (encFields fs vs)) =
    tagBytes e.tag ++ (match va.shape with | .unit => _ | _ => _ ++ frame _ (encFields fs' vs'))
  rw [frame_reorder _ fs fs' vs vs' hl hl' hperm nd]

/-- `deriveEncode` is a function; the statement has no more content than that. -/
theorem derive_encode_deterministic (t : FTy) (v v' : Val) (h : v = v') : deriveEncode t v = deriveEncode t v' := by
  rw [h]

/-! ### the sort and the two framings by themselves, at the types the generated code has them -/
theorem sortP_perm (l : List (Piece Bytes)) : (sortP l).Perm l := Derive.sortP_perm l
theorem sortP_sorted (l : List (Piece Bytes)) (nd : (idxs l).Nodup) : Asc (sortP l) := Derive.sortP_asc l nd
theorem sortP_perm_eq {l₁ l₂ : List (Piece Bytes)} (h : l₁.Perm l₂) (nd : (idxs l₁).Nodup) : sortP l₁ = sortP l₂ :=
  Derive.sortP_perm_eq h nd
theorem frameArray_spec (S : List (Piece Item)) (hasc : Asc S) (hok : ∀ p ∈ S, p.idx < U32 ∧ tagOk p.tag = true) :
    frameArray (S.map toBytes) = encPref (specArray S) :=
  frameArray_of S S hasc (fun _ => Iff.rfl) (asc_nodup hasc)
theorem frameMap_spec (S : List (Piece Item)) (hasc : Asc S) (hok : ∀ p ∈ S, p.idx < U32 ∧ tagOk p.tag = true) :
    frameMap (S.map toBytes) = encPref (specMap S) :=
  frameMap_of S S hasc (fun _ => Iff.rfl) (asc_nodup hasc) fun p hp => (hok p hp).1

/-! ### non-vacuity: accepted, well-typed instances exercising gaps, tags, map, nil codec, enums -/

def exStruct : FTy := .struct { tag := some 9 }
  [({ idx := 3, tag := some 5 }, .option (.int .u8)), ({ idx := 0 }, .text .string), ({ idx := 1, codec := .nilu }, .int .u32),
   ({ skip := true }, .bool)]
def exEnum : FTy := .enum { enc := some .map }
  [({ idx := 0, shape := .unit }, []), ({ idx := 7, shape := .named, tag := some 1 }, [({ idx := 2 }, .option exStruct)])]

example : accepted exStruct = true ∧ hasTy exStruct (.struct [.some (.int 7), .text [0x61], .int 0, .bool true]) = true := by
  constructor <;> rfl
example : deriveEncode exStruct (.struct [.some (.int 7), .text [0x61], .int 0, .bool true])
    = [0xc9, 0x84, 0x61, 0x61, 0xf6, 0xf6, 0xc5, 0x07] := by rfl
example : accepted exEnum = true ∧ hasTy exEnum (.enum 1 [.some (.struct [.none, .text [], .int 5, .bool false])]) = true := by
  constructor <;> rfl
example : deriveEncode exEnum (.enum 1 [.some (.struct [.none, .text [], .int 5, .bool false])])
    = [0x82, 0x07, 0xc1, 0xa1, 0x02, 0xc9, 0x82, 0x60, 0x05] := by rfl

end Minicbor.C08

/-! ### the validity half of `denotes` -/

namespace Minicbor.Derive

theorem spec_valid_field {t : FTy} {v : Val} (ha : accField t = true) (hv : hasTy t v = true) : PV (specTy t v) :=
  (C08.denotes ha hv).2

theorem spec_valid : ∀ (t : FTy) (v : Val), accepted t = true → hasTy t v = true → PV (specTy t v) :=
  fun _ _ ha => spec_valid_field (accField_of_accepted ha)

theorem specFields_valid : ∀ (fs : Fields) (vs : List Val), acceptedFields fs = true → hasFields fs vs = true →
    ∀ p ∈ specFields fs vs, p.idx < U32 ∧ tagOk p.tag = true ∧ PV p.body :=
  fun fs vs ha hv => (typed_ind_fields C08.denotes_cases fs vs ha hv).2

theorem specVars_valid (e : EAttr) : ∀ (vars : Variants) (k : Nat) (vs : List Val),
    acceptedVars e vars = true → hasVars vars k vs = true → PV (specVars e vars k vs) :=
  fun vars k vs ha hv => (typed_ind_vars C08.denotes_cases e vars k vs ha hv).2

end Minicbor.Derive
