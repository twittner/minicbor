/-
  C04 — typed decoding (`decodeT`, the built-in `Decode` impls) on well-formed encodings: every strict
  prefix of a valid encoding of a value fails with the end-of-input class — for the encoder's own
  output (`typed_prefix_eoi`) and, more generally, for any input the type accepts, e.g. re-framings
  with wider heads or indefinite lengths (`typed_prefix_eoi_any`).  For the accessors this is
  `prefix_eoi` / `prefix_eoi_any` of Thm/C04Acc.lean.
  Proof: `decodeT t` is stable under extension of its input (Lemmas/C04Stable.lean,
  Lemmas/TotalTy.lean): appending bytes can only change an end-of-input outcome.  So a run on a
  strict prefix of an input that decodes successfully can neither succeed (the full input would
  stop at the same place, inside the prefix) nor fail with another class (the full input would fail
  the same way), and it never panics (C02).
-/
import Minicbor.Lemmas.TotalTy
import Minicbor.Thm.C01

namespace Minicbor.C04
open Dec

theorem typed_stable (t : Ty) (bs q : Bytes) :
    (∀ v r, decodeT t bs = .ok v r → decodeT t (bs ++ q) = .ok v (r ++ q)) ∧
    (∀ e r, decodeT t bs = .err e r → e ≠ .eoi → decodeT t (bs ++ q) = .err e (r ++ q)) :=
  ⟨fun _ _ h => (decodeT_stable t).ok_ext q h, fun _ _ h hne => (decodeT_stable t).err_ext q h hne⟩

/-- whatever input a type accepts (canonical or re-framed, followed by anything): cut anywhere
    inside the part it has read, decoding fails with end-of-input. -/
theorem typed_prefix_eoi_any (t : Ty) (p q : Bytes) (v : Val) (r0 : Bytes)
    (h : decodeT t (p ++ q) = .ok v r0) (hlen : r0.length < q.length) :
    ∃ r, decodeT t p = .err .eoi r :=
  decodeT_prefix_eoi t p q v r0 h hlen

/-- for every built-in type `t` and value `v` the encoder accepts (side conditions of
    `C01.roundtrip`), every strict prefix of the encoding fails with the end-of-input class. -/
theorem typed_prefix_eoi (t : Ty) (v : Val) (bs p q : Bytes)
    (hwf : t.WF = true) (hno : t.NoOptOpt = true)
    (henc : encodeT t v = some bs) (hlen : bs.length < 2 ^ 64)
    (hpq : bs = p ++ q) (hq : q ≠ []) : ∃ r, decodeT t p = .err .eoi r := by
  have h := C01.roundtrip_exact t v bs hwf hno henc hlen
  rw [hpq] at h
  exact (decodeT_stable t).prefix_eoi_nil (decodeT_noPanic t) h hq

theorem typed_prefix_eoi' (t : Ty) (v : Val) (bs p : Bytes)
    (hwf : t.WF = true) (hno : t.NoOptOpt = true)
    (henc : encodeT t v = some bs) (hlen : bs.length < 2 ^ 64)
    (hp : p <+: bs) (hne : p ≠ bs) : ∃ r, decodeT t p = .err .eoi r :=
  (decodeT_stable t).prefix_eoi_of_isPrefix (decodeT_noPanic t) (C01.roundtrip_exact t v bs hwf hno henc hlen) hp hne

/-- non-vacuity: the nested value of `C01`'s example, cut in the middle of a text string inside a
    tagged tuple inside an `Option` inside a `Vec` inside a map. -/
example :
    let t : Ty := .map .str (.seq (.opt (.tup [.int .u8, .tagged 5 .str])))
    ∃ r, decodeT t [0xa2, 0x61, 0x61, 0x82, 0x82, 0x18, 0xc8, 0xc5, 0x62, 0x62] = .err .eoi r := by
  exact typed_prefix_eoi _
    (.map [.str [0x61], .list [.some (.list [.int 200, .tagged (.str [0x62, 0x63])]), .none],
           .str [0xc3, 0xa9], .list []])
    [0xa2, 0x61, 0x61, 0x82, 0x82, 0x18, 0xc8, 0xc5, 0x62, 0x62, 0x63, 0xf6, 0x62, 0xc3, 0xa9, 0x80]
    _ [0x63, 0xf6, 0x62, 0xc3, 0xa9, 0x80] (by decide) (by decide) (by decide) (by decide) (by decide) (by decide)

end Minicbor.C04
