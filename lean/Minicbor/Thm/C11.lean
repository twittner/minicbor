/-
  C11 — Token streams are faithful.
  The specification (`toks`, `canon`, `preferred`, `halfQuiet`, `Token.valueEq`, `Token.wf`) is in
  `Lemmas/TokenSpec.lean`, the token-list reader `itemOfTokens` in `Lemmas/TokenParse.lean`.
-/
import Minicbor.Lemmas.TokenEnc
import Minicbor.Lemmas.TokenHeads
import Minicbor.Lemmas.TokenParse

namespace Minicbor.C11
open Dec

theorem valueEq_refl_nonint (t : Token) (h : Token.intVal? t = none) : Token.valueEq t t := by
  simp [Token.valueEq, h]

theorem valueEq_int (a b : Token) (x : Int) (ha : Token.intVal? a = some x) (hb : Token.intVal? b = some x) :
    Token.valueEq a b := by
  simp [Token.valueEq, ha, hb]

theorem intVal_uintTok (w : Width) (n : Nat) : Token.intVal? (uintTok w n) = some (n : Int) := by
  cases w <;> rfl

theorem intVal_nintTok (w : Width) (n : Nat) : Token.intVal? (nintTok w n) = some (-1 - (n : Int)) := by
  cases w <;> simp only [nintTok] <;> (try split) <;> rfl

theorem toks_intW (v : Int) : ∃ t', toks (intW v) = [t'] ∧ Token.intVal? t' = some v := by
  unfold intW
  split
  · exact ⟨_, rfl, by rw [intVal_uintTok]; congr 1; omega⟩
  · exact ⟨_, rfl, by rw [intVal_nintTok]; congr 1; omega⟩

theorem toks_scalarW {t : Token} {w : WItem} (hs : scalarW t = some w) (hwf : Token.wf t)
    (hr : t.reservedSimple = false) : ∃ t', toks w = [t'] ∧ Token.valueEq t t' := by
  cases t <;> simp only [scalarW, Option.some.injEq, reduceCtorEq] at hs <;> subst hs
  case bool b => cases b <;> exact ⟨_, rfl, valueEq_refl_nonint _ rfl⟩
  case u8 n | u16 n | u32 n | u64 n => exact ⟨_, rfl, valueEq_int _ _ _ rfl (intVal_uintTok _ _)⟩
  case i8 v | i16 v | i32 v | i64 v | int v =>
    obtain ⟨t', h1, h2⟩ := toks_intW v
    exact ⟨t', h1, valueEq_int _ _ _ rfl h2⟩
  case f16 x =>
    obtain ⟨h, hlt, rfl⟩ := hwf
    refine ⟨_, rfl, ?_⟩
    rw [half_roundtrip h hlt, f16ToF32_quiet h]
    exact valueEq_refl_nonint _ rfl
  case simple n =>
    simp only [Token.reservedSimple, Bool.and_eq_false_iff, decide_eq_false_iff_not] at hr
    by_cases h : n < 20 ∨ 24 ≤ n
    · exact ⟨_, rfl, by rw [simpleTok_of_ne h]; exact valueEq_refl_nonint _ rfl⟩
    · omega
  all_goals exact ⟨_, rfl, valueEq_refl_nonint _ rfl⟩

/- A scalar token is written as the item it denotes (`scalar_denote`), and that item is read back as
   its own token (`steps_item`). -/
theorem round_one (t : Token) (hwf : Token.wf t) (rest : Bytes) :
    ∃ t', Dec.token (t.enc ++ rest) = .ok t' rest ∧ Token.valueEq t t' := by
  cases hs : scalarW t with
  | some w =>
    by_cases hr : t.reservedSimple = false
    · obtain ⟨e, v⟩ := scalar_denote hs (callOk_of_wf t hwf) hr
      obtain ⟨t', ht, hv⟩ := toks_scalarW hs hwf hr
      obtain ⟨_, hm, rfl⟩ : Steps Dec.token [t'] (encW w ++ rest) rest := ht ▸ steps_item w v rest
      exact ⟨t', e ▸ hm, hv⟩
    · -- `simple(20..=31)`: written as `f8 nn`, read back as the same `Simple`
      cases t <;> try exact absurd rfl hr
      case simple n =>
        have h20 : ¬ n < 20 := by
          simp only [Token.reservedSimple, Bool.and_eq_false_iff, decide_eq_false_iff_not] at hr; omega
        refine ⟨.simple n, ?_, valueEq_refl_nonint _ rfl⟩
        rw [Token.enc, Enc.simple, if_neg h20]
        exact token_simple_f8 n rest (of_decide_eq_true hwf)
  | none =>
    cases t <;> simp only [scalarW, reduceCtorEq] at hs
    case array n =>
      have hn : n < 18446744073709551616 := of_decide_eq_true hwf
      exact ⟨_, enc_arrayTok n hn ▸ token_array _ n rest (prefWidth_fits n hn), valueEq_refl_nonint _ rfl⟩
    case map n =>
      have hn : n < 18446744073709551616 := of_decide_eq_true hwf
      exact ⟨_, enc_mapTok n hn ▸ token_map _ n rest (prefWidth_fits n hn), valueEq_refl_nonint _ rfl⟩
    case tag n =>
      have hn : n < 18446744073709551616 := of_decide_eq_true hwf
      exact ⟨_, enc_tagTok n hn ▸ token_tag _ n rest (prefWidth_fits n hn), valueEq_refl_nonint _ rfl⟩
    all_goals exact ⟨_, rfl, valueEq_refl_nonint _ rfl⟩

theorem round_steps (ts : List Token) (hwf : ∀ t ∈ ts, Token.wf t) (rest : Bytes) :
    ∃ ts', Steps Dec.token ts' (encodeTokens ts ++ rest) rest ∧ Token.valueEqL ts ts' := by
  induction ts with
  | nil => exact ⟨[], Steps.nil _, .nil⟩
  | cons t ts ih =>
    rw [List.forall_mem_cons] at hwf
    obtain ⟨ts', h1, h2⟩ := ih hwf.2
    obtain ⟨t', h3, h4⟩ := round_one t hwf.1 (encodeTokens ts ++ rest)
    refine ⟨t' :: ts', ?_, .cons h4 h2⟩
    simp only [encodeTokens, List.append_assoc]
    exact Steps.cons h3 h1

/-- `Token::decode` never panics and a successful call consumes at least one byte. -/
theorem token_progress (bs : Bytes) :
    Dec.token bs ≠ .panic ∧ ∀ t rest, Dec.token bs = .ok t rest → rest.length < bs.length := by
  refine ⟨NoPanic.token bs, fun t rest h => ?_⟩
  have := Consumes.token bs t rest h
  omega

/-- On arbitrary bytes the `Tokenizer` iterator always finishes (its fuel is never exhausted, no call
    panics); it yields tokens followed by at most one decoding error, which is never "end of input" and
    is the last item; at most one item per input byte. -/
theorem tokenizer_bounded (bs : Bytes) :
    ∃ (ts : List Token) (tail : List TokItem),
      tokens bs = some (ts.map TokItem.tok ++ tail) ∧
      (tail = [] ∨ ∃ e, e ≠ Err.eoi ∧ tail = [TokItem.err e]) ∧
      ts.length + tail.length ≤ bs.length :=
  tokenize_spec (bs.length + 1) bs (Nat.lt_succ_self _)

/-- the same, in the form of the property text. -/
theorem tokenizer_bounded' (bs : Bytes) :
    ∃ items, tokens bs = some items ∧ items.length ≤ bs.length ∧
      ∀ i e, items[i]? = some (TokItem.err e) → i + 1 = items.length := by
  obtain ⟨ts, tail, h1, h2, h3⟩ := tokenizer_bounded bs
  refine ⟨_, h1, by simpa using h3, fun i e hi => ?_⟩
  rw [List.getElem?_append] at hi
  split at hi
  · simp at hi
  · rename_i hlt
    rcases h2 with rfl | ⟨e', _, rfl⟩
    · simp at hi
    · obtain ⟨hk, _⟩ := List.getElem?_eq_some_iff.1 hi
      simp only [List.length_map, List.length_singleton, List.length_append] at hk hlt ⊢
      omega

/-- On a valid wire tree `w` (any head widths, indefinite containers, chunked strings) followed by
    arbitrary bytes, the tokenizer first yields exactly `toks w`, one token per head, and then continues
    on `rest`. -/
theorem tokenize_item (w : WItem) (hv : w.Valid) (rest : Bytes) :
    tokens (encW w ++ rest) = (tokens rest).map ((toks w).map TokItem.tok ++ ·) :=
  tokens_steps (steps_item w hv rest)

theorem tokenize_encW_single (w : WItem) (hv : w.Valid) :
    tokens (encW w) = some ((toks w).map TokItem.tok) := by
  have := tokenize_encW [w] (by simp [validAll, hv])
  simpa [encWs] using this

/-- the value of the canonical tree is read back whatever the half floats (a signalling half NaN
    reads back quieted, because the `F16` token holds the widened `f32`). -/
theorem token_value_canon (w : WItem) (hv : w.Valid) :
    itemOfTokens (toks w) = some (value (canon w)) := by
  have := parse_toks w hv (2 * (toks w).length) [] (Nat.le_refl _)
  rw [List.append_nil] at this
  simp only [itemOfTokens, this]

/-- The tokens determine the data-model value: `itemOfTokens`, which looks at nothing but the payloads
    of the tokens, reads the RFC 8949 value of the tree back from its token list. -/
theorem token_value (w : WItem) (hv : w.Valid) (hq : halfQuiet w = true) :
    itemOfTokens (toks w) = some (value w) := by
  rw [token_value_canon w hv, canon_value w hq]

/-- the kind of an integer token is the one `Decoder::type_of` assigns to the head, and its
    payload is the mathematical value (the case the property singles out: `38 80` is `I16(-129)`). -/
theorem token_int_kinds :
    toks (.nint .w1 127) = [.i8 (-128)] ∧ toks (.nint .w1 128) = [.i16 (-129)] ∧
    toks (.nint .w8 (2 ^ 63 - 1)) = [.i64 (-2 ^ 63)] ∧ toks (.nint .w8 (2 ^ 63)) = [.int (-2 ^ 63 - 1)] ∧
    toks (.uint .w1 24) = [.u8 24] ∧ toks (.uint .w8 1) = [.u64 1] := by decide

/-- Re-encoding the tokens canonicalises: every head comes out in preferred (shortest) form;
    indefinite-length items and chunk boundaries are kept, floats keep their width (a signalling half
    NaN is quieted, `quiet16`). -/
theorem tokens_canonicalise (ws : List WItem) (hv : validAll ws = true) :
    ∃ ts, tokens (encWs ws) = some (ts.map TokItem.tok) ∧ encodeTokens ts = encWs (canonL ws) := by
  refine ⟨ws.flatMap toks, tokenize_encW ws hv, ?_⟩
  rw [← toksL_eq_flatMap]; exact enc_toksL ws hv

/-- `canon` is what the property calls "the preferred form of the same item sequence": it is
    well-formed, every head is preferred, and it denotes the same data-model values. -/
theorem canon_spec (ws : List WItem) (hv : validAll ws = true) :
    validAll (canonL ws) = true ∧ preferredL (canonL ws) = true ∧
    (halfQuietL ws = true → values (canonL ws) = values ws) :=
  ⟨canonL_valid ws hv, canonL_preferred ws, canonL_values ws⟩

/-- For input in preferred serialisation, tokenise-then-encode is the identity on the bytes. -/
theorem tokens_of_preferred (ws : List WItem) (hv : validAll ws = true) (hp : preferredL ws = true) :
    ∃ ts, tokens (encWs ws) = some (ts.map TokItem.tok) ∧ encodeTokens ts = encWs ws := by
  obtain ⟨ts, h1, h2⟩ := tokens_canonicalise ws hv
  exact ⟨ts, h1, by rw [h2, canonL_of_preferred ws hp]⟩

/-- Every token list, once encoded, tokenises back to value-equal tokens: an integer token may change
    its kind (the encoder writes the shortest head, the decoder classifies by head width), every other
    token is identical (floats bitwise; `Simple(20..=31)` is written as `f8 xx` and comes back as the same
    `Simple`).  `Token.wf` is what the Rust payload types guarantee (`Token.ok`, slice lengths below
    2^64, `&str` is UTF-8) plus the property's assumption that an `F16` token holds a half-representable `f32`.
    The intermediate bytes need not be well-formed CBOR. -/
theorem tokens_roundtrip (ts : List Token) (hwf : ∀ t ∈ ts, Token.wf t) :
    ∃ ts', tokens (encodeTokens ts) = some (ts'.map TokItem.tok) ∧ Token.valueEqL ts ts' := by
  obtain ⟨ts', h1, h2⟩ := round_steps ts hwf []
  exact ⟨ts', tokens_steps_all (by simpa using h1), h2⟩

/-- the looser relation of the property text also identifies `Simple(20..23)` with
    `Bool`/`Null`/`Undefined`. -/
theorem valueEq_loose (a b : Token) (h : Token.valueEq a b) : Token.valueEqLoose a b := by
  unfold Token.valueEq at h
  unfold Token.valueEqLoose
  split at h
  · rename_i x y ha hb
    have ea : Token.alias a = a := by cases a <;> first | rfl | simp [Token.intVal?] at ha
    have eb : Token.alias b = b := by cases b <;> first | rfl | simp [Token.intVal?] at hb
    rw [ea, eb]; simp [Token.valueEq, ha, hb, h]
  · subst h
    rename_i ha _
    cases hx : Token.intVal? (Token.alias a) <;> simp [Token.valueEq, hx]
  · exact h.elim

/-- a non-preferred, nested, partly indefinite tree and its canonical form. -/
example :
    let w : WItem := .array .w2 [.uint .w8 1, .arrayI [.nint .w1 3, .textI [(.w1, [0x61])]], .tag .w4 2 (.f16 0x3c00)]
    w.Valid ∧ preferred w = false ∧ halfQuiet w = true ∧
    encW w = [0x99, 0, 3, 0x1b, 0, 0, 0, 0, 0, 0, 0, 1, 0x9f, 0x38, 3, 0x7f, 0x78, 1, 0x61, 0xff, 0xff,
              0xda, 0, 0, 0, 2, 0xf9, 0x3c, 0] ∧
    encW (canon w) = [0x83, 1, 0x9f, 0x23, 0x7f, 0x61, 0x61, 0xff, 0xff, 0xc2, 0xf9, 0x3c, 0] ∧
    toks w = [.array 3, .u64 1, .beginArray, .i8 (-4), .beginString, .string [0x61], .brk, .brk, .tag 2,
              .f16 0x3f800000] := by
  decide

/-- a well-formed token list whose kinds change on the way back. -/
example :
    (∀ t ∈ [Token.u64 5, .i32 (-200), .int 70000, .simple 20, .bytes [1, 2]], Token.wf t) ∧
    tokens (encodeTokens [Token.u64 5, .i32 (-200), .int 70000, .simple 20, .bytes [1, 2]]) =
      some [.tok (.u8 5), .tok (.i16 (-200)), .tok (.u32 70000), .tok (.simple 20), .tok (.bytes [1, 2])] := by
  constructor
  · intro t ht
    simp only [List.mem_cons, List.not_mem_nil, or_false] at ht
    rcases ht with rfl | rfl | rfl | rfl | rfl <;> simp [Token.wf, Token.ok] <;> decide
  · decide

end Minicbor.C11
