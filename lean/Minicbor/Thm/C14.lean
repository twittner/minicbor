/-
  C14 — Framed blocking I/O round-trips under any fragmentation and detects truncation.
  The model is `Minicbor/Frame.lean` (`Reader.read`, `Writer.write`
  over scripted `std::io::Read` / `Write`); scripts are of unbounded length and the proofs go
  by induction over them (`fill_benign`, `drain_benign` in `Lemmas/FrameIO.lean`).

  All theorems are for an arbitrary payload codec `c : Codec α`; `valCodec_roundtrip` shows
  that the codec the driver / harness run (`Val`) satisfies the round-trip hypothesis.
-/
import Minicbor.Lemmas.FrameIO
import Minicbor.Lemmas.ItemStart
import Minicbor.Thm.C03
import Minicbor.Thm.C05

namespace Minicbor.C14
open Minicbor.Frame

/-- std's `read_exact` and `write_all` under any fragmentation and `Interrupted` placement
    (Lemmas/FrameIO.lean) are part of this property. -/
theorem fill_benign : ∀ (sc : List Ev), Benign sc → ∀ (need : Nat) (acc bytes : Bytes),
    ∃ sc', Benign sc' ∧
      fill need acc bytes sc =
        if need ≤ bytes.length then (.done (acc ++ bytes.take need), ⟨bytes.drop need, sc'⟩)
        else (.short (acc ++ bytes), ⟨[], sc'⟩) := Frame.fill_benign

theorem drain_benign : ∀ (sc : List Ev), Benign sc → ∀ (data out : Bytes),
    ∃ sc', Benign sc' ∧ drain data out sc = (.done, ⟨out ++ data, sc'⟩) := Frame.drain_benign

def Encodes (c : Codec α) (maxLen : Nat) : List α → List Bytes → Prop
  | [], [] => True
  | v :: vs, p :: ps => c.enc v = .ok p ∧ p.length ≤ maxLen ∧ Encodes c maxLen vs ps
  | _, _ => False

/-- The writer emits exactly `frames`: under any short-write / `Interrupted` behaviour of
    the sink, writing `vs` appends exactly the concatenation of their frames (4-byte big-endian
    length, then the payload) and every call returns its payload length. -/
theorem writer_frames (c : Codec α) : ∀ (vs : List α) (ps : List Bytes) (w : Writer),
    Encodes c w.maxLen vs ps → Benign w.snk.script →
    ∃ w', Writer.writeAll c vs w = (ps.map (fun p => .ok p.length), w') ∧
      w'.snk.out = w.snk.out ++ frames ps ∧ Benign w'.snk.script ∧ w'.maxLen = w.maxLen := by
  intro vs
  induction vs with
  | nil =>
    intro ps w he hb
    cases ps with
    | nil => exact ⟨w, by simp [Writer.writeAll], by simp [frames], hb, rfl⟩
    | cons => exact absurd he (by simp [Encodes])
  | cons v vs ih =>
    intro ps w he hb
    cases ps with
    | nil => exact absurd he (by simp [Encodes])
    | cons p ps =>
      obtain ⟨hv, hl, hrest⟩ := he
      obtain ⟨sc', hb', hd⟩ := Frame.drain_benign w.snk.script hb (frame p) w.snk.out
      have hnl : ¬ p.length > w.maxLen := by omega
      have hw : w.write c v = (.ok p.length,
          { w with snk := ⟨w.snk.out ++ frame p, sc'⟩, buffer := frame p }) := by
        simp only [Writer.write, hv, hnl, if_false, hd]
      obtain ⟨w'', h1, h2, h3, h4⟩ := ih ps
        { w with snk := ⟨w.snk.out ++ frame p, sc'⟩, buffer := frame p } hrest hb'
      refine ⟨w'', ?_, ?_, h3, h4⟩
      · simp only [Writer.writeAll, hw, h1, List.map_cons]
      · rw [h2]; simp [frames]

/-- a value that fails to encode, or whose encoding exceeds `max_len`, is rejected and not
    a single byte reaches the sink (whatever the sink would have done). -/
theorem writer_rejects_nothing_written (c : Codec α) (w : Writer) (v : α) :
    (∀ part, c.enc v = .error part → (w.write c v).1 = .error .encode ∧ (w.write c v).2.snk = w.snk) ∧
    (∀ p, c.enc v = .ok p → p.length > w.maxLen →
        (w.write c v).1 = .error .invalidLen ∧ (w.write c v).2.snk = w.snk) := by
  constructor
  · intro part h; simp [Writer.write, h]
  · intro p h hl; simp [Writer.write, h, hl]

/-- The writer never emits a frame larger than its maximum, for every sink behaviour:
    what one call adds to the sink is a prefix of the frame of a payload `≤ max_len`
    (possibly empty; the whole frame when the call returns `Ok`). -/
theorem writer_frame_size (c : Codec α) (w : Writer) (v : α) :
    ∃ t, (w.write c v).2.snk.out = w.snk.out ++ t ∧
      (t = [] ∨ ∃ p, c.enc v = .ok p ∧ p.length ≤ w.maxLen ∧ t <+: frame p) := by
  unfold Writer.write
  cases hv : c.enc v with
  | error part => exact ⟨[], by simp, .inl rfl⟩
  | ok p =>
    by_cases hl : p.length > w.maxLen
    · exact ⟨[], by simp [hl], .inl rfl⟩
    · obtain ⟨t, ht, hp⟩ := drain_prefix w.snk.script (frame p) w.snk.out
      refine ⟨t, ?_, .inr ⟨p, rfl, by omega, hp⟩⟩
      simp only [hl, if_false]
      revert ht
      cases drain (frame p) w.snk.out w.snk.script with
      | mk d s => cases d <;> (intro ht; exact ht)

/-- one frame at the head of the stream, any fragmentation: the read returns the decoding of
    exactly that payload and leaves the stream right behind the frame. -/
theorem read_frame (c : Codec α) (r : Reader) (p rest : Bytes)
    (hs : r.src.bytes = frame p ++ rest) (hb : Benign r.src.script)
    (hl : p.length ≤ r.maxLen) (h32 : p.length < 4294967296) :
    ∃ r', r.read c = (decodeRes c p, r') ∧ r'.src.bytes = rest ∧ Benign r'.src.script ∧
      r'.maxLen = r.maxLen ∧ r'.buffer = p := by
  obtain ⟨sc1, hb1, h1⟩ := fill_done hb (be_length 4 p.length) (p ++ rest)
  obtain ⟨sc2, hb2, h2⟩ := fill_done hb1 (pre := p) rfl rest
  refine ⟨⟨⟨rest, sc2⟩, p, r.maxLen⟩, ?_, rfl, hb2, rfl, rfl⟩
  simp only [Reader.read, hs, frame, List.append_assoc, h1, fromBe_be4 _ h32, Nat.not_lt.mpr hl,
    if_false, h2]

/-- at the end of the stream (zero bytes where a length prefix would start) the read reports
    a clean end. -/
theorem reader_clean_end (c : Codec α) (r : Reader) (hs : r.src.bytes = []) (hb : Benign r.src.script) :
    ∃ r', r.read c = (.ok none, r') ∧ r'.src.bytes = [] ∧ Benign r'.src.script ∧ r'.maxLen = r.maxLen := by
  obtain ⟨sc1, hb1, h1⟩ := fill_short hb (need := 4) (bytes := []) (by simp)
  exact ⟨⟨⟨[], sc1⟩, r.buffer, r.maxLen⟩, by simp only [Reader.read, hs, h1], rfl, hb1, rfl⟩

/-- the payloads are within the reader's maximum (and a `u32` can express their length). -/
def Fits (maxLen : Nat) (ps : List Bytes) : Prop := ∀ p ∈ ps, p.length ≤ maxLen ∧ p.length < 4294967296

theorem readN_frames (c : Codec α) (k : Nat) : ∀ (ps : List Bytes) (r : Reader) (rest : Bytes),
    r.src.bytes = frames ps ++ rest → Benign r.src.script → Fits r.maxLen ps →
    ∃ r', r'.src.bytes = rest ∧ Benign r'.src.script ∧ r'.maxLen = r.maxLen ∧
      Reader.readN c (ps.length + k) r =
        ((ps.map (decodeRes c)) ++ (Reader.readN c k r').1, (Reader.readN c k r').2) := by
  intro ps
  induction ps with
  | nil =>
    intro r rest hs hb _
    exact ⟨r, by simpa [frames] using hs, hb, rfl, by simp⟩
  | cons p ps ih =>
    intro r rest hs hb hf
    have hp := hf p (by simp)
    obtain ⟨r1, e1, s1, b1, m1, _⟩ := read_frame c r p (frames ps ++ rest)
      (by rw [hs, frames, List.append_assoc]) hb hp.1 hp.2
    obtain ⟨r', s', b', m', e'⟩ := ih r1 rest s1 b1 (by rw [m1]; intro q hq; exact hf q (by simp [hq]))
    refine ⟨r', s', b', by rw [m', m1], ?_⟩
    rw [List.length_cons, Nat.add_right_comm]
    simp only [Reader.readN, e1, e', List.map_cons, List.cons_append]

/-- Any fragmentation, any placement of `Interrupted`: over a stream that consists of the
    frames of `ps`, delivered in arbitrary pieces with arbitrarily many interrupted calls,
    `ps.length + 1` reads return the decoding of each payload in order and then a clean end. -/
theorem reader_any_fragmentation (c : Codec α) (ps : List Bytes) (r : Reader)
    (hs : r.src.bytes = frames ps) (hb : Benign r.src.script) (hf : Fits r.maxLen ps) :
    (Reader.readN c (ps.length + 1) r).1 = ps.map (decodeRes c) ++ [.ok none] := by
  obtain ⟨r', s', b', _, e'⟩ := readN_frames c 1 ps r [] (by simpa using hs) hb hf
  obtain ⟨r'', e'', _⟩ := reader_clean_end c r' s' b'
  rw [e']
  simp [Reader.readN, e'']

theorem Encodes.decodes {c : Codec α} (hrt : ∀ v p, c.enc v = .ok p → c.dec p = .ok v) {ml : Nat} :
    ∀ (vs : List α) (ps : List Bytes), Encodes c ml vs ps →
      vs.length = ps.length ∧ (∀ p ∈ ps, p.length ≤ ml) ∧
      ps.map (decodeRes c) = vs.map (fun v => .ok (some v))
  | [], [], _ => by simp
  | v :: vs, p :: ps, ⟨hv, hl, hrest⟩ => by
    obtain ⟨a, b, d⟩ := Encodes.decodes hrt vs ps hrest
    exact ⟨by simp [a], by simpa using ⟨hl, b⟩, by simp [decodeRes, hrt v p hv, d]⟩
  | [], _ :: _, h | _ :: _, [], h => h.elim

/-- Round trip: what the writer emitted for `vs` (see `writer_frames`) is read back as
    exactly `vs`, in order, then `None` — for every codec whose decoder inverts its encoder. -/
theorem reader_roundtrip (c : Codec α) (hrt : ∀ v p, c.enc v = .ok p → c.dec p = .ok v) :
    ∀ (vs : List α) (ps : List Bytes) (r : Reader), Encodes c r.maxLen vs ps → (∀ p ∈ ps, p.length < 4294967296) →
    r.src.bytes = frames ps → Benign r.src.script →
    (Reader.readN c (vs.length + 1) r).1 = vs.map (fun v => .ok (some v)) ++ [.ok none] := by
  intro vs ps r he h32 hs hb
  obtain ⟨hlen, hmax, hmap⟩ := Encodes.decodes hrt vs ps he
  rw [hlen, ← hmap]
  exact reader_any_fragmentation c ps r hs hb (fun p hp => ⟨hmax p hp, h32 p hp⟩)

/-- Truncation: if the stream ends strictly inside a frame (in its length prefix or in
    its payload), the read that hits the end returns `UnexpectedEof` — never a value, never a
    clean end — under any fragmentation; the frames before it are unaffected. -/
theorem reader_truncation (c : Codec α) (ps : List Bytes) (p t : Bytes) (r : Reader)
    (ht : t <+: frame p) (hne : t ≠ []) (hcut : t ≠ frame p)
    (hs : r.src.bytes = frames ps ++ t) (hb : Benign r.src.script)
    (hf : Fits r.maxLen (ps ++ [p])) :
    (Reader.readN c (ps.length + 1) r).1 = ps.map (decodeRes c) ++ [.error (.io .unexpectedEof)] := by
  obtain ⟨r', s', b', m', e'⟩ := readN_frames c 1 ps r t hs hb (fun q hq => hf q (by simp [hq]))
  have hp := hf p (by simp)
  rw [← m'] at hp
  rw [e']
  suffices h : (r'.read c).1 = .error (.io .unexpectedEof) by simp [Reader.readN, h]
  rcases frame_prefix_cases ht hcut with h4 | ⟨q, rfl, hq⟩
  · obtain ⟨sc1, _, h1⟩ := fill_short b' h4
    cases t with
    | nil => exact absurd rfl hne
    | cons x xs => simp only [Reader.read, h1, s']
  · obtain ⟨sc1, hb1, h1⟩ := fill_done b' (be_length 4 p.length) q
    obtain ⟨sc2, _, h2⟩ := fill_short hb1 hq
    simp only [Reader.read, s', h1, fromBe_be4 _ hp.2, Nat.not_lt.mpr hp.1, if_false, h2]

/-- No desynchronisation: a frame whose payload does not decode yields the decode error
    and consumes exactly its `4 + len` bytes: the next read starts at the next frame. -/
theorem reader_resync (c : Codec α) (r : Reader) (p rest : Bytes) (e : Err)
    (hbad : c.dec p = .error e)
    (hs : r.src.bytes = frame p ++ rest) (hb : Benign r.src.script)
    (hl : p.length ≤ r.maxLen) (h32 : p.length < 4294967296) :
    ∃ r', r.read c = (.error (.decode e), r') ∧ r'.src.bytes = rest ∧ Benign r'.src.script := by
  obtain ⟨r', e1, s1, b1, _, _⟩ := read_frame c r p rest hs hb hl h32
  exact ⟨r', by rw [e1]; simp [decodeRes, hbad], s1, b1⟩

/-- Bounded buffer, for every source behaviour whatsoever: a read either leaves the
    buffer alone or leaves it with a length `≤ max_len`. -/
theorem reader_alloc (c : Codec α) (r : Reader) :
    (r.read c).2.buffer = r.buffer ∨ (r.read c).2.buffer.length ≤ r.maxLen := by
  unfold Reader.read
  generalize fill 4 [] r.src.bytes r.src.script = f1
  obtain ⟨o1, src⟩ := f1
  cases o1 with
  | done pre =>
    by_cases hle : fromBe pre > r.maxLen
    · simp [hle]
    · have hg := fill_got_length src.script (fromBe pre) [] src.bytes
      dsimp only
      generalize fill (fromBe pre) [] src.bytes src.script = f2 at hg ⊢
      obtain ⟨o2, src2⟩ := f2
      cases o2 <;> simp [hle, Fill.got] at hg ⊢ <;> omega
  | short got => cases got <;> simp
  | fail k got => simp

/-- An oversized length is rejected before any allocation: the buffer is untouched, the
    error is `InvalidLen`, only the four prefix bytes are consumed. -/
theorem reader_oversize_rejected (c : Codec α) (r : Reader) (len : Nat) (rest : Bytes)
    (hs : r.src.bytes = be 4 len ++ rest) (hb : Benign r.src.script)
    (hbig : len > r.maxLen) (h32 : len < 4294967296) :
    ∃ r', r.read c = (.error .invalidLen, r') ∧ r'.buffer = r.buffer ∧ r'.src.bytes = rest := by
  obtain ⟨sc1, _, h1⟩ := fill_done hb (be_length 4 len) rest
  exact ⟨⟨⟨rest, sc1⟩, r.buffer, r.maxLen⟩,
    by simp only [Reader.read, hs, h1, fromBe_be4 _ h32, hbig, if_true], rfl, rfl⟩

/-- values of `hio::V` (a `u64`, a byte string whose length is a `usize`). -/
def Val.Wf : Val → Prop
  | .u n => n < 18446744073709551616
  | .b bs => bs.length < 18446744073709551616
  | .x _ => True
  | .e => False              -- its empty payload is a frame like any other, but no decoder gives the value back
  | .t _ => False            -- its decoder reads the number and leaves the padding: the reader delivers `u n`, not `t n`

section ValCodec
open Dec

theorem decVal_uint_head (w : Width) (n : Nat) (rest : Bytes) (hfit : w.fits n = true) :
    decVal (headW 0 w n ++ rest) = .ok (.u n) rest := by
  have hmax : n ≤ IntTy.u64.max := by have := Width.fits_lt w n hfit; simp [IntTy.u64]; omega
  have hi : intAcc .u64 (headW 0 w n ++ rest) = .ok (n : Int) rest :=
    C05.int_accessor_ok .u64 w false n rest hfit (by simp) hmax
  unfold decVal
  rw [Dec.bind_ok _ _ _ _ _ (datatype_headW 0 w n rest (by omega) (.inl (by omega)) hfit)]
  -- the four answers select the same arm
  simp only [headType]
  (repeat' split) <;> simp [Dec.bind_run, hi]

theorem decVal_bytes_head (w : Width) (b rest : Bytes) (hfit : w.fits b.length = true) :
    decVal (headW 2 w b.length ++ b ++ rest) = .ok (.b b) rest := by
  unfold decVal
  rw [List.append_assoc,
    Dec.bind_ok _ _ _ _ _ (datatype_headW 2 w _ (b ++ rest) (by omega) (.inl (by omega)) hfit)]
  simp [headType, Dec.bind_run, bytes_on_head w b rest hfit]

theorem NoPanic.datatype : NoPanic Dec.datatype := NoPanic.rules.datatype

/-- the payload decoder of the scenarios never panics (so the `panic` arm of `valCodec.dec` is dead). -/
theorem decVal_noPanic : NoPanic decVal := by
  unfold decVal
  apply NoPanic.bind NoPanic.datatype
  intro t
  have hi : NoPanic (Dec.intAcc .u64 >>= fun n => (pure (.u n.toNat) : Dec Val)) :=
    NoPanic.bind (NoPanic.intAcc _) (fun _ => NoPanic.pure _)
  have hb : NoPanic (Dec.bytes >>= fun b => (pure (.b b) : Dec Val)) :=
    NoPanic.bind NoPanic.bytes (fun _ => NoPanic.pure _)
  cases t <;> first | exact hi | exact hb | exact NoPanic.fail _

end ValCodec

/-- The codec the driver and the harness run satisfies the round-trip hypothesis of
    `reader_roundtrip` on every value that `Val.Wf` admits: the `u64`s and the byte strings (`x`
    never encodes; the two test-only values `e` and `t n` are excluded, see `valCodec_padded`). -/
theorem valCodec_roundtrip (v : Val) (p : Bytes) (hwf : Val.Wf v) (h : valCodec.enc v = .ok p) :
    valCodec.dec p = .ok v := by
  cases v with
  | u n =>
    simp only [valCodec] at h
    injection h with h; subst h
    have := decVal_uint_head (prefWidth n) n [] (prefWidth_fits n hwf)
    rw [List.append_nil, ← head, ← C03.u64_eq_head] at this
    simp [valCodec, this]
  | b bs =>
    simp only [valCodec] at h
    injection h with h; subst h
    have := decVal_bytes_head (prefWidth bs.length) bs [] (prefWidth_fits _ hwf)
    rw [List.append_nil, ← head, ← show Enc.typeLen Enc.BYTES _ = _ from C03.typeLen_eq_head 2 _] at this
    simp [valCodec, Enc.bytes, this]
  | x part => simp [valCodec] at h
  | e => exact hwf.elim
  | t n => exact hwf.elim

/-- A frame may hold more than its value's decoder consumes (`minicbor::decode` ignores what follows the item): the payload written for
    `t n` — the number and one more item — is read back as the number. -/
theorem valCodec_padded (n : Nat) (h : n < 18446744073709551616) (p : Bytes) (he : valCodec.enc (.t n) = .ok p) :
    valCodec.dec p = .ok (.u n) := by
  simp only [valCodec] at he
  injection he with he; subst he
  have := decVal_uint_head (prefWidth n) n [0x00] (prefWidth_fits n h)
  rw [← head, ← C03.u64_eq_head] at this
  simp [valCodec, this]

example : valCodec.enc (.t 300) = .ok [0x19, 0x01, 0x2c, 0x00] ∧ valCodec.dec [0x19, 0x01, 0x2c, 0x00] = .ok (.u 300) :=
  ⟨rfl, rfl⟩

/-- non-vacuity: a two-frame stream, delivered one byte at a time with interruptions, read
    with `max_len` exactly the larger payload. -/
example :
    (Reader.readN valCodec 3 ⟨⟨frames [Enc.u64 300, Enc.bytes [1, 2]],
        [.io 1, .intr, .io 1, .io 1, .intr, .intr, .io 1, .io 1, .io 2, .io 9, .io 3, .io 1, .io 1, .io 1]⟩, [], 3⟩).1
      = [.ok (some (.u 300)), .ok (some (.b [1, 2])), .ok none] := rfl

end Minicbor.C14
