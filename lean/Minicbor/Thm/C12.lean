/-
  C12 — Floating-point values survive bit-exactly; half precision converts per IEEE 754.

  The definitions the theorems are about are the ones `mcdrv` executes: `Enc.f16/f32/f64`,
  `Dec.f16/f32/f64`, `f16ToF32`, `f32ToF16`, `f32ToF64` (Float.lean; transcriptions of the `half`
  crate's portable conversion functions, which is the path an x86_64 build with
  `default-features = false` takes, and of `f64::from(f32)`), with the value semantics
  `val16/val32/val64 : bits → FVal` (finite magnitudes as integer multiples of 2^-1074).
  What each accessor does on a float item is in Thm/C04.lean, the conversions in Lemmas/FloatHalf.lean.
-/
import Minicbor.Encoder
import Minicbor.Lemmas.FloatHalf
import Minicbor.Thm.C04
import Minicbor.Thm.C20

namespace Minicbor.C12
open Dec

/-- every one of the 2^32 patterns (−0, subnormals, infinities, every NaN payload) comes back
    identical, with or without the `half` feature. -/
theorem f32_bits_roundtrip (b : Nat) (hb : b < 2 ^ 32) (rest : Bytes) (half : Bool) :
    Dec.f32 half (Enc.f32 b ++ rest) = .ok b rest :=
  C04.f32_sound b rest (by simpa using hb) half

theorem f64_bits_roundtrip (b : Nat) (hb : b < 2 ^ 64) (rest : Bytes) (half : Bool) :
    Dec.f64 half (Enc.f64 b ++ rest) = .ok b rest :=
  C04.f64_sound b rest (by simpa using hb) half

theorem f16_decode_exact : ∀ h, h < 65536 → val32 (f16ToF32 h) = val16 h := f16ToF32_exact

/-- `f64::from(f32)` is exact for all 2^32 patterns. -/
theorem widen_exact : ∀ x, x < 2 ^ 32 → val64 (f32ToF64 x) = val32 x := widen_exact_all

/-- the wider accessors on narrower items: an `f9` item read through `f32`/`f64`, an `fa` item
    read through `f64`. -/
theorem accessor_widening (rest : Bytes) :
    (∀ h, h < 65536 → Dec.f32 true (0xf9 :: be 2 h ++ rest) = .ok (f16ToF32 h) rest) ∧
    (∀ h, h < 65536 → Dec.f64 true (0xf9 :: be 2 h ++ rest) = .ok (f32ToF64 (f16ToF32 h)) rest) ∧
    (∀ x half, x < 2 ^ 32 → Dec.f64 half (0xfa :: be 4 x ++ rest) = .ok (f32ToF64 x) rest) :=
  ⟨fun h hh => C04.f32_f16_sound h rest hh, fun h hh => C04.f64_f16_sound h rest hh,
    fun x half hx => C04.f64_f32_sound x rest (by simpa using hx) half⟩

theorem accessor_widening_value (rest : Bytes) :
    (∀ h, h < 65536 → ∃ r, Dec.f32 true (0xf9 :: be 2 h ++ rest) = .ok r rest ∧ val32 r = val16 h) ∧
    (∀ h, h < 65536 → ∃ r, Dec.f64 true (0xf9 :: be 2 h ++ rest) = .ok r rest ∧ val64 r = val16 h) ∧
    (∀ x half, x < 2 ^ 32 → ∃ r, Dec.f64 half (0xfa :: be 4 x ++ rest) = .ok r rest ∧ val64 r = val32 x) := by
  obtain ⟨a, b, c⟩ := accessor_widening rest
  refine ⟨fun h hh => ⟨_, a h hh, f16_decode_exact h hh⟩, fun h hh => ⟨_, b h hh, ?_⟩,
    fun x half hx => ⟨_, c x half hx, widen_exact x hx⟩⟩
  rw [widen_exact _ (by simpa using f16ToF32_lt h hh), f16_decode_exact h hh]

/-- a wider float is never accepted by a narrower accessor, whatever the payload (also when it would be
    exactly representable in the narrower format); `f32` leaves the position at the item, `f16` has
    consumed the initial byte. -/
theorem no_narrowing (bs : Bytes) (half : Bool) :
    Dec.f32 half (0xfb :: bs) = .err .type (0xfb :: bs) ∧
    Dec.f16 (0xfa :: bs) = .err .type bs ∧
    Dec.f16 (0xfb :: bs) = .err .type bs := by
  have h1 : ((0xfb : UInt8) == 0xf9) = false := by decide
  have h2 : ((0xfb : UInt8) == 0xfa) = false := by decide
  have h3 : ((0xfa : UInt8) != 0xf9) = true := by decide
  have h4 : ((0xfb : UInt8) != 0xf9) = true := by decide
  have t1 : ∀ r : Bytes, (typeMismatch (0xfb : UInt8) : Dec Nat) r = .err .type r := by
    intro r; simp [typeMismatch, typeOf, Dec.bind_run]
  have t2 : ∀ r : Bytes, (typeMismatch (0xfa : UInt8) : Dec Nat) r = .err .type r := by
    intro r; simp [typeMismatch, typeOf, Dec.bind_run]
  refine ⟨?_, ?_, ?_⟩
  · simp only [Dec.f32, Dec.bind_run, Dec.current_cons, h1, h2, Bool.and_false, Bool.false_eq_true, if_false, t1]
  · simp only [Dec.f16, Dec.bind_run, Dec.read_cons, h3, if_true, t2]
  · simp only [Dec.f16, Dec.bind_run, Dec.read_cons, h4, if_true, t1]

/-- without the `half` feature an `f9` item is a type error for `f32` and `f64` as well. -/
theorem no_half_feature (bs : Bytes) :
    Dec.f32 false (0xf9 :: bs) = .err .type (0xf9 :: bs) ∧
    Dec.f64 false (0xf9 :: bs) = .err .type (0xf9 :: bs) :=
  ⟨C20.f32_nohalf_f16_is_type_error bs, C20.f64_nohalf_f16_is_type_error bs⟩

/-- `Encoder::f16` is exact on every half-representable value. -/
theorem f16_encode_exact : ∀ h, h < 65536 → isNan16 h = false → f32ToF16 (f16ToF32 h) = h :=
  C11.half_roundtrip_not_nan

/-- NaN patterns keep sign and payload; only the quiet bit is forced. -/
theorem f16_encode_nan_payload : ∀ h, h < 65536 → isNan16 h = true →
    f32ToF16 (f16ToF32 h) = (if h / 512 % 2 == 0 then h + 512 else h) := by
  intro h hh hn
  simp only [isNan16, Bool.and_eq_true, beq_iff_eq, bne_iff_ne, ne_eq] at hn
  rw [C11.half_roundtrip h hh, C11.quiet16]
  simp only [beq_iff_eq]
  repeat' split
  all_goals omega

theorem f16_wire_roundtrip (h : Nat) (hh : h < 65536) (hn : isNan16 h = false) (rest : Bytes) :
    Dec.f16 (Enc.f16 (f16ToF32 h) ++ rest) = .ok (f16ToF32 h) rest := by
  rw [Enc.f16, f16_encode_exact h hh hn]
  exact C04.f16_sound h rest hh

/-- `Encoder::f16` rounds to nearest, ties to even, on all 2^32 − 2^24 finite binary32 inputs.
    With `a` the exact magnitude of the input (units of 2^-1074): at or above 65520 the result is
    the infinity of the same sign (IEEE 754 overflow rule for round-to-nearest); below it no binary16
    value of either sign is closer to the input than the result (`fdist` is the exact distance), and
    whenever another pattern is equally close the chosen pattern has an even mantissa. -/
theorem f16_encode_rne (x : Nat) (hx : x < 2 ^ 32) (hfin : x / 8388608 % 256 ≠ 255) :
    ∃ neg a, val32 x = .finite neg a ∧
      (65520 * 2 ^ 1074 ≤ a → val16 (f32ToF16 x) = .inf neg) ∧
      (a < 65520 * 2 ^ 1074 → ∃ b, val16 (f32ToF16 x) = .finite neg b ∧
        ∀ h', h' < 65536 → ∀ n' b', val16 h' = .finite n' b' →
          fdist neg b neg a ≤ fdist n' b' neg a ∧
          (fdist neg b neg a = fdist n' b' neg a → h' ≠ f32ToF16 x → f32ToF16 x % 2 = 0)) := by
  obtain ⟨s, e, M, hs, hM, hn, hle, rfl, hv⟩ := sig_view format32.pos format32.fin x (by simpa using hx) (by omega)
  rw [f32ToF16_sig s e M (by omega) hM hn]
  exact ⟨_, _, hv, format16.rne hs (f32ToF16_rounds e M hM hn)⟩

/-- NaN encodes to NaN (same sign), ±∞ to ±∞, and every finite value of magnitude ≥ 65520
    (= the midpoint between the largest finite half 65504 and 2^16) to ±∞.  All 2^32 inputs. -/
theorem f16_encode_nan_inf (x : Nat) (hx : x < 2 ^ 32) :
    (isNan32 x = true → isNan16 (f32ToF16 x) = true ∧ f32ToF16 x / 32768 = x / 2147483648) ∧
    (∀ neg, val32 x = .inf neg → val16 (f32ToF16 x) = .inf neg) ∧
    (∀ neg a, val32 x = .finite neg a → 65520 * 2 ^ 1074 ≤ a → val16 (f32ToF16 x) = .inf neg) := by
  have hx' : x < 4294967296 := by simpa using hx
  obtain ⟨hsplit, hs, he, hm⟩ := split32 x hx'
  refine ⟨?_, ?_, ?_⟩
  · intro hn
    simp only [isNan32, Bool.and_eq_true, beq_iff_eq, bne_iff_ne, ne_eq] at hn
    obtain ⟨hn1, hn2⟩ := hn
    have hq : x % 8388608 / 8192 < 1024 := by omega
    unfold f32ToF16 isNan16
    simp only [hn1, beq_self_eq_true, if_true, beq_iff_eq, hn2, if_false, Bool.and_eq_true, bne_iff_ne, ne_eq]
    split <;> omega
  · intro neg hv
    rw [hsplit, val32_mk _ _ _ hs he hm] at hv
    by_cases he255 : x / 8388608 % 256 = 255
    · rw [if_pos he255] at hv
      by_cases hm0 : x % 8388608 = 0
      · rw [if_pos hm0] at hv
        injection hv with hneg
        have := f32ToF16_special (x / 2147483648) 0 (by decide)
        rw [if_pos rfl, show x / 2147483648 * 2147483648 + 0x7F800000 + 0 = x by omega] at this
        rw [this, ← hneg]
        exact format16.inf _ hs
      · rw [if_neg hm0] at hv
        cases hv
    · rw [if_neg he255] at hv
      split at hv <;> cases hv
  · intro neg a hv hge
    have := format32.fin_le x neg a hx' hv
    obtain ⟨neg', a', hv', hov, -⟩ := f16_encode_rne x hx (by omega)
    rw [hv] at hv'
    injection hv' with h1 h2
    subst h1 h2
    exact hov hge

/-- 65520.0 → +∞, the float just below → 65504 (0x7BFF); 2^-25 (tie) → +0, the next float → the
    smallest subnormal; 2^-24·1.5 (tie) → 2 (even); −0 keeps its sign. -/
example : f32ToF16 0x477FF000 = 0x7C00 ∧ f32ToF16 0x477FEFFF = 0x7BFF ∧
    f32ToF16 0x33000000 = 0x0000 ∧ f32ToF16 0x33000001 = 0x0001 ∧
    f32ToF16 0x33C00000 = 0x0002 ∧ f32ToF16 0x80000000 = 0x8000 := by decide

/-- the hypotheses of `f16_encode_rne` are satisfiable on both sides of the threshold. -/
example : (∃ a, val32 0x477FF000 = .finite false a ∧ 65520 * 2 ^ 1074 ≤ a) ∧
    (∃ a, val32 0x3F800001 = .finite false a ∧ a < 65520 * 2 ^ 1074) := by
  refine ⟨⟨_, rfl, ?_⟩, ⟨_, rfl, ?_⟩⟩ <;> decide +kernel

end Minicbor.C12
