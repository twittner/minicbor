/-
  `f64 as f32` undoes `f64::from(f32)`: for every binary32 pattern that is not a NaN, narrowing its widening gives
  the pattern back (every binary32 value is a binary64 value, and rounding an exactly representable value changes
  nothing); a NaN comes back quieted, sign and the other payload bits intact.  On every finite binary64 pattern
  it rounds to nearest, ties to even (`narrow_rne`, from `f64ToF32_sig` / `f64ToF32_rounds`, Lemmas/FloatNarrow.lean).
-/
import Minicbor.Lemmas.FloatWiden
import Minicbor.Lemmas.FloatNarrow

namespace Minicbor.NarrowThm
open Minicbor

def quieted (x : Nat) : Nat := if x % 8388608 ≥ 4194304 then x else x + 4194304

theorem narrow_widen_fields (s e m : Nat) (he : e < 256) (hm : m < 8388608) :
    f64ToF32 (f32ToF64 (s * 2147483648 + e * 8388608 + m)) =
      if e = 255 ∧ m ≠ 0 then quieted (s * 2147483648 + e * 8388608 + m) else s * 2147483648 + e * 8388608 + m := by
  rw [f32ToF64_mk s e m he hm]
  by_cases he255 : e = 255
  · rw [if_pos he255]
    by_cases hm0 : m = 0
    · have := f64ToF32_special s 0 (by decide)
      rw [Nat.add_zero, if_pos rfl] at this
      rw [if_pos hm0, this, if_neg (by omega)]
      omega
    · rw [if_neg hm0, if_pos (show e = 255 ∧ m ≠ 0 from ⟨he255, hm0⟩), quieted]
      split
      all_goals
        rw [f64ToF32_special s _ (by omega), if_neg (by omega)]
        repeat' split
        all_goals omega
  · obtain ⟨e', M', hw, hM', hn', he', -, hr⟩ := f32ToF64_fin e m (by omega) hm
    rw [if_neg he255, if_neg (show ¬(e = 255 ∧ m ≠ 0) from fun h => he255 h.1), hw,
      f64ToF32_sig s e' M' (by omega) hM' hn', hr, Nat.add_assoc]

theorem narrow_widen (x : Nat) (hx : x < 2 ^ 32) :
    f64ToF32 (f32ToF64 x) = if isNan32 x then quieted x else x := by
  obtain ⟨hsplit, -, he, hm⟩ := split32 x (by simpa using hx)
  have := narrow_widen_fields (x / 2147483648) _ _ he hm
  rw [← hsplit] at this
  rw [this]
  simp only [isNan32, Bool.and_eq_true, beq_iff_eq, bne_iff_ne, ne_eq]

/-- non-vacuity / spot checks: 1.0, the largest finite double (→ +inf), a tie, the smallest subnormal. -/
example : f64ToF32 0x3FF0000000000000 = 0x3F800000 ∧ f64ToF32 0x7FEFFFFFFFFFFFFF = 0x7F800000 ∧
    f64ToF32 0x3FF0000010000000 = 0x3F800000 ∧ f64ToF32 0x3FF0000030000000 = 0x3F800002 ∧
    f64ToF32 0x36A0000000000000 = 0x00000001 ∧ f64ToF32 0x3690000000000000 = 0 ∧ f64ToF32 0x7FF0000000000001 = 0x7FC00000 := by
  refine ⟨by decide, by decide, by decide, by decide, by decide, by decide, by decide⟩

/-- `f64 as f32` (serde's `f32` visitor on a buffered double) rounds to nearest, ties to even, on all
    2^64 − 2^53 finite binary64 inputs.  With `a` the exact magnitude of the input (units of 2^-1074): at or
    above `ovf32` the result is the infinity of the same sign; below it no binary32 value of either sign is
    closer to the input than the result, and whenever another pattern is equally close the chosen pattern has
    an even mantissa. -/
theorem narrow_rne (x : Nat) (hx : x < 2 ^ 64) (hfin : x / 4503599627370496 % 2048 ≠ 2047) :
    ∃ neg a, val64 x = .finite neg a ∧
      (ovf32 ≤ a → val32 (f64ToF32 x) = .inf neg) ∧
      (a < ovf32 → ∃ b, val32 (f64ToF32 x) = .finite neg b ∧
        ∀ y, y < 2 ^ 32 → ∀ n' b', val32 y = .finite n' b' →
          fdist neg b neg a ≤ fdist n' b' neg a ∧
          (fdist neg b neg a = fdist n' b' neg a → y ≠ f64ToF32 x → f64ToF32 x % 2 = 0)) := by
  obtain ⟨s, e, M, hs, hM, hn, hle, rfl, hv⟩ :=
    sig_view (P := 4503599627370496) (u := 0) (by decide) val64_fin x (by simpa using hx) (by omega)
  have := format32.rne hs (f64ToF32_rounds e M hM hn)
  rw [f64ToF32_sig s e M (by omega) hM hn]
  exact ⟨_, _, hv, by simpa using this⟩

theorem f64ToF32_lt (x : Nat) (hx : x < 2 ^ 64) (hfin : x / 4503599627370496 % 2048 ≠ 2047) : f64ToF32 x < 2 ^ 32 := by
  obtain ⟨s, e, M, hs, hM, hn, hle, hxe, -⟩ :=
    sig_view (P := 4503599627370496) (u := 0) (by decide) val64_fin x (by simpa using hx) (by omega)
  have := format32.le_inf (f64ToF32_rounds e M hM hn)
  rw [hxe, f64ToF32_sig s e M (by omega) hM hn]
  omega

/-- non-vacuity: both sides of the overflow threshold are inhabited (the largest finite double; 1 + 2^-52), and
    the threshold itself (0x47EFFFFFF0000000, a tie between the largest finite float and 2^128) goes to +inf. -/
example : (∃ a, val64 0x7FEFFFFFFFFFFFFF = .finite false a ∧ ovf32 ≤ a) ∧
    (∃ a, val64 0x3FF0000000000001 = .finite false a ∧ a < ovf32) ∧
    val64 0x47EFFFFFF0000000 = .finite false ovf32 ∧ f64ToF32 0x47EFFFFFF0000000 = 0x7F800000 ∧
    f64ToF32 0x47EFFFFFEFFFFFFF = 0x7F7FFFFF := by
  refine ⟨⟨_, rfl, ?_⟩, ⟨_, rfl, ?_⟩, ?_, ?_, ?_⟩ <;> decide +kernel

end Minicbor.NarrowThm
