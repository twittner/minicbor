/-
  C19 — Diagnostic display is total, size-bounded and follows the documented notation.
-/
import Minicbor.Lemmas.DisplayTree
import Minicbor.Lemmas.TokenCost

namespace Minicbor.C19
open C11

theorem display_spec (bs : Bytes) :
    ∃ items ps, tokens bs = some items ∧ display bs = some ps ∧ renderedLength ps ≤ tcs items + STOP_MAX := by
  obtain ⟨ts, tail, h1, _, _⟩ := tokenize_spec (bs.length + 1) bs (Nat.lt_succ_self _)
  generalize ts.map TokItem.tok ++ tail = items at h1
  obtain ⟨ps, h, hb⟩ := displayOuter_spec (items.length + 2) (8 * items.length + 16) items []
    (by omega) (by omega)
  exact ⟨items, ps, h1, by unfold display; rw [show tokens bs = _ from h1]; simpa using h, hb⟩

/-- `Display for Tokenizer` is total: for every byte string the tokenizer finishes without panicking and
    the printer's two loops terminate within their fuels (`mu`, `Lemmas/DisplayBound.lean`, bounds the
    iterations of the inner loop by `6·tokens + stack`; every round of the outer loop consumes a
    token or returns).  Decoding problems are part of the output (`display_error_inline`), never a failure. -/
theorem display_total (bs : Bytes) : ∃ ps, display bs = some ps :=
  let ⟨_, ps, _, h, _⟩ := display_spec bs
  ⟨ps, h⟩

theorem display_ne_none (bs : Bytes) : display bs ≠ none := by
  obtain ⟨ps, h⟩ := display_total bs
  rw [h]; simp

/-- The output is bounded by a constant multiple of the input length, within the `16 · len + 256` the
    correspondence check enforces on the real output; 149 is `STOP_MAX`.  `renderedLength`
    (`Lemmas/DisplaySpec.lean`) counts the literal text and string payloads and charges
    `FLOAT_CHARGE = 32` per float piece and `ERR_CHARGE = 128` per error text (both texts come from Rust's
    formatter, outside the model).  By the potential `phi` (`Lemmas/DisplayBound.lean`): every emission is
    paid by a consumed token; the rendering of a token plus the 5 bytes of separators / closers it can
    cause cost at most 16 per input byte its decoding consumed (`token_rsize16`); the separators a
    definite-length container schedules are charged to the `E::N` on top of them, which consumes a token
    or (this is what commit 7258571 changed) reports the end of input and returns.  On the code before
    that commit this theorem is false (`9a 00 01 86 a0` rendered 200 kB). -/
theorem display_bounded (bs : Bytes) (ps : List Piece) (h : display bs = some ps) :
    renderedLength ps ≤ 16 * bs.length + 149 := by
  obtain ⟨items, _, ht, hd, hb⟩ := display_spec bs
  rw [hd] at h
  cases h
  have := tokenize_cost _ _ _ ht
  have e : STOP_MAX = 149 := rfl
  omega

/-- the constants exist (the form of the property text); they are the ones of the check. -/
theorem display_bounded_exists :
    ∃ K K0, K ≤ 16 ∧ K0 ≤ 256 ∧ ∀ bs ps, display bs = some ps → renderedLength ps ≤ K * bs.length + K0 :=
  ⟨16, 149, by omega, by omega, display_bounded⟩

/-- the bound is about the right order: one input byte can cost eleven output bytes (`f7` prints
    `undefined`, plus a separator inside a container). -/
example : display [0x9f, 0xf7, 0xf7, 0xf7, 0xff] =
    some [.lit "[_ ", .lit "undefined", .lit ", ", .lit "undefined", .lit ", ", .lit "undefined", .lit "]"] := by
  rfl

/-- decoding problems are reported inline, not as a failure: the printer appends a message and stops
    (a truncated definite array, an unclosed indefinite one, an unknown initial byte). -/
theorem display_error_inline :
    display [0x82, 0x01] = some [.lit "[", .lit "1", .lit ", ", .lit " !!! decoding error: ", .errmsg .eoi] ∧
    display [0x9f, 0x01] = some [.lit "[_ ", .lit "1", .lit " !!! indefinite array not closed"] ∧
    display [0x01, 0xfc] = some [.lit "1", .lit " !!! decoding error: ", .errmsg .type] := by
  refine ⟨?_, ?_, ?_⟩ <;> rfl

/-- For a sequence of well-formed data items the output is exactly the documented notation of each item
    (`render`, `Lemmas/DisplaySpec.lean`, written from the syntax summary in `lib.rs`), one after the
    other: any head widths, any nesting, indefinite-length arrays / maps, chunked strings. -/
theorem display_documented_seq (ws : List WItem) (hv : validAll ws = true) :
    display (encWs ws) = some (ws.flatMap render) := by
  unfold display
  rw [tokenize_encW ws hv]
  simpa using displayOuter_items ws (good_items ws hv) _ _ [] (by simp) (by simp; omega)

theorem display_documented (w : WItem) (hv : w.Valid) : display (encW w) = some (render w) := by
  have := display_documented_seq [w] (by simp [validAll, hv])
  simpa [encWs] using this

/-- non-vacuity / a reading of the notation: a nested item with every kind of container. -/
example :
    display (encW (.map .w1 [.text .w0 [0x61], .arrayI [.uint .w0 1, .bytesI [(.w0, [0xab, 0xcd]), (.w0, [])]],
                              .nint .w0 0, .tag .w0 2 (.textI [])])) =
      some [.lit "{", .lit "\"", .raw [0x61], .lit "\"", .lit ": ", .lit "[_ ", .lit "1", .lit ", ", .lit "(_ ",
            .lit "h'ab cd'", .lit ", ", .lit "h''", .lit ")", .lit "]", .lit ", ", .lit "-1", .lit ": ",
            .lit "2(", .lit "\"\"_", .lit ")", .lit "}"] := by
  rfl

/-- concrete evaluations (tests, not the general claim): a definite array with an extreme
    declared length renders its head, reports the end of input inline and stops. -/
theorem display_examples :
    display [0x9a, 0x00, 0x01, 0x86, 0xa0] = some [.lit "[", .lit " !!! decoding error: ", .errmsg .eoi] ∧
    display [0x82, 0x01, 0x02] = some [.lit "[", .lit "1", .lit ", ", .lit "2", .lit "]"] := by
  exact ⟨by decide, rfl⟩

end Minicbor.C19
