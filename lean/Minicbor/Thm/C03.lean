/-
  C03 — Encoder output is well-formed, deterministic, shortest-form CBOR.
  `head maj n` is the RFC 8949 preferred (shortest) head and `encPref` the preferred
  definite-length serialisation of a data-model value (Wire.lean).
  Here: the `Encoder` methods one by one (`simple` only outside 20..=31: known finding K1) and
  ArrayIter/MapIter.
-/
import Minicbor.Wire
import Minicbor.Encoder

/- The `*_pref` theorems carry the range of the Rust argument type as a hypothesis.  For the 64-bit
   methods and `type_len` the equality holds for every `Nat` (`typeLen_eq_head`, `u64_eq_head`,
   `negArms_eq_head`), so there the hypothesis only records what the method is called with. -/
set_option linter.unusedVariables false

namespace Minicbor.C03

def intItem (x : Int) : Item := if x ≥ 0 then .uint x.toNat else .nint (-1 - x).toNat

theorem be_one (n : Nat) : be 1 n = [u8 n] := by simp [be]

/-- `prefWidth` with its cut-offs written the way the match arms of the `Encoder` methods write them. -/
theorem prefWidth_eq (n : Nat) : prefWidth n =
    if n ≤ 0x17 then .w0 else if n ≤ 0xff then .w1 else if n ≤ 0xffff then .w2
    else if n ≤ 0xffffffff then .w4 else .w8 := by
  simp only [prefWidth, Nat.lt_succ_iff]

/-- The arms of `type_len` are the five widths of the preferred head.  Every other head the
    `Encoder` writes is an instance: the integer methods are `type_len` cut off at their width. -/
theorem typeLen_eq_head (maj n : Nat) : Enc.typeLen (maj * 32) n = head maj n := by
  unfold Enc.typeLen head
  rw [prefWidth_eq]
  repeat' split
  case isFalse.isTrue => exact congrArg _ (be_one n).symm
  all_goals rfl

theorem typeLen_pref (maj n : Nat) (_hm : maj < 8) (h : n < 18446744073709551616) :
    Enc.typeLen (maj * 32) n = head maj n :=
  typeLen_eq_head maj n

theorem u64_eq_head (x : Nat) : Enc.u64 x = head 0 x := by
  rw [← typeLen_eq_head]
  simp only [Enc.u64, Enc.typeLen, Nat.zero_mul, Nat.zero_add]; rfl

theorem negArms_eq_head (n : Nat) : Enc.negArms n = head 1 n := typeLen_eq_head 1 n

/-! The narrower methods have the arms of the 64-bit one up to their width: `e.u8(x)` = `e.u64(x as u64)`. -/

theorem u8_eq_u64 (x : Nat) (h : x ≤ 0xff) : Enc.u8 x = Enc.u64 x := by
  simp only [Enc.u8, Enc.u64, h, if_true]

theorem u16_eq_u64 (x : Nat) (h : x ≤ 0xffff) : Enc.u16 x = Enc.u64 x := by
  simp only [Enc.u16, Enc.u64, h, if_true]

theorem u32_eq_u64 (x : Nat) (h : x ≤ 0xffffffff) : Enc.u32 x = Enc.u64 x := by
  simp only [Enc.u32, Enc.u64, h, if_true]

theorem i8_eq_i64 (x : Int) (h : -128 ≤ x ∧ x ≤ 127) : Enc.i8 x = Enc.i64 x := by
  unfold Enc.i8 Enc.i64
  split
  · exact u8_eq_u64 _ (by omega)
  · simp only [Enc.negArms, show (-1 - x).toNat ≤ 0xff by omega, if_true]

theorem i16_eq_i64 (x : Int) (h : -32768 ≤ x ∧ x ≤ 32767) : Enc.i16 x = Enc.i64 x := by
  unfold Enc.i16 Enc.i64
  split
  · exact u16_eq_u64 _ (by omega)
  · simp only [Enc.negArms, show (-1 - x).toNat ≤ 0xffff by omega, if_true]

theorem i32_eq_i64 (x : Int) (h : -2147483648 ≤ x ∧ x ≤ 2147483647) : Enc.i32 x = Enc.i64 x := by
  unfold Enc.i32 Enc.i64
  split
  · exact u32_eq_u64 _ (by omega)
  · simp only [Enc.negArms, show (-1 - x).toNat ≤ 0xffffffff by omega, if_true]

theorem u64_pref (x : Nat) (h : x < 18446744073709551616) : Enc.u64 x = encPref (.uint x) :=
  u64_eq_head x

theorem u32_pref (x : Nat) (h : x < 4294967296) : Enc.u32 x = encPref (.uint x) := by
  rw [u32_eq_u64 x (by omega)]; exact u64_eq_head x

theorem u16_pref (x : Nat) (h : x < 65536) : Enc.u16 x = encPref (.uint x) := by
  rw [u16_eq_u64 x (by omega)]; exact u64_eq_head x

theorem u8_pref (x : Nat) (h : x < 256) : Enc.u8 x = encPref (.uint x) := by
  rw [u8_eq_u64 x (by omega)]; exact u64_eq_head x

theorem negArms_pref (n : Nat) (h : n < 18446744073709551616) : Enc.negArms n = encPref (.nint n) :=
  negArms_eq_head n

theorem i64_pref (x : Int) (h : -9223372036854775808 ≤ x ∧ x ≤ 9223372036854775807) :
    Enc.i64 x = encPref (intItem x) := by
  unfold Enc.i64 intItem
  split
  · exact u64_eq_head _
  · exact negArms_eq_head _

theorem i32_pref (x : Int) (h : -2147483648 ≤ x ∧ x ≤ 2147483647) : Enc.i32 x = encPref (intItem x) := by
  rw [i32_eq_i64 x h]; exact i64_pref x (by omega)

theorem i16_pref (x : Int) (h : -32768 ≤ x ∧ x ≤ 32767) : Enc.i16 x = encPref (intItem x) := by
  rw [i16_eq_i64 x h]; exact i64_pref x (by omega)

theorem i8_pref (x : Int) (h : -128 ≤ x ∧ x ≤ 127) : Enc.i8 x = encPref (intItem x) := by
  rw [i8_eq_i64 x h]; exact i64_pref x (by omega)

/-- `Encoder::int`: `Int` = (neg, val) with `val < 2^64` covers `[-2^64, 2^64 - 1]`. -/
theorem int_pref (neg : Bool) (v : Nat) (h : v < 18446744073709551616) :
    Enc.int neg v = encPref (if neg then .nint v else .uint v) := by
  cases neg
  · exact u64_eq_head v
  · exact negArms_eq_head v

theorem tag_pref (n : Nat) (h : n < 18446744073709551616) : Enc.tag n = head 6 n :=
  typeLen_eq_head 6 n
theorem array_pref (n : Nat) (h : n < 18446744073709551616) : Enc.array n = head 4 n :=
  typeLen_eq_head 4 n
theorem map_pref (n : Nat) (h : n < 18446744073709551616) : Enc.map n = head 5 n :=
  typeLen_eq_head 5 n

theorem bytes_pref (b : Bytes) (h : b.length < 18446744073709551616) :
    Enc.bytes b = encPref (.bytes b) :=
  congrArg (· ++ b) (typeLen_eq_head 2 b.length)

theorem str_pref (b : Bytes) (h : b.length < 18446744073709551616) :
    Enc.str b = encPref (.text b) :=
  congrArg (· ++ b) (typeLen_eq_head 3 b.length)

theorem char_pref (c : Nat) (h : c < 4294967296) : Enc.char c = encPref (.uint c) := u32_pref c h

theorem bool_pref (x : Bool) : Enc.bool x = encPref (.simple (if x then 21 else 20)) := by
  cases x <;> rfl
theorem null_pref : Enc.null = encPref (.simple 22) := rfl
theorem undefined_pref : Enc.undefined = encPref (.simple 23) := rfl
theorem f32_pref (b : Nat) : Enc.f32 b = encPref (.f32 b) := rfl
theorem f64_pref (b : Nat) : Enc.f64 b = encPref (.f64 b) := rfl
theorem f16_pref (b : Nat) : Enc.f16 b = encPref (.f16 (f32ToF16 b)) := rfl

/-- full-strength statement for `Encoder::simple`; false on the code as it is (K1). -/
def simple_statement : Prop := ∀ x, x < 256 → Enc.simple x = encPref (.simple x)

/-- `Encoder::simple` is correct outside 20..=31. -/
theorem simple_pref_partial (x : Nat) (hx : x < 256) (h : x < 20 ∨ 32 ≤ x) :
    Enc.simple x = encPref (.simple x) ∧ (WItem.simple x).Valid := by
  have he : encPref (.simple x) = if x < 24 then [u8 (0xe0 + x)] else [0xf8, u8 x] := rfl
  have hv : (WItem.simple x).Valid ↔ (x < 24 ∨ 32 ≤ x ∧ x < 256) := by
    simp [WItem.Valid, WItem.valid]
  rw [he, hv, Enc.simple]
  rcases h with h | h
  · exact ⟨by rw [if_pos h, if_pos (by omega)]; rfl, .inl (by omega)⟩
  · exact ⟨by rw [if_neg (by omega), if_neg (by omega)]; rfl, .inr ⟨h, hx⟩⟩

/-- `Encoder::simple` is wrong inside 20..=31 (known finding K1): `simple(20)` writes `f8 14`, which RFC 8949 §3.3
    declares not well-formed; the one-byte form `f4` is the only encoding of simple value 20. -/
theorem simple_counterexample : ¬ simple_statement := by
  intro h
  have := h 20 (by decide)
  revert this
  decide

/-- the bytes of `simple 24..31` are not the encoding of any valid simple item either. -/
theorem simple_reserved_invalid (x : Nat) (h : 24 ≤ x ∧ x < 32) : ¬ (WItem.simple x).Valid := by
  simp [WItem.Valid, WItem.valid]; omega

theorem array_denote (xs : List Item) (h : xs.length < 18446744073709551616) :
    Enc.array xs.length ++ encPrefs xs = encPref (.array xs) := by
  rw [array_pref _ h]
  show _ = headW 4 (prefWidth xs.length) (prefTrees xs).length ++ encPrefs xs
  rw [prefTrees_length]; rfl

theorem map_denote (kvs : List Item) (h : kvs.length / 2 < 18446744073709551616) :
    Enc.map (kvs.length / 2) ++ encPrefs kvs = encPref (.map kvs) := by
  rw [map_pref _ h]
  show _ = headW 5 (prefWidth (kvs.length / 2)) ((prefTrees kvs).length / 2) ++ encPrefs kvs
  rw [prefTrees_length]; rfl

theorem tag_denote (n : Nat) (x : Item) (h : n < 18446744073709551616) :
    Enc.tag n ++ encPref x = encPref (.tag n x) :=
  congrArg (· ++ encPref x) (tag_pref n h)

mutual
theorem value_prefTree : ∀ i : Item, value (prefTree i) = i
  | .uint _ | .nint _ | .bytes _ | .text _ | .simple _ | .f16 _ | .f32 _ | .f64 _ => rfl
  | .array xs => congrArg Item.array (values_prefTrees xs)
  | .map kvs => congrArg Item.map (values_prefTrees kvs)
  | .tag n x => congrArg (Item.tag n) (value_prefTree x)
theorem values_prefTrees : ∀ is : List Item, values (prefTrees is) = is
  | [] => rfl
  | x :: xs => congr (congrArg List.cons (value_prefTree x)) (values_prefTrees xs)
end

theorem encWs_eq_flatten (ws : List WItem) : encWs ws = (ws.map encW).flatten := by
  induction ws with
  | nil => rfl
  | cons w ws ih => rw [List.map_cons, List.flatten_cons, ← ih]; rfl

/-- `ArrayIter` / `MapIter`: whatever the size hint, the output is exactly one well-formed
    array / map of the items written — definite with the shortest head when the hint is exact,
    indefinite with a break otherwise. -/
theorem arrayIter_wellformed (exact : Bool) (ws : List WItem) (hv : validAll ws = true)
    (hl : ws.length < 18446744073709551616) :
    ∃ w, w.Valid ∧ Enc.arrayIter exact (ws.map encW) = encW w ∧ value w = .array (values ws) := by
  cases exact
  · refine ⟨.arrayI ws, hv, ?_, rfl⟩
    rw [Enc.arrayIter, if_neg Bool.false_ne_true, ← encWs_eq_flatten]; rfl
  · refine ⟨.array (prefWidth ws.length) ws, ?_, ?_, rfl⟩
    · exact Bool.and_eq_true_iff.2 ⟨prefWidth_fits _ hl, hv⟩
    · rw [Enc.arrayIter, if_pos rfl, List.length_map, ← encWs_eq_flatten, array_pref _ hl]; rfl

theorem mapIter_wellformed (exact : Bool) (kvs : List WItem) (hv : validAll kvs = true)
    (he : kvs.length % 2 = 0) (hl : kvs.length / 2 < 18446744073709551616) :
    ∃ w, w.Valid ∧ Enc.mapIter exact (kvs.map encW) = encW w ∧ value w = .map (values kvs) := by
  have he' : (kvs.length % 2 == 0) = true := beq_iff_eq.2 he
  cases exact
  · refine ⟨.mapI kvs, ?_, ?_, rfl⟩
    · exact Bool.and_eq_true_iff.2 ⟨he', hv⟩
    · rw [Enc.mapIter, if_neg Bool.false_ne_true, ← encWs_eq_flatten]; rfl
  · refine ⟨.map (prefWidth (kvs.length / 2)) kvs, ?_, ?_, rfl⟩
    · exact Bool.and_eq_true_iff.2 ⟨Bool.and_eq_true_iff.2 ⟨he', prefWidth_fits _ hl⟩, hv⟩
    · rw [Enc.mapIter, if_pos rfl, List.length_map, ← encWs_eq_flatten, map_pref _ hl]; rfl

/-- all that determinism can say of the model: every `Enc` method is a Lean function.  That the
    Rust methods read no other state is part of what the correspondence check tests. -/
theorem deterministic (f : α → Bytes) (a b : α) (h : a = b) : f a = f b := by rw [h]

/-- non-vacuity: a value at each width boundary. -/
example : Enc.u64 4294967296 = [0x1b, 0, 0, 0, 1, 0, 0, 0, 0] := by decide
example : Enc.i64 (-4294967297) = [0x3b, 0, 0, 0, 1, 0, 0, 0, 0] := by decide

end Minicbor.C03
