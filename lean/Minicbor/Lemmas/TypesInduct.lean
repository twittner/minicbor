/-
  An induction principle for successful runs of the built-in `Encode` model: one premise per impl (`encodeT` arm
  that returns `some`), one per step of the three element loops.  C01 (round trip), C03 (preferred serialisation)
  and C07 (length) are each one application of it.  Their side conditions all say that a node predicate `p` holds
  at every node of the type (`Ty.all p`), and the principle carries `p` along: the conclusion assumes `Ty.all p t`,
  the induction hypotheses come already discharged, and a premise is handed `p` at its own node where some
  client's `p` says something there (`Option`, `Tag`, `Tagged`, tuples, records, enums).

  The `case caseN` tags in the proof follow the clause order of `encodeT` / `encodeMap` / `encodeTup` /
  `encodeList` in Types.lean: a clause added there needs its premise here, and the tags renumbered.
-/
import Minicbor.Lemmas.TypesPred

namespace Minicbor

/-- `Duration` / `SystemTime` payload (the `Encode` impls write `[secs, subsec_nanos]`). -/
def Enc.secsNanos (s n : Int) : Bytes := Enc.array 2 ++ Enc.u64 s.toNat ++ Enc.u32 n.toNat

theorem encodeT_ok_induct (p : Ty → Bool)
    {P1 : Ty → Val → Bytes → Prop}          -- encodeT t v = some bs
    {P2 : Ty → Ty → List Val → Bytes → Prop} -- encodeMap k v kvs = some bs
    {P3 : List Ty → List Val → Bytes → Prop} -- encodeTup ts vs = some bs
    {P4 : Ty → List Val → Bytes → Prop}      -- encodeList t vs = some bs
    (int : ∀ (k : IntKind) (v : Int), k.inRange v = true → P1 (.int k) (.int v) (k.enc v))
    (bool : ∀ b : Bool, P1 .bool (.bool b) (Enc.bool b))
    (char : ∀ v : Int, 0 ≤ v → isScalar v.toNat = true → P1 .char (.int v) (Enc.char v.toNat))
    (f32 : ∀ b : Nat, b < 4294967296 → P1 .f32 (.float b) (Enc.f32 b))
    (f64 : ∀ b : Nat, b < 18446744073709551616 → P1 .f64 (.float b) (Enc.f64 b))
    (str : ∀ b : Bytes, validUtf8 b = true → P1 .str (.str b) (Enc.str b))
    (bytes : ∀ b : Bytes, P1 .bytes (.bytes b) (Enc.bytes b))
    (barr : ∀ b : Bytes, P1 (.barr b.length) (.bytes b) (Enc.bytes b))
    (cstr : ∀ b : Bytes, b.all (· != 0) = true → P1 .cstr (.bytes b) (Enc.bytes (b ++ [0])))
    (unit : P1 .unit .unit (Enc.array 0))
    (skipUnit : P1 .skipUnit .unit (Enc.array 0))
    (optNone : ∀ t : Ty, P1 (.opt t) .none Enc.null)
    (optSome : ∀ (t : Ty) (v : Val) (bs : Bytes), p (.opt t) = true → encodeT t v = some bs → P1 t v bs →
      P1 (.opt t) (.some v) bs)
    (seq : ∀ (t : Ty) (vs : List Val) (b : Bytes), encodeList t vs = some b → P4 t vs b →
      P1 (.seq t) (.list vs) (Enc.array vs.length ++ b))
    (arr : ∀ (t : Ty) (vs : List Val) (b : Bytes), encodeList t vs = some b → P4 t vs b →
      P1 (.arr vs.length t) (.list vs) (Enc.array vs.length ++ b))
    (tup : ∀ (ts : List Ty) (vs : List Val) (b : Bytes), p (.tup ts) = true → encodeTup ts vs = some b → P3 ts vs b →
      P1 (.tup ts) (.list vs) (Enc.array ts.length ++ b))
    (map : ∀ (k v : Ty) (kvs : List Val) (b : Bytes), encodeMap k v kvs = some b → P2 k v kvs b →
      P1 (.map k v) (.map kvs) (Enc.map (kvs.length / 2) ++ b))
    (nz : ∀ (k : IntKind) (v : Int), k.inRange v = true → v ≠ 0 → P1 (.nz k) (.int v) (k.enc v))
    (tag : ∀ v : Int, p .tag = true → 0 ≤ v → v ≤ 18446744073709551615 → P1 .tag (.int v) (Enc.tag v.toNat))
    (tagged : ∀ (n : Nat) (t : Ty) (v : Val) (b : Bytes), p (.tagged n t) = true → encodeT t v = some b → P1 t v b →
      P1 (.tagged n t) (.tagged v) (Enc.tag n ++ b))
    (enum : ∀ (ts : List Ty) (i : Nat) (t : Ty) (v : Val) (b : Bytes), p (.enum ts) = true → ts[i]? = some t →
      encodeT t v = some b → P1 t v b → P1 (.enum ts) (.variant i v) (Enc.array 2 ++ Enc.u32 i ++ b))
    (fields : ∀ (ts : List Ty) (vs : List Val) (b : Bytes), p (.fields ts) = true → encodeTup ts vs = some b → P3 ts vs b →
      P1 (.fields ts) (.list vs) (Enc.array ts.length ++ b))
    (duration : ∀ s n : Int, 0 ≤ s → s ≤ 18446744073709551615 → 0 ≤ n → n < 1000000000 →
      P1 .duration (.list [.int s, .int n]) (Enc.secsNanos s n))
    (systime : ∀ s n : Int, 0 ≤ s → s ≤ 9223372036854775807 → 0 ≤ n → n < 1000000000 →
      P1 .systime (.list [.int s, .int n]) (Enc.secsNanos s n))
    (mapNil : ∀ k v : Ty, P2 k v [] [])
    (mapCons : ∀ (k v : Ty) (x y : Val) (rest : List Val) (a b c : Bytes),
      encodeT k x = some a → encodeT v y = some b → encodeMap k v rest = some c →
      P1 k x a → P1 v y b → P2 k v rest c → P2 k v (x :: y :: rest) (a ++ b ++ c))
    (tupNil : P3 [] [] [])
    (tupCons : ∀ (t : Ty) (ts : List Ty) (v : Val) (vs : List Val) (a b : Bytes),
      encodeT t v = some a → encodeTup ts vs = some b → P1 t v a → P3 ts vs b →
      P3 (t :: ts) (v :: vs) (a ++ b))
    (listNil : ∀ t : Ty, P4 t [] [])
    (listCons : ∀ (t : Ty) (v : Val) (vs : List Val) (a b : Bytes),
      encodeT t v = some a → encodeList t vs = some b → P1 t v a → P4 t vs b →
      P4 t (v :: vs) (a ++ b)) :
    (∀ t v bs, encodeT t v = some bs → Ty.all p t = true → P1 t v bs) ∧
    (∀ k v kvs bs, encodeMap k v kvs = some bs → Ty.all p k = true ∧ Ty.all p v = true → P2 k v kvs bs) ∧
    (∀ ts vs bs, encodeTup ts vs = some bs → Ty.allL p ts = true → P3 ts vs bs) ∧
    (∀ t vs bs, encodeList t vs = some bs → Ty.all p t = true → P4 t vs bs) := by
  apply encodeT.mutual_induct
    (motive_1 := fun t v => ∀ bs, encodeT t v = some bs → Ty.all p t = true → P1 t v bs)
    (motive_2 := fun k v kvs => ∀ bs, encodeMap k v kvs = some bs → Ty.all p k = true ∧ Ty.all p v = true →
      P2 k v kvs bs)
    (motive_3 := fun ts vs => ∀ bs, encodeTup ts vs = some bs → Ty.allL p ts = true → P3 ts vs bs)
    (motive_4 := fun t vs => ∀ bs, encodeList t vs = some bs → Ty.all p t = true → P4 t vs bs)
  all_goals intros
  all_goals (rename_i h hp; simp [encodeT, encodeList, encodeTup, encodeMap, Option.bind_eq_some_iff, *] at h)
  all_goals try simp only [Ty.all, Ty.allL, Bool.and_eq_true] at hp
  case case1 => rename_i hr _; subst h; exact int _ _ hr
  case case3 => subst h; exact bool _
  case case4 =>
    rename_i hr _; subst h
    simp only [Bool.and_eq_true, decide_eq_true_eq] at hr
    exact char _ hr.1 hr.2
  case case6 => rename_i hr _; subst h; exact f32 _ hr
  case case8 => rename_i hr _; subst h; exact f64 _ hr
  case case10 => rename_i hr _; subst h; exact str _ hr
  case case12 => subst h; exact bytes _
  case case13 => subst h; exact barr _
  case case15 => rename_i hr _; subst h; exact cstr _ hr
  case case17 => subst h; exact unit
  case case18 => subst h; exact skipUnit
  case case19 => subst h; exact optNone _
  case case20 => rename_i ih _; exact optSome _ _ _ hp.1 h (ih _ h hp.2)
  case case21 => rename_i ih _; obtain ⟨a, ha, rfl⟩ := h; exact seq _ _ _ ha (ih _ ha hp.2)
  case case22 => rename_i ih _; obtain ⟨a, ha, rfl⟩ := h; exact arr _ _ _ ha (ih _ ha hp.2)
  case case24 => rename_i ih _; obtain ⟨a, ha, rfl⟩ := h; exact tup _ _ _ hp.1 ha (ih _ ha hp.2)
  case case25 => rename_i ih _; obtain ⟨a, ha, rfl⟩ := h; exact map _ _ _ _ ha (ih _ ha ⟨hp.1.2, hp.2⟩)
  case case26 =>
    rename_i hr _; subst h
    simp only [Bool.and_eq_true, bne_iff_ne, ne_eq] at hr
    exact nz _ _ hr.1 hr.2
  case case28 =>
    rename_i hr _; subst h
    simp only [Bool.and_eq_true, decide_eq_true_eq] at hr
    exact tag _ hp hr.1 hr.2
  case case30 => rename_i ih _; obtain ⟨a, ha, rfl⟩ := h; exact tagged _ _ _ _ hp.1 ha (ih _ ha hp.2)
  case case31 =>
    rename_i hx ih _; obtain ⟨a, ha, rfl⟩ := h
    rw [← List.append_assoc]; exact enum _ _ _ _ _ hp.1 hx ha (ih _ ha (Ty.allL_get _ _ _ _ hp.2 hx))
  case case33 => rename_i ih _; obtain ⟨a, ha, rfl⟩ := h; exact fields _ _ _ hp.1 ha (ih _ ha hp.2)
  case case34 =>
    rename_i hr _; subst h
    simp only [Bool.and_eq_true, decide_eq_true_eq] at hr
    rw [← List.append_assoc]; exact duration _ _ hr.1.1.1 hr.1.1.2 hr.1.2 hr.2
  case case36 =>
    rename_i hr _; subst h
    simp only [Bool.and_eq_true, decide_eq_true_eq] at hr
    rw [← List.append_assoc]; exact systime _ _ hr.1.1.1 hr.1.1.2 hr.1.2 hr.2
  case case39 => subst h; exact mapNil _ _
  case case40 =>
    rename_i ih3 ih2 ih1 _
    obtain ⟨a, ha, b, hb, c, hc, rfl⟩ := h
    rw [← List.append_assoc]
    exact mapCons _ _ _ _ _ _ _ _ ha hb hc (ih3 _ ha hp.1) (ih2 _ hb hp.2) (ih1 _ hc hp)
  case case42 => subst h; exact tupNil
  case case43 =>
    rename_i ih2 ih1 _
    obtain ⟨a, ha, b, hb, rfl⟩ := h
    exact tupCons _ _ _ _ _ _ ha hb (ih2 _ ha hp.1) (ih1 _ hb hp.2)
  case case45 => subst h; exact listNil _
  case case46 =>
    rename_i ih2 ih1 _
    obtain ⟨a, ha, b, hb, rfl⟩ := h
    exact listCons _ _ _ _ _ ha hb (ih2 _ ha hp) (ih1 _ hb hp)

theorem encodeT_ok_unconditional
    {P1 : Ty → Val → Bytes → Prop} {P2 : Ty → Ty → List Val → Bytes → Prop}
    {P3 : List Ty → List Val → Bytes → Prop} {P4 : Ty → List Val → Bytes → Prop}
    (h : (∀ t v bs, encodeT t v = some bs → Ty.all (fun _ => true) t = true → P1 t v bs) ∧
      (∀ k v kvs bs, encodeMap k v kvs = some bs →
        Ty.all (fun _ => true) k = true ∧ Ty.all (fun _ => true) v = true → P2 k v kvs bs) ∧
      (∀ ts vs bs, encodeTup ts vs = some bs → Ty.allL (fun _ => true) ts = true → P3 ts vs bs) ∧
      (∀ t vs bs, encodeList t vs = some bs → Ty.all (fun _ => true) t = true → P4 t vs bs)) :
    (∀ t v bs, encodeT t v = some bs → P1 t v bs) ∧
    (∀ k v kvs bs, encodeMap k v kvs = some bs → P2 k v kvs bs) ∧
    (∀ ts vs bs, encodeTup ts vs = some bs → P3 ts vs bs) ∧
    (∀ t vs bs, encodeList t vs = some bs → P4 t vs bs) :=
  ⟨fun t v bs e => h.1 t v bs e (Ty.all_true t),
   fun k v kvs bs e => h.2.1 k v kvs bs e ⟨Ty.all_true k, Ty.all_true v⟩,
   fun ts vs bs e => h.2.2.1 ts vs bs e (Ty.allL_true ts),
   fun t vs bs e => h.2.2.2 t vs bs e (Ty.all_true t)⟩

end Minicbor
