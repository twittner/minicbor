/-
  Lemmas for C17 / C18.  The integer kinds of the bridge: which kind `Decoder::datatype` reports on an
  integer head (what serde's `Content` buffer records), and reading back what `serialize_u8 … i64`,
  `serialize_char` and the tuple / unit headers wrote, on top of Lemmas/ReadsLeaf.lean.  The access loops:
  `ReadsList` (Lemmas/Reads.lean) on `seqAccess`, and two derivations of the same kind, `ReadsPairs` for `mapAccess`
  and `Run` for the loops with a state.  Then ordered-map insertion and `skip`.
-/
import Minicbor.Serde
import Minicbor.Wire
import Minicbor.Thm.C03
import Minicbor.Thm.C04
import Minicbor.Thm.C05
import Minicbor.Lemmas.ItemStart
import Minicbor.Lemmas.ReadsLeaf
import Minicbor.Lemmas.SkipExact

namespace Minicbor.Serde
open Minicbor.Dec

abbrev U64 : Nat := 18446744073709551616

/-- the integer kind `Decoder::datatype` chooses for an unsigned / a negative integer head. -/
def uintKind : Width → IntKind
  | .w0 => .u8 | .w1 => .u8 | .w2 => .u16 | .w4 => .u32 | .w8 => .u64

def nintKind (w : Width) (n : Nat) : IntKind :=
  match w with
  | .w0 => .i8
  | .w1 => if n < 128 then .i8 else .i16
  | .w2 => if n < 32768 then .i16 else .i32
  | .w4 => if n < 2147483648 then .i32 else .i64
  | .w8 => .i64

def IntKind.cty : IntKind → CType
  | .u8 => .u8 | .u16 => .u16 | .u32 => .u32 | .u64 => .u64
  | .i8 => .i8 | .i16 => .i16 | .i32 => .i32 | .i64 => .i64

/-- a negative integer below `-2^63`: `Type::Int`, which the bridge's `deserialize_any` rejects ("unexpected type"). -/
def nintBig (w : Width) (n : Nat) : Bool := w == .w8 && decide (9223372036854775808 ≤ n)

theorem nintType_eq (w : Width) (n : Nat) :
    nintType w n = if nintBig w n then .int else (nintKind w n).cty := by
  cases w <;> simp only [nintType, nintBig, nintKind]
  · rfl
  all_goals split <;> simp [IntKind.cty] <;> omega

theorem headType_uint (w : Width) (n : Nat) (hf : w.fits n = true) : headType 0 (w.ai n) = (uintKind w).cty := by
  cases w <;> simp [Width.fits] at hf <;> simp [headType, Width.ai, uintKind, IntKind.cty]; omega

theorem kind_max (k : IntKind) : k.ty.max < U64 := by cases k <;> decide

theorem kind_bounds (k : IntKind) : -9223372036854775808 ≤ k.lo ∧ k.hi < 18446744073709551616 := by
  cases k <;> decide

theorem encInt_pref (k : IntKind) (v : Int) (h1 : k.lo ≤ v) (h2 : v ≤ k.hi) : encInt k v = encPref (C03.intItem v) := by
  have hu : 0 ≤ v → encPref (C03.intItem v) = encPref (.uint v.toNat) := fun h => by simp [C03.intItem, h]
  cases k
  case i8 => exact C03.i8_pref v ⟨h1, h2⟩
  case i16 => exact C03.i16_pref v ⟨h1, h2⟩
  case i32 => exact C03.i32_pref v ⟨h1, h2⟩
  case i64 => exact C03.i64_pref v ⟨h1, h2⟩
  case u8 => rw [hu h1]; exact C03.u8_pref _ (by have : v ≤ 255 := h2; omega)
  case u16 => rw [hu h1]; exact C03.u16_pref _ (by have : v ≤ 65535 := h2; omega)
  case u32 => rw [hu h1]; exact C03.u32_pref _ (by have : v ≤ 4294967295 := h2; omega)
  case u64 => rw [hu h1]; exact C03.u64_pref _ (by have : v ≤ 18446744073709551615 := h2; omega)

theorem int_rt (k : IntKind) (v : Int) (h1 : k.lo ≤ v) (h2 : v ≤ k.hi) : Reads (intAcc k.ty) (encInt k v) v :=
  encInt_pref k v h1 h2 ▸ Reads.int k.ty v h1 h2 (kind_max k)

theorem char_rt (c : Nat) (h : isScalar c = true) : Reads Dec.char (Enc.char c) c := fun rest => by
  have hc : c < 4294967296 := by simp [isScalar] at h; omega
  have := int_rt .u32 (c : Int) (Int.natCast_nonneg c) (show (c : Int) ≤ 4294967295 by omega) rest
  simp only [encInt, Int.toNat_natCast, IntKind.ty] at this
  simp [Dec.char, Enc.char, Dec.bind_run, this, h]

theorem tupleHeader_rt (n : Nat) (h : n < U64) : Reads (tupleHeader n) (Enc.array n) () := by
  refine (Reads.arrayHead n h).bind_nil ?_
  simp only [beq_self_eq_true, if_true]; exact Reads.ret ()

theorem deUnit_rt : Reads deUnit (Enc.array 0) () := tupleHeader_rt 0 (by decide)

theorem _root_.Minicbor.ReadsList.seqAccess_def {m : Dec β} {bs : Bytes} {ys : List β} (h : ReadsList m bs ys) :
    Reads (seqAccess m (some ys.length)) bs ys := h.counted (loop := Serde.repeatN m) rfl fun _ => rfl

theorem _root_.Minicbor.ReadsList.seqAccess_indef {m : Dec β} {bs : Bytes} {ys : List β} (h : ReadsList m bs ys) :
    Reads (seqAccess m none) (bs ++ [0xff]) ys := fun rest =>
  h.untilBreak (loop := Serde.untilBreak m) (fun _ => rfl) _ (by have := h.length_le; simp only [List.length_append]; omega) rest

theorem _root_.Minicbor.ReadsList.visit {m : Dec β} {bs : Bytes} {ys : List β} (h : ReadsList m bs ys) (g : List β → γ) :
    (ys.length < U64 →
      Reads (do let len ← Dec.array; let xs ← seqAccess m len; pure (g xs)) (Enc.array ys.length ++ bs) (g ys)) ∧
    Reads (do let len ← Dec.array; let xs ← seqAccess m len; pure (g xs)) (Enc.beginArray ++ (bs ++ Enc.end)) (g ys) :=
  ⟨fun hl => (Reads.arrayHead _ hl).bind (h.seqAccess_def.map g), Reads.beginArray.bind (h.seqAccess_indef.map g)⟩


inductive ReadsPairs (mk mv : Dec β) : Bytes → List β → Prop
  | nil : ReadsPairs mk mv [] []
  | cons {c d bs : Bytes} {x y : β} {ys : List β} : Reads mk c x → NoBrk c → Reads mv d y → ReadsPairs mk mv bs ys →
      ReadsPairs mk mv (c ++ (d ++ bs)) (x :: y :: ys)

theorem ReadsPairs.chunks {mk mv : Dec β} {bs : Bytes} {ys : List β} (h : ReadsPairs mk mv bs ys) :
    ∃ yss, ReadsList (pairM mk mv) bs yss ∧ yss.flatten = ys ∧ yss.length = ys.length / 2 := by
  induction h with
  | nil => exact ⟨[], .nil, rfl, by simp⟩
  | @cons c d bs x y ys hc hnb hd _ ih =>
    obtain ⟨yss, hl, hf, hn⟩ := ih
    refine ⟨[x, y] :: yss, ?_, by simp [hf], by simp [hn]; omega⟩
    rw [← List.append_assoc]
    exact .cons (hc.bind (hd.map _)) (hnb.append d) hl

theorem ReadsPairs.mapAccess_def {mk mv : Dec β} {bs : Bytes} {ys : List β} (h : ReadsPairs mk mv bs ys) :
    Reads (mapAccess mk mv (some (ys.length / 2))) bs ys := by
  obtain ⟨yss, hl, rfl, hn⟩ := h.chunks
  exact hn ▸ hl.seqAccess_def.map _

theorem ReadsPairs.mapAccess_indef {mk mv : Dec β} {bs : Bytes} {ys : List β} (h : ReadsPairs mk mv bs ys) :
    Reads (mapAccess mk mv none) (bs ++ [0xff]) ys := by
  obtain ⟨yss, hl, rfl, _⟩ := h.chunks
  exact hl.seqAccess_indef.map _

theorem ReadsPairs.even {mk mv : Dec β} {bs : Bytes} {ys : List β} (h : ReadsPairs mk mv bs ys) : ys.length % 2 = 0 := by
  induction h with
  | nil => rfl
  | cons _ _ _ _ ih => simp only [List.length_cons]; omega

inductive Run (step : σ → Dec σ) : Nat → σ → Bytes → σ → Prop
  | nil (s : σ) : Run step 0 s [] s
  | cons {n : Nat} {s s1 s' : σ} {c bs : Bytes} : Reads (step s) c s1 → NoBrk c → Run step n s1 bs s' →
      Run step (n + 1) s (c ++ bs) s'

theorem Run.length_le {step : σ → Dec σ} {n : Nat} {s s' : σ} {bs : Bytes} (h : Run step n s bs s') : n ≤ bs.length := by
  induction h with
  | nil => exact Nat.le_refl _
  | cons _ hnb _ ih =>
    have := hnb.length_pos
    simp only [List.length_append]; omega

theorem Run.trans {step : σ → Dec σ} {n n' : Nat} {s s1 s2 : σ} {bs bs' : Bytes} (h : Run step n s bs s1)
    (h' : Run step n' s1 bs' s2) : Run step (n + n') s (bs ++ bs') s2 := by
  induction h with
  | nil => simpa using h'
  | cons hc hnb _ ih =>
    rw [List.append_assoc, Nat.add_right_comm]
    exact .cons hc hnb (ih h')

theorem Run.one {step : σ → Dec σ} {s s' : σ} {c : Bytes} (h : Reads (step s) c s') (hnb : NoBrk c) : Run step 1 s c s' := by
  simpa using Run.cons h hnb (.nil s')

theorem Run.loopN {step : σ → Dec σ} {n : Nat} {s s' : σ} {bs : Bytes} (h : Run step n s bs s') :
    Reads (loopN step n s) bs s' := by
  induction h with
  | nil s => exact Reads.ret s
  | cons hc _ _ ih => exact hc.bind ih

theorem Run.loopI {step : σ → Dec σ} {n : Nat} {s s' : σ} {bs : Bytes} (h : Run step n s bs s') :
    ∀ fuel, n < fuel → Reads (loopI step fuel s) (bs ++ [0xff]) s' := by
  induction h with
  | nil =>
    intro fuel hf rest
    obtain ⟨f, rfl⟩ : ∃ f, fuel = f + 1 := ⟨fuel - 1, by omega⟩
    rfl
  | cons hc hnb _ ih =>
    intro fuel hf
    obtain ⟨f, rfl⟩ : ∃ f, fuel = f + 1 := ⟨fuel - 1, by omega⟩
    obtain ⟨b, hcur, hne⟩ := hnb.current
    unfold Serde.loopI
    rw [List.append_assoc]
    refine Reads.peek (hcur.append _) ?_
    simp only [hne, Bool.false_eq_true, if_false]
    exact hc.bind (ih f (by omega))

theorem Run.mapLoop_indef {step : σ → Dec σ} {n : Nat} {s s' : σ} {bs : Bytes} (h : Run step n s bs s') :
    Reads (mapLoop step none s) (bs ++ [0xff]) s' := fun rest =>
  h.loopI _ (by have := h.length_le; simp only [List.length_append]; omega) rest

def EachRt (m : Dec SVal) (xs : List SVal) : Prop := ∀ x ∈ xs, ∀ rest, m (ser x ++ rest) = .ok x rest

def NoBreak (xs : List SVal) : Prop := ∀ x ∈ xs, NoBrk (ser x)

theorem EachRt.readsList {m : Dec SVal} : (xs : List SVal) → EachRt m xs → NoBreak xs → ReadsList m (sers xs) xs
  | [], _, _ => .nil
  | x :: xs, h, hnb =>
    .cons (h x (by simp)) (hnb x (by simp))
      (EachRt.readsList xs (fun y hy => h y (by simp [hy])) (fun y hy => hnb y (by simp [hy])))

def PairsRt (mk mv : Dec SVal) : List SVal → Prop
  | k :: v :: rest =>
    (∀ r, mk (ser k ++ r) = .ok k r) ∧ (∀ r, mv (ser v ++ r) = .ok v r) ∧ PairsRt mk mv rest
  | [] => True
  | [_] => False

theorem PairsRt.readsPairs {mk mv : Dec SVal} : (kvs : List SVal) → PairsRt mk mv kvs → NoBreak kvs →
    ReadsPairs mk mv (sers kvs) kvs
  | [], _, _ => .nil
  | [_], h, _ => h.elim
  | k :: v :: kvs, h, hnb =>
    .cons h.1 (hnb k (by simp)) h.2.1 (PairsRt.readsPairs kvs h.2.2 (fun y hy => hnb y (by simp [hy])))

def chunk2 : List SVal → List (List SVal)
  | k :: v :: rest => [k, v] :: chunk2 rest
  | _ => []

theorem chunk2_length : (kvs : List SVal) → (chunk2 kvs).length = kvs.length / 2
  | [] => rfl
  | [_] => by simp [chunk2]
  | k :: v :: rest => by
    have := chunk2_length rest
    simp [chunk2, this]; omega

theorem lexLt_irrefl : (a : Bytes) → lexLt a a = false
  | [] => rfl
  | x :: xs => by simp [lexLt, lexLt_irrefl xs]

theorem lexLt_asymm : (a b : Bytes) → lexLt a b = true → lexLt b a = false
  | [], [], h => by simp [lexLt] at h
  | [], _ :: _, _ => rfl
  | _ :: _, [], h => by simp [lexLt] at h
  | x :: xs, y :: ys, h => by
    simp only [lexLt, Bool.or_eq_true, decide_eq_true_eq, Bool.and_eq_true, beq_iff_eq] at h
    simp only [lexLt, Bool.or_eq_false_iff, decide_eq_false_iff_not, Bool.and_eq_false_iff, beq_eq_false_iff_ne]
    rcases h with h | ⟨h1, h2⟩
    · have h' : x.toNat < y.toNat := h
      refine ⟨fun hc => ?_, Or.inl fun hc => ?_⟩
      · have : y.toNat < x.toNat := hc
        omega
      · rw [hc] at h'; omega
    · subst h1
      exact ⟨fun hc => by have : x.toNat < x.toNat := hc; omega, Or.inr (lexLt_asymm xs ys h2)⟩

theorem lexLt_ne (a b : Bytes) (h : lexLt a b = true) : (b == a) = false := by
  cases hb : b == a with
  | false => rfl
  | true =>
    have : b = a := by simpa using hb
    subst this
    rw [lexLt_irrefl] at h; cases h

theorem keyLt_asymm (a b : SVal) (h : keyLt a b = true) : keyEq b a = false ∧ keyLt b a = false := by
  unfold keyLt at h
  split at h
  · simp only [decide_eq_true_eq] at h
    exact ⟨by simp [keyEq]; omega, by simp [keyLt]; omega⟩
  · exact ⟨lexLt_ne _ _ h, lexLt_asymm _ _ h⟩
  · simp only [decide_eq_true_eq] at h
    exact ⟨by simp [keyEq]; omega, by simp [keyLt]; omega⟩
  · rename_i x y; cases x <;> cases y <;> simp_all [keyEq, keyLt]
  · cases h

def keysOf : List SVal → List SVal
  | k :: _ :: rest => k :: keysOf rest
  | _ => []

/-- strictly ascending under the key order (what iterating a `BTreeMap` yields). -/
def KeysAsc : List SVal → Prop
  | k :: _ :: rest => (∀ k' ∈ keysOf rest, keyLt k k' = true) ∧ KeysAsc rest
  | _ => True

theorem mapInsert_end (k v : SVal) : (acc : List SVal) → acc.length % 2 = 0 →
    (∀ k' ∈ keysOf acc, keyEq k k' = false ∧ keyLt k k' = false) → mapInsert k v acc = acc ++ [k, v]
  | [], _, _ => rfl
  | [_], h, _ => by simp at h
  | k' :: v' :: rest, hl, h => by
    have h1 := h k' (by simp [keysOf])
    have ih := mapInsert_end k v rest (by simp at hl; omega) (fun k'' hk => h k'' (by simp [keysOf, hk]))
    simp [mapInsert, h1.1, h1.2, ih]

theorem keysOf_append (a : List SVal) (k v : SVal) (h : a.length % 2 = 0) : keysOf (a ++ [k, v]) = keysOf a ++ [k] := by
  match a, h with
  | [], _ => rfl
  | [_], h => simp at h
  | x :: y :: rest, h =>
    have := keysOf_append rest k v (by simp at h; omega)
    simp [keysOf, this]

theorem mkMap_asc : (kvs : List SVal) → kvs.length % 2 = 0 → KeysAsc kvs → ∀ acc : List SVal, acc.length % 2 = 0 →
    (∀ a ∈ keysOf acc, ∀ b ∈ keysOf kvs, keyLt a b = true) → mkMap acc kvs = acc ++ kvs
  | [], _, _, acc, _, _ => by simp [mkMap]
  | [_], h, _, _, _, _ => by simp at h
  | k :: v :: rest, hl, hasc, acc, hacc, hlt => by
    have hins : mapInsert k v acc = acc ++ [k, v] :=
      mapInsert_end k v acc hacc (fun k' hk' => keyLt_asymm k' k (hlt k' hk' k (by simp [keysOf])))
    have ih := mkMap_asc rest (by simp at hl; omega) hasc.2 (acc ++ [k, v]) (by simp; omega) (by
      intro a ha b hb
      rw [keysOf_append acc k v hacc] at ha
      simp at ha
      rcases ha with ha | ha
      · exact hlt a ha b (by simp [keysOf, hb])
      · subst ha; exact hasc.1 b hb)
    simp [mkMap, hins, ih]

theorem mkMap_sorted (kvs : List SVal) (hl : kvs.length % 2 = 0) (h : KeysAsc kvs) : mkMap [] kvs = kvs := by
  have := mkMap_asc kvs hl h [] rfl (by intro a ha; simp [keysOf] at ha)
  simpa using this

theorem ReadsPairs.btree {mk mv : Dec SVal} {bs : Bytes} {kvs : List SVal} (h : ReadsPairs mk mv bs kvs) (hasc : KeysAsc kvs)
    (g : List SVal → SVal) :
    (kvs.length / 2 < U64 → Reads (do let len ← Dec.map; let es ← mapAccess mk mv len; pure (g (mkMap [] es)))
      (Enc.map (kvs.length / 2) ++ bs) (g kvs)) ∧
    Reads (do let len ← Dec.map; let es ← mapAccess mk mv len; pure (g (mkMap [] es))) (Enc.beginMap ++ (bs ++ Enc.end)) (g kvs) := by
  have hd := h.mapAccess_def.map fun es => g (mkMap [] es)
  have hi := h.mapAccess_indef.map fun es => g (mkMap [] es)
  rw [mkMap_sorted kvs h.even hasc] at hd hi
  exact ⟨fun hl => (Reads.mapHead _ hl).bind hd, Reads.beginMap.bind hi⟩

theorem skip_encW (w : WItem) (hv : w.valid = true) (hlen : (encW w).length < U64) : Reads skipItem (encW w) () :=
  fun rest => Dec.skip_encW w rest hv (by unfold U64MAX; unfold U64 at hlen; omega)

end Minicbor.Serde
