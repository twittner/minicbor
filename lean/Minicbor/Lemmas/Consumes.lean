/-
  What an action does to its input, on arbitrary bytes.  `Consumes m k`: whenever `m` succeeds it has consumed at
  least `k` bytes; `Keeps m`: whenever it succeeds it has consumed none (`current`, `datatype`).  `AtRules`: one
  induction per fuelled loop shows both that fuel above the length of the input is never exhausted and that any
  two such fuels give the same result.  As `*n -= 1` is never executed on a `Some(0)` (the `panic` arm of
  `skipPost` is dead), `skip` never panics (`Dec.skip_ne_panic`).
-/
import Minicbor.Lemmas.DecRules

namespace Minicbor.Dec

def Consumes (m : Dec α) (k : Nat) : Prop :=
  ∀ bs a r, m bs = .ok a r → r.length + k ≤ bs.length

namespace Consumes

theorem mono {m : Dec α} {j k : Nat} (h : Consumes m k) (hjk : j ≤ k) : Consumes m j := by
  intro bs a r e; have := h bs a r e; omega

theorem pure (a : α) : Consumes (Pure.pure a : Dec α) 0 := by
  intro bs a' r e; cases e; simp

theorem fail (e : Err) (k : Nat) : Consumes (Dec.fail e : Dec α) k := by
  intro bs a r h; cases h

theorem panic (k : Nat) : Consumes (Dec.panic : Dec α) k := by
  intro bs a r h; cases h

theorem read : Consumes Dec.read 1 := by
  intro bs a r h
  cases bs with
  | nil => cases h
  | cons b bs => cases h; simp

theorem current : Consumes Dec.current 0 := by
  intro bs a r h
  cases bs with
  | nil => cases h
  | cons b bs => cases h; simp

theorem peek : Consumes Dec.peek 0 := by
  intro bs a r h
  match bs with
  | [] => cases h
  | [_] => cases h
  | _ :: _ :: _ => cases h; simp

theorem remaining : Consumes Dec.remaining 0 := by
  intro bs a r h; cases h; simp

theorem readSlice (n : Nat) : Consumes (Dec.readSlice n) 0 := by
  intro bs a r h
  unfold Dec.readSlice at h
  split at h
  · cases h; simp
  · cases h

theorem bind {m : Dec α} {f : α → Dec β} {j k : Nat} (hm : Consumes m j)
    (hf : ∀ a, Consumes (f a) k) : Consumes (m >>= f) (j + k) := by
  intro bs b r h
  obtain ⟨a, r', h1, h2⟩ := bind_ok_inv h
  have := hm bs a r' h1
  have := hf a r' b r h2
  omega

/-- `ite_pres` with `Q` spelt out: the action is not the last argument of `Consumes`, so unification
    does not find it. -/
theorem ite {c : Prop} [Decidable c] {a b : Dec α} {k : Nat} (ha : Consumes a k) (hb : Consumes b k) :
    Consumes (if c then a else b) k :=
  ite_pres (Q := (Consumes · k)) ha hb

/-- the graded instance of the rules: the walks of Lemmas/DecRules.lean give `Consumes X 1` for every
    consuming accessor `X` (`Consumes datatype 0`), the string iterators and `skipArm`. -/
theorem rules : LoopRules (fun k => fun m _ => Consumes m k) :=
  .of_pred ⟨pure, fun k e => fail e k, read, current, peek, readSlice, bind, fun h => h.mono (Nat.le_succ _)⟩
    remaining panic

end Consumes

theorem Consumes.map_pure {m : Dec α} {g : α → β} {k : Nat} (hm : Consumes m k) :
    Consumes (m >>= fun a => (Pure.pure (g a) : Dec β)) k :=
  Consumes.rules.fmap g hm

theorem Consumes.intAcc (t : IntTy) : Consumes (Dec.intAcc t) 1 := Consumes.rules.intAcc t

theorem NoPanic.bytes : NoPanic Dec.bytes := NoPanic.rules.bytes
theorem NoPanic.str : NoPanic Dec.str := NoPanic.rules.str

theorem Consumes.chunkLoop (text : Bool) (fuel : Nat) : Consumes (Dec.chunkLoop text fuel) 0 :=
  Consumes.rules.chunkLoop text fuel fuel (Nat.le_refl _)

def Keeps (m : Dec α) : Prop := ∀ bs a r, m bs = .ok a r → r = bs

theorem Keeps.pure (a : α) : Keeps (Pure.pure a : Dec α) := by
  intro bs a' r h; cases h; rfl

theorem Keeps.peek : Keeps Dec.peek := by
  intro bs a r h
  match bs with
  | [] => cases h
  | [_] => cases h
  | _ :: _ :: _ => cases h; rfl

theorem Keeps.current : Keeps Dec.current := by
  intro bs a r h
  cases bs with
  | nil => cases h
  | cons b tl => cases h; rfl

theorem Keeps.bind {m : Dec α} {f : α → Dec β} (hm : Keeps m) (hf : ∀ a, Keeps (f a)) :
    Keeps (m >>= f) := by
  intro bs b r h
  obtain ⟨a, r', h1, h2⟩ := bind_ok_inv h
  cases hm bs a r' h1
  exact hf a _ b r h2

theorem Keeps.typeOf (b : UInt8) : Keeps (Dec.typeOf b) := by
  unfold Dec.typeOf
  repeat' first
    | apply ite_pres | exact Keeps.pure _ | exact Keeps.bind Keeps.peek fun _ => Keeps.pure _

theorem Keeps.datatype : Keeps Dec.datatype := by
  unfold Dec.datatype
  exact Keeps.bind Keeps.current Keeps.typeOf

theorem NoPanic.withRemaining {loop : Nat → Dec α} {c : Nat} (hc : 0 < c)
    (h : ∀ fuel bs, bs.length < fuel → loop fuel bs ≠ .panic) :
    NoPanic (Dec.remaining >>= fun r => loop (r.length + c)) :=
  fun bs => h _ bs (Nat.lt_add_of_pos_right hc)

/-- `S m m' bs` relates the outcomes of two actions on one input `bs`.  The rules are pointwise: `bind` hands the
    continuation the input that `m` left, so a proof can follow the input getting shorter, which
    `Rules`/`LoopRules` cannot.  Instances: "`m` does not panic on `bs`" (`AtRules.nePanic`) and "`m` and `m'`
    agree on `bs`" (`AtRules.agree`), so that one induction per loop shows its fuel adequate and irrelevant. -/
structure AtRules (S : ∀ {α : Type}, Dec α → Dec α → Bytes → Prop) : Prop where
  bind : ∀ {α β : Type} {m m' : Dec α} {f g : α → Dec β} {bs : Bytes},
    S m m' bs → (∀ a r, m bs = .ok a r → S (f a) (g a) r) → S (m >>= f) (m' >>= g) bs
  of_noPanic : ∀ {α : Type} {m : Dec α}, NoPanic m → ∀ bs, S m m bs

theorem AtRules.nePanic : AtRules (fun m _ bs => m bs ≠ .panic) :=
  ⟨bind_ne_panic, fun h bs => h bs⟩

theorem AtRules.agree : AtRules (fun m m' bs => m bs = m' bs) := by
  refine ⟨fun {_ _ m m' f g bs} hm hf => ?_, fun _ _ => rfl⟩
  rw [Dec.bind_run, Dec.bind_run, ← hm]
  cases hmb : m bs with
  | ok a r => exact hf a r hmb
  | err e r => rfl
  | panic => rfl

theorem AtRules.chunkLoop {S : ∀ {α : Type}, Dec α → Dec α → Bytes → Prop} (h : AtRules S) (text : Bool) :
    ∀ f1 f2 bs, bs.length < f1 → bs.length < f2 → S (Dec.chunkLoop text f1) (Dec.chunkLoop text f2) bs
  | 0, _, _, h1, _ => absurd h1 (Nat.not_lt_zero _)
  | _ + 1, 0, _, _, h2 => absurd h2 (Nat.not_lt_zero _)
  | f1 + 1, f2 + 1, bs, h1, h2 => h.bind (h.of_noPanic NoPanic.current bs) fun b r hb => by
      cases Keeps.current bs b r hb
      split
      · exact h.of_noPanic (NoPanic.rules.fmap (k := 1) _ NoPanic.read) bs
      · refine h.bind (h.of_noPanic (NoPanic.rules.chunk text) bs) fun c r' hc => ?_
        have := Consumes.rules.chunk text bs c r' hc
        exact h.bind (chunkLoop h text f1 f2 r' (by omega) (by omega)) fun _ _ _ => h.of_noPanic (NoPanic.pure _) _

theorem chunkLoop_ne_panic (text : Bool) (fuel : Nat) (bs : Bytes) (h : bs.length < fuel) :
    Dec.chunkLoop text fuel bs ≠ .panic :=
  AtRules.nePanic.chunkLoop text fuel fuel bs h h

theorem NoPanic.stringIter (text : Bool) : NoPanic (Dec.stringIter text) :=
  NoPanic.rules.stringIter text (NoPanic.withRemaining Nat.one_pos (chunkLoop_ne_panic text))

theorem Consumes.container (maj : Nat) : Consumes (Dec.container maj) 1 := Consumes.rules.container maj

theorem NoPanic.container (maj : Nat) : NoPanic (Dec.container maj) := NoPanic.rules.container maj

theorem NoPanic.skipArm (alloc : Bool) (s : SkipSt) : NoPanic (Dec.skipArm alloc s) :=
  NoPanic.rules.skipArm alloc s fun text => NoPanic.rules.skipString text (NoPanic.stringIter text)

/-- `while let Some(Some(0)) = stack.last() { pop }` never leaves a `Some(0)` on top. -/
theorem popZeros_ne_zero (st r : List (Option Nat)) : Dec.popZeros st ≠ some 0 :: r := by
  induction st with
  | nil => simp [Dec.popZeros]
  | cons x st ih =>
    match x with
    | some 0 => simpa [Dec.popZeros] using ih
    | some (k + 1) => simp [Dec.popZeros]
    | none => simp [Dec.popZeros]

/-- the `*n -= 1` after the `match` never underflows. -/
theorem NoPanic.skipPost (alloc : Bool) (s : SkipSt) : NoPanic (Dec.skipPost alloc s) := by
  unfold Dec.skipPost
  split
  · split
    · rename_i h; exact absurd h (popZeros_ne_zero _ _)
    all_goals exact NoPanic.pure _
  · exact NoPanic.pure _

theorem AtRules.skipLoop {S : ∀ {α : Type}, Dec α → Dec α → Bytes → Prop} (h : AtRules S) (alloc : Bool) :
    ∀ f1 f2 s bs, bs.length < f1 → bs.length < f2 → S (Dec.skipLoop alloc f1 s) (Dec.skipLoop alloc f2 s) bs
  | 0, _, _, _, h1, _ => absurd h1 (Nat.not_lt_zero _)
  | _ + 1, 0, _, _, _, h2 => absurd h2 (Nat.not_lt_zero _)
  | f1 + 1, f2 + 1, s, bs, h1, h2 => by
      unfold Dec.skipLoop
      split
      · exact h.of_noPanic (NoPanic.pure _) bs
      · refine h.bind (h.of_noPanic (NoPanic.skipArm alloc s) bs) fun a r ha => ?_
        have := Consumes.rules.skipArm alloc s bs a r ha
        cases a with
        | cont s' => exact skipLoop h alloc f1 f2 s' r (by omega) (by omega)
        | next s' =>
          refine h.bind (h.of_noPanic (NoPanic.skipPost alloc s') r) fun o r' ho => ?_
          have := Consumes.rules.skipPost alloc s' r o r' ho
          cases o with
          | none => exact h.of_noPanic (NoPanic.pure _) r'
          | some s'' => exact skipLoop h alloc f1 f2 s'' r' (by omega) (by omega)

/-- every iteration that does not end the loop consumes at least one byte. -/
theorem skipLoop_ne_panic (alloc : Bool) (fuel : Nat) (s : SkipSt) (bs : Bytes)
    (h : bs.length < fuel) : Dec.skipLoop alloc fuel s bs ≠ .panic :=
  AtRules.nePanic.skipLoop alloc fuel fuel s bs h h

theorem skip_ne_panic (alloc : Bool) (bs : Bytes) : Dec.skip alloc bs ≠ .panic :=
  NoPanic.withRemaining (Nat.succ_pos 1) (fun fuel bs h => skipLoop_ne_panic alloc fuel _ bs h) bs

theorem NoPanic.skip (alloc : Bool) : NoPanic (Dec.skip alloc) := skip_ne_panic alloc

end Minicbor.Dec
