/-
  `Rules` / `LoopRules` (Lemmas/DecRules.lean) for `Token::decode`, the loop combinators of
  Loops.lean and the built-in `Decode` impls.
-/
import Minicbor.Token
import Minicbor.Lemmas.DecRules

namespace Minicbor.Dec

theorem chunkLoop_eq_untilBreak (text : Bool) (fuel : Nat) :
    Dec.chunkLoop text fuel = Dec.untilBreak (if text then Dec.str else Dec.bytes) fuel := by
  induction fuel with
  | zero => rfl
  | succ f ih => unfold Dec.chunkLoop Dec.untilBreak; rw [ih]

/-- the local `pair` of `Dec.mapIter`. -/
def pairOf (mk mv : Dec α) : Dec (List α) := do let k ← mk; let v ← mv; pure [k, v]

theorem mapIter_eq (mk mv : Dec α) : Dec.mapIter mk mv = (do
    match (← Dec.map) with
    | some n => do let xs ← Dec.repeatN (pairOf mk mv) n; pure xs.flatten
    | none => do let r ← Dec.remaining; let xs ← Dec.untilBreak (pairOf mk mv) (r.length + 1); pure xs.flatten) := rfl

variable {P : Nat → ∀ {α : Type}, Dec α → Prop} {R : Nat → ∀ {α : Type}, Dec α → Dec α → Prop}

namespace Rules
variable (h : Rules P)
include h

theorem skipByte : P 1 Dec.skipByte := h.fmap _ h.read

theorem token : P 1 Dec.token :=
  h.bindL h.datatype fun
    | .bool => h.fmap _ h.bool
    | .u8 | .u16 | .u32 | .u64 | .i8 | .i16 | .i32 | .i64 | .int => h.fmap _ (h.intAcc _)
    | .f16 => h.fmap _ h.f16
    | .f32 => h.fmap _ (h.f32 _)
    | .f64 => h.fmap _ (h.f64 _)
    | .bytes => h.fmap _ h.bytes
    | .string => h.fmap _ h.str
    | .tag => h.fmap _ h.tag
    | .simple => h.fmap _ h.simple
    | .array => h.bindR h.array fun | some _ => h.pure _ | none => h.fail _ _
    | .map => h.bindR h.map fun | some _ => h.pure _ | none => h.fail _ _
    | .bytesIndef | .stringIndef | .arrayIndef | .mapIndef | .null | .undefined | .break => h.fmap _ h.skipByte
    | .unknown _ => h.fail _ _

theorem repeatN {α : Type} {m : Dec α} (hm : P 0 m) : ∀ n, P 0 (Dec.repeatN m n)
  | 0 => h.pure _
  | n + 1 => h.bindR hm fun _ => h.fmap _ (repeatN hm n)

theorem pairOf {α : Type} {mk mv : Dec α} (hk : P 0 mk) (hv : P 0 mv) : P 0 (Dec.pairOf mk mv) :=
  h.bindR hk fun _ => h.fmap _ hv

theorem seqAll {α : Type} : ∀ {ms : List (Dec α)}, (∀ m ∈ ms, P 0 m) → P 0 (Dec.seqAll ms)
  | [], _ => h.pure _
  | m :: _, hms => h.bindR (hms m (List.mem_cons_self ..)) fun _ =>
      h.fmap _ (seqAll fun m' hm' => hms m' (List.mem_cons_of_mem _ hm'))

theorem pickVariant {ms : List (Dec Val)} (hms : ∀ m ∈ ms, P 0 m) (i : Nat) :
    P 0 (Dec.pickVariant ms i) := by
  unfold Dec.pickVariant
  split
  · rename_i m hm
    exact h.fmap _ (hms m (List.mem_of_getElem? hm))
  · exact h.fail _ _

theorem fieldsDef {α : Type} (hskip : P 0 (Dec.skip true)) :
    ∀ {ms : List (Dec α)}, (∀ m ∈ ms, P 0 m) → ∀ n, P 0 (Dec.fieldsDef ms n)
  | [], _, n => h.fmap _ (h.repeatN hskip n)
  | _ :: _, _, 0 => h.fail _ _
  | m :: _, hms, n + 1 => h.bindR (hms m (List.mem_cons_self ..)) fun _ =>
      h.fmap _ (fieldsDef hskip (fun m' hm' => hms m' (List.mem_cons_of_mem _ hm')) n)

end Rules


/-- what `decodeT` needs beyond `Rules`: `skip`, `Duration`/`SystemTime`, and the loop combinators
    over typed element decoders (where `NoPanic` needs to know that those consume input).  All at
    grade 0: what a typed decode consumes is read off its size (`Consumes.decodeT`, Lemmas/TotalTy.lean). -/
structure TyRules (P : Nat → ∀ {α : Type}, Dec α → Prop) : Prop extends Rules P where
  skip : P 0 (Dec.skip true)
  duration : ∀ sys, P 0 (Dec.decodeDuration sys)
  arrayIter : ∀ t, P 0 (decodeT t) → P 0 (Dec.arrayIter (decodeT t))
  arrayN : ∀ t n, P 0 (decodeT t) → P 0 (Dec.arrayN (decodeT t) n)
  mapIter : ∀ k v, P 0 (decodeT k) → P 0 (decodeT v) → P 0 (Dec.mapIter (decodeT k) (decodeT v))
  fieldsDec : ∀ ts, (∀ m ∈ decoders ts, P 0 m) → P 0 (Dec.fieldsDec (decoders ts))

theorem mem_decoders_cons {t : Ty} {ts : List Ty} {m : Dec Val} (h : m ∈ decoders (t :: ts)) :
    m = decodeT t ∨ m ∈ decoders ts := by
  simpa [decoders] using h

namespace TyRules

mutual
theorem decodeT (h : TyRules P) : (t : Ty) → P 0 (decodeT t)
  | .int _ => h.weaken (h.fmap _ (h.intAcc _))
  | .bool => h.weaken (h.fmap _ h.bool)
  | .char => h.weaken (h.fmap _ h.char)
  | .f32 => h.weaken (h.fmap _ (h.f32 _))
  | .f64 => h.weaken (h.fmap _ (h.f64 _))
  | .str => h.weaken (h.fmap _ h.str)
  | .bytes => h.weaken (h.fmap _ h.bytes)
  | .barr _ => h.bindR (h.weaken h.bytes) fun _ => ite_pres (h.pure _) (h.fail _ _)
  | .cstr => h.bindR (h.weaken h.bytes) fun b => by
      split
      · exact ite_pres (h.pure _) (h.fail _ _)
      · exact h.fail _ _
  | .unit => h.bindR (h.weaken h.array) fun _ => ite_pres (h.pure _) (h.fail _ _)
  | .skipUnit => h.fmap _ h.skip
  | .opt t => h.bindR h.datatype fun _ => ite_pres (h.fmap _ h.skip) (h.fmap _ (decodeT h t))
  | .seq t => h.fmap _ (h.arrayIter t (decodeT h t))
  | .arr n t => h.fmap _ (h.arrayN t n (decodeT h t))
  | .tup ts => h.bindR (h.weaken h.array) fun _ => ite_pres (h.fail _ _) (h.fmap _ (h.seqAll (decoders h ts)))
  | .map k v => h.fmap _ (h.mapIter k v (decodeT h k) (decodeT h v))
  | .nz _ => h.bindR (h.weaken (h.intAcc _)) fun _ => ite_pres (h.fail _ _) (h.pure _)
  | .tag => h.weaken (h.fmap _ h.tag)
  | .tagged _ t => h.bindR (h.weaken h.tag) fun _ => ite_pres (h.fail _ _) (h.fmap _ (decodeT h t))
  | .enum ts => h.bindR (h.weaken h.array) fun _ => ite_pres (h.fail _ _) <|
      h.bindR (h.weaken (h.intAcc _)) fun _ => h.pickVariant (decoders h ts) _
  | .fields ts => h.fmap _ (h.fieldsDec ts (decoders h ts))
  | .duration => h.duration false
  | .systime => h.duration true
theorem decoders (h : TyRules P) : (ts : List Ty) → ∀ m ∈ decoders ts, P 0 m
  | [] => fun m hm => by simp [Minicbor.decoders] at hm
  | t :: ts => fun m hm => by
    rcases mem_decoders_cons hm with rfl | hm
    · exact decodeT h t
    · exact decoders h ts m hm
end

end TyRules


namespace LoopRules
variable (h : LoopRules R)
include h

theorem untilBreak {α : Type} {m : Dec α} (hm : R 0 m m) :
    ∀ f f', f ≤ f' → R 0 (Dec.untilBreak m f) (Dec.untilBreak m f')
  | 0, _, _ => h.panic _ _
  | f + 1, 0, hf => absurd hf (Nat.not_succ_le_zero f)
  | f + 1, f' + 1, hf => h.bind₂R h.current fun _ => ite_pres₂ (h.weaken (h.fmap _ h.read)) <|
      h.bind₂R hm fun _ => h.bind₂R (untilBreak hm f f' (Nat.le_of_succ_le_succ hf)) fun _ => h.pure _

theorem arrayIter {α : Type} {m : Dec α} (hm : R 0 m m) : R 1 (Dec.arrayIter m) (Dec.arrayIter m) :=
  h.bindR h.array fun
    | some n => h.repeatN hm n
    | none => h.withRemaining 1 (h.untilBreak hm)

theorem mapIter {α : Type} {mk mv : Dec α} (hk : R 0 mk mk) (hv : R 0 mv mv) : R 1 (Dec.mapIter mk mv) (Dec.mapIter mk mv) :=
  have hp := h.pairOf hk hv
  h.bindR h.map fun
    | some n => h.fmap _ (h.repeatN hp n)
    | none => h.withRemaining (loop := fun f => Dec.untilBreak (Dec.pairOf mk mv) f >>= fun xs => Pure.pure xs.flatten) 1
        fun f f' hf => h.bind₂R (h.untilBreak hp f f' hf) fun _ => h.pure _

theorem arrayNIndef {α : Type} {m : Dec α} (hm : R 0 m m) (n : Nat) :
    ∀ f f', f ≤ f' → ∀ k, R 0 (Dec.arrayNIndef m n f k) (Dec.arrayNIndef m n f' k)
  | 0, _, _, _ => h.panic _ _
  | f + 1, 0, hf, _ => absurd hf (Nat.not_succ_le_zero f)
  | f + 1, f' + 1, hf, k => h.bind₂R h.current fun _ =>
      ite_pres₂ (h.weaken (h.bindR h.read fun _ => ite_pres₂ (h.fail _ _) (h.pure _))) <|
      h.bind₂R hm fun _ => ite_pres₂ (h.fail _ _) <|
        h.bind₂R (arrayNIndef hm n f f' (Nat.le_of_succ_le_succ hf) (k + 1)) fun _ => h.pure _

theorem arrayN {α : Type} {m : Dec α} (hm : R 0 m m) (n : Nat) : R 1 (Dec.arrayN m n) (Dec.arrayN m n) :=
  h.bindR h.array fun
    | some k => ite_pres₂ (h.bindR (h.repeatN hm k) fun _ => ite_pres₂ (h.fail _ _) (h.pure _))
        (h.bindR (h.repeatN hm (n + 1)) fun _ => h.fail _ _)
    | none => h.withRemaining 1 fun f f' hf => h.arrayNIndef hm n f f' hf 0

theorem skipUntilBreak : ∀ f f', f ≤ f' → R 0 (Dec.skipUntilBreak f) (Dec.skipUntilBreak f')
  | 0, _, _ => h.panic _ _
  | f + 1, 0, hf => absurd hf (Nat.not_succ_le_zero f)
  | f + 1, f' + 1, hf => h.bind₂R h.datatype fun _ =>
      ite_pres₂ (h.skip true) <| h.bind₂R (h.skip true) fun _ => skipUntilBreak f f' (Nat.le_of_succ_le_succ hf)

theorem fieldsIndef {α : Type} (f f' : Nat) (hf : f ≤ f') :
    ∀ {ms : List (Dec α)}, (∀ m ∈ ms, R 0 m m) → R 0 (Dec.fieldsIndef ms f) (Dec.fieldsIndef ms f')
  | [], _ => h.bind₂R (h.skipUntilBreak f f' hf) fun _ => h.pure _
  | m :: _, hms => h.bind₂R h.datatype fun _ =>
      ite_pres₂ (h.bindR (h.skip true) fun _ => h.fail _ _) <|
      h.bind₂R (hms m (List.mem_cons_self ..)) fun _ =>
        h.bind₂R (fieldsIndef f f' hf fun m' hm' => hms m' (List.mem_cons_of_mem _ hm')) fun _ => h.pure _

theorem fieldsDec {α : Type} {ms : List (Dec α)} (hms : ∀ m ∈ ms, R 0 m m) : R 1 (Dec.fieldsDec ms) (Dec.fieldsDec ms) :=
  h.bindR h.array fun
    | some n => h.fieldsDef (h.skip true) hms n
    | none => h.withRemaining 1 fun f f' hf => h.fieldsIndef f f' hf hms

end LoopRules

end Minicbor.Dec
