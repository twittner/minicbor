/-
  The `AsyncReader` model: the invariant relating the stored state (`state`, `buffer`) and the
  undelivered bytes to the frame stream, what one poll does in terms of it, and what a poll
  consumes of the source script, for scripts of any length and content.
-/
import Minicbor.Lemmas.FrameIO

namespace Minicbor.Frame

theorem writeAt_length (dst : Bytes) (o : Nat) (bs : Bytes) (h : o + bs.length ≤ dst.length) :
    (writeAt dst o bs).length = dst.length := by
  simp [writeAt]; omega

theorem writeAt_take (dst : Bytes) (o : Nat) (bs : Bytes) (h : o ≤ dst.length) :
    (writeAt dst o bs).take (o + bs.length) = dst.take o ++ bs := by
  unfold writeAt
  apply List.take_left'
  simp; omega

theorem writeAt_full (dst : Bytes) (o : Nat) (bs : Bytes) (h : dst.length ≤ o + bs.length) :
    writeAt dst o bs = dst.take o ++ bs := by
  simp [writeAt, List.drop_eq_nil_of_le h]

/-- the bytes of the current frame that are stored in the reader.  `S = pb r ++ undelivered bytes` is the
    stream the reader still owes its caller: a poll that returns no frame leaves `S` as it is (bytes only
    move from the right part to the left), one that returns a frame takes exactly that frame off the front.
    `Step` and `pollLoop_spec` say this and nothing else. -/
def pb (r : ARCore) : Bytes :=
  match r.state with
  | .readLen buf o => buf.take o
  | .readVal o => be 4 r.buffer.length ++ r.buffer.take o

/-- the states in which the `loop` asks the stream for more. -/
def Wf (r : ARCore) : Prop :=
  r.buffer.length ≤ r.maxLen ∧
  match r.state with
  | .readLen buf o => buf.length = 4 ∧ o < 4
  | .readVal o => o < r.buffer.length ∧ r.buffer.length < 4294967296

/-- the state after `InvalidLen`: the oversized prefix stays in `ReadLen(buf, 4)`. -/
def Stuck (r : ARCore) : Prop :=
  r.buffer.length ≤ r.maxLen ∧
  ∃ len, r.state = .readLen (be 4 len) 4 ∧ len > r.maxLen ∧ len < 4294967296

theorem Wf.fresh (p : Bytes) (maxLen : Nat) (h : p.length ≤ maxLen) : Wf ⟨.new, p, maxLen⟩ := by
  simp [Wf, RState.new, zeros, h]

theorem Wf.init (maxLen : Nat) : Wf ⟨.new, [], maxLen⟩ := Wf.fresh [] maxLen (Nat.zero_le _)

@[simp] theorem pb_fresh (p : Bytes) (maxLen : Nat) : pb ⟨.new, p, maxLen⟩ = [] := by
  simp [pb, RState.new]

theorem settle_wf (c : Codec α) (r : ARCore) (h : Wf r) : r.settle c = .want r := by
  obtain ⟨st, buffer, maxLen⟩ := r
  cases st <;> simp [ARCore.settle] <;> have := h.2 <;> simp at this <;> omega

theorem settle_stuck (c : Codec α) (r : ARCore) (h : Stuck r) :
    r.settle (α := α) c = .ret (.error .invalidLen) r := by
  obtain ⟨_, len, hs, hbig, h32⟩ := h
  simp [ARCore.settle, hs, fromBe_be4 _ h32, hbig]

theorem req_pos (r : ARCore) (h : Wf r) : 0 < r.req := by
  obtain ⟨st, buffer, maxLen⟩ := r
  cases st <;> have := h.2 <;> simp [ARCore.req] at this ⊢ <;> omega

theorem pb_partial (r : ARCore) (hw : Wf r) : Partial r.maxLen (pb r) := by
  obtain ⟨st, buffer, maxLen⟩ := r
  obtain ⟨hb, hw⟩ := hw
  cases st <;> simp only [pb] at hw ⊢
  · exact .inl (by simp; omega)
  · exact .inr ⟨_, _, rfl, by simp; omega, hb, hw.2⟩

theorem eofRes_eq (r : ARCore) (hw : Wf r) :
    r.eofRes (α := α) = if pb r = [] then .ok none else .error (.io .unexpectedEof) := by
  obtain ⟨st, buffer, maxLen⟩ := r
  cases st with
  | readLen buf o =>
    have : buf ≠ [] := List.ne_nil_of_length_pos (by have := hw.2.1; omega)
    simp [ARCore.eofRes, pb, this]
  | readVal o => simp [ARCore.eofRes, pb, List.ne_nil_of_length_pos]

inductive Arrived (c : Codec α) (r : ARCore) (bs : Bytes) : Settle α → Prop
  | more (r' : ARCore) : Wf r' → r'.maxLen = r.maxLen → pb r' = pb r ++ bs → Arrived c r bs (.want r')
  | frame (p : Bytes) : pb r ++ bs = frame p → p.length ≤ r.maxLen → p.length < 4294967296 →
      Arrived c r bs (.ret (decodeRes c p) ⟨.new, p, r.maxLen⟩)
  | oversize (len : Nat) (r' : ARCore) : len > r.maxLen → len < 4294967296 → pb r ++ bs = be 4 len →
      Stuck r' → r'.maxLen = r.maxLen → r'.buffer = r.buffer →
      Arrived c r bs (.ret (.error .invalidLen) r')

theorem absorb_settle (c : Codec α) (r : ARCore) (bs : Bytes) (hw : Wf r)
    (_hne : 0 < bs.length) (hle : bs.length ≤ r.req) : Arrived c r bs ((r.absorb bs).settle c) := by
  obtain ⟨state, buffer, maxLen⟩ := r
  obtain ⟨hbuf, hw⟩ := hw
  cases state with
  | readLen buf o =>
    obtain ⟨hl, ho⟩ := hw
    simp only [ARCore.req] at hle
    have hlen := writeAt_length buf o bs (by omega)
    have htake := writeAt_take buf o bs (by omega)
    by_cases h4 : o + bs.length < 4
    · simp only [ARCore.absorb, ARCore.settle, Nat.not_le.mpr h4, if_false]
      exact .more _ ⟨hbuf, hlen.trans hl, h4⟩ rfl htake
    · have h4' : o + bs.length = 4 := by omega
      generalize hpre : buf.take o ++ bs = pre at htake
      have hfull : writeAt buf o bs = pre := by rw [writeAt_full _ _ _ (by omega), hpre]
      have hlen4 : pre.length = 4 := by rw [← hfull, hlen, hl]
      have hbe : be 4 (fromBe pre) = pre := by have := be_fromBe pre; rwa [hlen4] at this
      have h32 : fromBe pre < 4294967296 := by have := fromBe_lt pre; rwa [hlen4] at this
      simp only [ARCore.absorb, ARCore.settle, h4', Nat.le_refl, if_true, hfull]
      generalize fromBe pre = len at hbe h32
      subst hbe
      by_cases hbig : len > maxLen
      · simp only [hbig, if_true]
        exact .oversize len _ hbig h32 hpre ⟨hbuf, len, rfl, hbig, h32⟩ rfl rfl
      · by_cases h0 : len = 0
        · subst h0
          simp only [hbig, if_false, if_true, zeros, List.replicate_zero]
          exact .frame [] hpre (Nat.zero_le _) (by simp)
        · simp only [hbig, h0, if_false]
          refine .more _ ⟨by simp; omega, by simp; omega, by simpa using h32⟩ rfl ?_
          simpa [pb] using hpre.symm
  | readVal o =>
    obtain ⟨ho, h32⟩ := hw
    simp only [ARCore.req] at hle
    have hlen : (writeAt buffer o bs).length = buffer.length := writeAt_length _ _ _ (by omega)
    have htake := writeAt_take buffer o bs (by omega)
    by_cases hd : o + bs.length < buffer.length
    · simp only [ARCore.absorb, ARCore.settle, ge_iff_le, hlen, Nat.not_le.mpr hd, if_false]
      refine .more _ ⟨hlen ▸ hbuf, hlen ▸ hd, hlen ▸ h32⟩ rfl ?_
      simp only [pb, hlen, htake, List.append_assoc]
    · simp only [ARCore.absorb, ARCore.settle, ge_iff_le, hlen, Nat.not_lt.mp hd, if_true]
      refine .frame _ ?_ (hlen ▸ hbuf) (hlen ▸ h32)
      rw [frame, hlen, writeAt_full _ _ _ (by omega)]
      simp only [pb, List.append_assoc]

/-- answers of an async source that neither ends nor misreports: positive transfers,
    `Pending`, transient errors (`Other`, `Interrupted`). -/
def AOk : List Ev → Prop
  | [] => True
  | .io k :: sc => 0 < k ∧ AOk sc
  | .zero :: _ => False
  | _ :: sc => AOk sc

theorem AOk.tail {ev : Ev} {sc : List Ev} (h : AOk (ev :: sc)) : AOk sc := by
  cases ev <;> first | exact h | exact h.2 | exact h.elim

/-- What one poll does to `S`, for every source behaviour.  `E` says that the source was well-behaved
    (`AOk`); only then does an end-of-stream answer mean that the stream is exhausted. -/
inductive Step (c : Codec α) (S : Bytes) (ml : Nat) (E : Prop) :
    Poll (Except FErr (Option α)) → ARCore → Bytes → Prop
  | stay (x : Poll (Except FErr (Option α))) (r' : ARCore) (b' : Bytes) :
      Wf r' → r'.maxLen = ml → pb r' ++ b' = S →
      (x = .pending ∨ x = .ready (.error (.io .other)) ∨ x = .ready (.error (.io .interrupted)) ∨
        (x = .ready r'.eofRes ∧ (E → b' = []))) → Step c S ml E x r' b'
  | frame (p rest : Bytes) : S = frame p ++ rest → p.length ≤ ml → p.length < 4294967296 →
      Step c S ml E (.ready (decodeRes c p)) ⟨.new, p, ml⟩ rest
  | oversize (len : Nat) (rest : Bytes) (r' : ARCore) : len > ml → len < 4294967296 →
      S = be 4 len ++ rest → Stuck r' → r'.maxLen = ml →
      Step c S ml E (.ready (.error .invalidLen)) r' rest

theorem Step.mono {c : Codec α} {S : Bytes} {ml : Nat} {E E' : Prop} (hEE : E' → E)
    {x : Poll (Except FErr (Option α))} {r' : ARCore} {b' : Bytes} (hs : Step c S ml E x r' b') :
    Step c S ml E' x r' b' := by
  cases hs with
  | stay x r' b' h1 h2 h3 h4 =>
    exact .stay x r' b' h1 h2 h3
      (h4.imp_right (Or.imp_right (Or.imp_right (And.imp_right (· ∘ hEE)))))
  | frame p _ h1 h2 h3 => exact .frame p _ h1 h2 h3
  | oversize len _ r' h1 h2 h3 h4 h5 => exact .oversize len _ r' h1 h2 h3 h4 h5

theorem pollLoop_spec (c : Codec α) : ∀ (sc : List Ev) (r : ARCore) (bytes : Bytes), Wf r →
    Step c (pb r ++ bytes) r.maxLen (AOk sc)
      (pollLoop c r bytes sc).1 (pollLoop c r bytes sc).2.1 (pollLoop c r bytes sc).2.2.bytes := by
  intro sc r bytes hw
  -- the cases are the arms of `pollLoop`: script exhausted, `pend`, `intr`, `fail`, `zero`, then `io k`
  -- with nothing transferred (6), with a transfer after which the function returns (7) or loops (8)
  fun_induction pollLoop c r bytes sc
  case case1 | case2 => exact .stay _ _ _ hw rfl rfl (.inl rfl)
  case case3 => exact .stay _ _ _ hw rfl rfl (.inr (.inr (.inl rfl)))
  case case4 => exact .stay _ _ _ hw rfl rfl (.inr (.inl rfl))
  case case5 => exact .stay _ _ _ hw rfl rfl (.inr (.inr (.inr ⟨rfl, False.elim⟩)))
  case case6 r bytes sc k n hn =>
    -- a positive request answered with nothing: the stream is exhausted
    refine .stay _ _ _ hw rfl rfl (.inr (.inr (.inr ⟨rfl, fun e => ?_⟩)))
    have := e.1
    have := req_pos r hw
    exact List.eq_nil_of_length_eq_zero (show bytes.length = 0 by omega)
  case case7 r bytes sc k n hn out r' hst =>
    have := req_pos r hw
    have harr := absorb_settle c r (bytes.take n) hw (by simp; omega) (by simp; omega)
    rw [hst] at harr
    have hsplit : ∀ S, pb r ++ bytes.take n = S → pb r ++ bytes = S ++ bytes.drop n := by
      intro S h; rw [← h, List.append_assoc, List.take_append_drop]
    cases harr with
    | frame p hp h1 h2 => exact .frame p _ (hsplit _ hp) h1 h2
    | oversize len _ h1 h2 hp h3 h4 _ => exact .oversize len _ _ h1 h2 (hsplit _ hp) h3 h4
  case case8 r bytes sc k n hn r' hst ih =>
    have := req_pos r hw
    have harr := absorb_settle c r (bytes.take n) hw (by simp; omega) (by simp; omega)
    rw [hst] at harr
    cases harr with
    | more _ hw' hm hp =>
      have := (ih hw').mono (AOk.tail (ev := .io k))
      rwa [hp, hm, List.append_assoc, List.take_append_drop] at this

/-- the `Pending` answers a script still holds: each costs the caller one poll that returns nothing. -/
def countP : List Ev → Nat
  | [] => 0
  | .pend :: sc => countP sc + 1
  | _ :: sc => countP sc

/-- the transient errors (`fail`: `ErrorKind::Other`; `intr`) a script still holds: each is reported by
    one poll. -/
def countE : List Ev → Nat
  | [] => 0
  | .fail :: sc => countE sc + 1
  | .intr :: sc => countE sc + 1
  | _ :: sc => countE sc

def isTransient : Except FErr (Option α) → Bool
  | .error (.io .other) => true
  | .error (.io .interrupted) => true
  | _ => false

/-- what a poll's answer must have used up of the script: (`Pending` events, error events), to be
    compared with the decrease of (`countP`, `countE`). -/
def pollCost : Poll (Except FErr (Option α)) → Nat × Nat
  | .pending => (1, 0)
  | .ready x => (0, if isTransient x then 1 else 0)

theorem decodeRes_not_transient (c : Codec α) (p : Bytes) : isTransient (decodeRes c p) = false := by
  unfold decodeRes; cases c.dec p <;> rfl

theorem eofRes_not_transient (r : ARCore) : isTransient (r.eofRes (α := α)) = false := by
  unfold ARCore.eofRes
  (repeat' split) <;> rfl

theorem settle_ret_not_transient (c : Codec α) (r r' : ARCore) (x : Except FErr (Option α))
    (h : r.settle c = .ret x r') : isTransient x = false := by
  simp only [ARCore.settle] at h
  (repeat' split at h) <;> cases h <;> first | rfl | exact decodeRes_not_transient _ _

theorem pollLoop_suffix (c : Codec α) (sc : List Ev) (r : ARCore) (bytes : Bytes) :
    (pollLoop c r bytes sc).2.2.script <:+ sc := by
  fun_induction pollLoop c r bytes sc
  case case1 => exact List.suffix_refl _
  case case8 ih => exact ih.trans (List.suffix_cons _ _)
  all_goals exact List.suffix_cons _ _

/-- The counts are only claimed when events are left afterwards: an exhausted script answers `Pending` for
    nothing (first arm of `pollLoop`), so a poll that ran into its end may return `Pending` unpaid. -/
theorem pollLoop_script (c : Codec α) : ∀ (sc : List Ev) (r : ARCore) (bytes : Bytes),
    ((pollLoop c r bytes sc).2.2.script ≠ [] →
      countP (pollLoop c r bytes sc).2.2.script + (pollCost (pollLoop c r bytes sc).1).1 ≤ countP sc ∧
      countE (pollLoop c r bytes sc).2.2.script + (pollCost (pollLoop c r bytes sc).1).2 ≤ countE sc) ∧
    (sc = [] → (pollLoop c r bytes sc).2.2.script = []) := by
  intro sc r bytes
  refine ⟨?_, fun e => List.suffix_nil.1 (e ▸ pollLoop_suffix c sc r bytes)⟩
  fun_induction pollLoop c r bytes sc
  case case7 hst => simp [countP, countE, pollCost, settle_ret_not_transient c _ _ _ hst]
  case case8 ih => simpa [countP, countE] using ih
  case case3 | case4 => simp [countP, countE, pollCost, isTransient]
  all_goals simp [countP, countE, pollCost, eofRes_not_transient]

theorem pollLoop_aok (c : Codec α) (sc : List Ev) (r : ARCore) (bytes : Bytes) (h : AOk sc) :
    AOk (pollLoop c r bytes sc).2.2.script := by
  fun_induction pollLoop c r bytes sc
  case case1 => trivial
  case case8 ih => exact ih h.2
  all_goals exact h.tail

/-- `AsyncReader::read`'s poll from any state: when the `loop` returns without asking the stream,
    nothing is consumed and the result is not a transient error. -/
theorem poll_script (c : Codec α) (rd : AReader) :
    (AOk rd.src.script → AOk (rd.poll c).2.src.script) ∧
    (rd.src.script = [] → (rd.poll c).2.src.script = []) ∧
    ((rd.poll c).2.src.script ≠ [] →
      countP (rd.poll c).2.src.script + (pollCost (rd.poll c).1).1 ≤ countP rd.src.script ∧
      countE (rd.poll c).2.src.script + (pollCost (rd.poll c).1).2 ≤ countE rd.src.script) := by
  unfold AReader.poll
  cases h : rd.core.settle c with
  | ret out core => simp [pollCost, settle_ret_not_transient c _ _ _ h]
  | want core =>
    exact ⟨pollLoop_aok c _ _ _, (pollLoop_script c _ _ _).2, (pollLoop_script c _ _ _).1⟩

end Minicbor.Frame
