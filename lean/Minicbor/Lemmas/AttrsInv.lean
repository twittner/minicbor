/-
  The map built from one attribute never holds an order-sensitive pair, and its entries have
  pairwise different kinds; hence its entries are pairwise independent.
-/
import Minicbor.Lemmas.AttrsSwap
import Minicbor.Lemmas.AttrsFacts

namespace Minicbor.Attrs

/-- no pending `is_nil` next to a bare `encode_with`, no pending `nil` next to a bare `decode_with`
    (either would have been absorbed on arrival). -/
def InvCl (c : Cl) : Prop :=
  (c.isNil.isSome = true → ∀ e n, c.codec ≠ some (.enc e n)) ∧ (c.nil.isSome = true → ∀ d m, c.codec ≠ some (.dec d m))

theorem invCl_iff (c : Cl) : InvCl c ↔
    match c.codec with
    | some (.enc _ _) => c.isNil = none
    | some (.dec _ _) => c.nil = none
    | _ => True := by
  obtain ⟨codec, nil, isNil, hasNil, cborLen⟩ := c
  rcases codec with _ | ⟨e, n⟩ | ⟨d, m⟩ | ⟨e, n, d, m⟩ | ⟨p, b⟩ <;> simp [InvCl]

theorem insertCl_inv (c c' : Cl) (v : Val) (hi : InvCl c) (h : insertCl c v = .ok c') : InvCl c' := by
  rw [invCl_iff] at hi ⊢
  obtain ⟨codec, nil, isNil, hasNil, cborLen⟩ := c
  -- with the slots `insertCl` reads known, `h` computes `c'` (or is absurd), and what is claimed
  -- of `c'` is what `hi` says of `c`, `none = none` or `True`
  cases v with
  | isNil z =>
    cases isNil <;> rcases codec with _ | ⟨e, _ | n⟩ | ⟨d, m⟩ | ⟨e, _ | n, d, m⟩ | ⟨p, b⟩ <;> cases h <;> trivial
  | nil z =>
    cases nil <;> rcases codec with _ | ⟨e, n⟩ | ⟨d, _ | m⟩ | ⟨e, n, d, _ | m⟩ | ⟨p, b⟩ <;> cases h <;> trivial
  | hasNil =>
    cases hasNil <;> rcases codec with _ | ⟨e, n⟩ | ⟨d, m⟩ | ⟨e, n, d, m⟩ | ⟨p, _ | _⟩ <;> cases h <;> trivial
  | cborLen q =>
    cases cborLen <;> rcases codec with _ | ⟨e, n⟩ | ⟨d, m⟩ | ⟨e, n, d, m⟩ | ⟨p, b⟩ <;> cases h <;> trivial
  | codec cc =>
    cases codec with
    | some cx => cases cc <;> cases cx <;> cases h <;> trivial
    | none =>
      cases cc with
      | enc e n => cases n <;> cases isNil <;> cases h <;> trivial
      | dec d m => cases m <;> cases nil <;> cases h <;> trivial
      | both e n d m => cases n <;> cases m <;> cases isNil <;> cases nil <;> cases h <;> trivial
      | module p b => cases b <;> cases hasNil <;> cases cborLen <;> cases h <;> trivial
  | _ => cases h; exact hi

def Inv (a : A) : Prop := InvCl a.cl

theorem inv_empty : Inv {} := by simp [Inv, InvCl]

theorem tryInsert_inv (l : Level) (a a' : A) (v : Val) (hi : Inv a) (h : tryInsert l a v = .ok a') : Inv a' := by
  unfold tryInsert at h
  split at h
  · cases h
  · split at h <;> split at h <;> cases h
    · exact insertCl_inv a.cl _ v hi ‹_›
    · exact hi

theorem insertItems_inv (l : Level) : ∀ (items : List Item) (a a' : A), Inv a → insertItems l a items = .ok a' → Inv a'
  | [], a, a', hi, h => by cases h; exact hi
  | it :: rest, a, a', hi, h => by
    simp only [insertItems] at h
    split at h
    · cases h
    · split at h
      · cases h
      · exact insertItems_inv l rest _ a' (tryInsert_inv l a _ _ hi ‹_›) h

theorem ofAttr_inv (l : Level) (att : Attr) (m : A) (h : ofAttr l att = .ok m) : Inv m :=
  insertItems_inv l att.items {} m inv_empty (ofAttr_eq_insertItems l att ▸ h)

theorem mem_entries (a : A) (v : Val) : v ∈ a.entries ↔
    (match v with
     | .codec c => a.codec = some c | .encoding e => a.encoding = some e | .index b i => a.index = some (b, i)
     | .indexOnly => a.indexOnly = true | .transparent => a.transparent = true | .typeParam t => a.typeParam = some t
     | .nil p => a.nil = some p | .isNil p => a.isNil = some p | .hasNil => a.hasNil = true
     | .contextBound bs => a.contextBound = some bs | .cborLen p => a.cborLen = some p | .tag t => a.tag = some t
     | .skip => a.skip = true) := by
  simp only [A.entries, List.mem_append, Option.mem_toList, Option.map_eq_some_iff, List.mem_ite_nil_right, List.mem_singleton]
  cases v <;> simp

theorem sub_opt {α : Type} (o : Option α) (f : α → Val) (k : Kind) (hk : ∀ x, (f x).kind = k) :
    ((o.map f).toList.map Val.kind).Sublist [k] := by
  cases o with
  | none => simp
  | some x => simp [hk x]

theorem sub_bool (b : Bool) (v : Val) : ((if b then [v] else []).map Val.kind).Sublist [v.kind] := by
  cases b <;> simp

/-- the entries' kinds are a sublist of the list of all kinds, in slot order. -/
theorem entries_kinds_nodup (a : A) : (a.entries.map Val.kind).Nodup := by
  refine List.Sublist.nodup (l₂ := [.codec, .encoding, .index, .indexOnly, .transparent, .typeParam, .nil, .isNil, .hasNil,
    .contextBound, .cborLen, .tag, .skip]) ?_ (by decide)
  have h := fun {l1 l2 l3 l4 : List Kind} (h1 : l1.Sublist l2) (h2 : l3.Sublist l4) => List.Sublist.append h1 h2
  simp only [A.entries, List.map_append]
  exact h (h (h (h (h (h (h (h (h (h (h (h
    (sub_opt a.codec Val.codec .codec (fun _ => rfl))
    (sub_opt a.encoding Val.encoding .encoding (fun _ => rfl)))
    (sub_opt a.index (fun p => Val.index p.1 p.2) .index (fun _ => rfl)))
    (sub_bool a.indexOnly .indexOnly))
    (sub_bool a.transparent .transparent))
    (sub_opt a.typeParam Val.typeParam .typeParam (fun _ => rfl)))
    (sub_opt a.nil Val.nil .nil (fun _ => rfl)))
    (sub_opt a.isNil Val.isNil .isNil (fun _ => rfl)))
    (sub_bool a.hasNil .hasNil))
    (sub_opt a.contextBound Val.contextBound .contextBound (fun _ => rfl)))
    (sub_opt a.cborLen Val.cborLen .cborLen (fun _ => rfl)))
    (sub_opt a.tag Val.tag .tag (fun _ => rfl)))
    (sub_bool a.skip .skip)

theorem entries_indep (a : A) (hi : Inv a) : a.entries.Pairwise Indep := by
  have hk : a.entries.Pairwise (fun v w => v.kind ≠ w.kind) := List.pairwise_map.1 (entries_kinds_nodup a)
  refine hk.imp_of_mem fun {v w} hv hw hne => ⟨hne, fun hb => ?_⟩
  rw [mem_entries] at hv hw
  obtain ⟨h1, h2⟩ := hi
  unfold Bad at hb
  split at hb
  · exact h1 (by rw [show a.cl.isNil = _ from hv]; rfl) _ _ hw
  · exact h1 (by rw [show a.cl.isNil = _ from hw]; rfl) _ _ hv
  · exact h2 (by rw [show a.cl.nil = _ from hv]; rfl) _ _ hw
  · exact h2 (by rw [show a.cl.nil = _ from hw]; rfl) _ _ hv
  · exact hb

end Minicbor.Attrs
