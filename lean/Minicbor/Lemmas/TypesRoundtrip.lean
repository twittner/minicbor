/-
  The round-trip induction for the built-in codecs (C01), over successful runs of `encodeT`.
-/
import Minicbor.Lemmas.TypesStart
import Minicbor.Lemmas.TypesPred
import Minicbor.Lemmas.DecRulesTy

namespace Minicbor
open Dec


theorem length_lt_of_append {a b : Bytes} {n : Nat} (h : (a ++ b).length < n) : b.length < n := by
  rw [List.length_append] at h; omega

theorem decoders_eq_map : ∀ ts : List Ty, decoders ts = ts.map decodeT
  | [] => rfl
  | t :: ts => by rw [decoders, decoders_eq_map ts]; rfl

theorem decoders_get (ts : List Ty) (i : Nat) (t : Ty) (h : ts[i]? = some t) :
    (decoders ts)[i]? = some (decodeT t) := by
  rw [decoders_eq_map, List.getElem?_map, h]; rfl

theorem decoders_length (ts : List Ty) : (decoders ts).length = ts.length := by
  rw [decoders_eq_map, List.length_map]

theorem Ty.noOptOptNode_opt (t : Ty) : Ty.noOptOptNode (.opt t) = true ↔ ∀ t', t ≠ .opt t' := by
  cases t <;> simp [Ty.noOptOptNode]

theorem duration_rt (sys : Bool) (s n : Int) (rest : Bytes) (hs0 : 0 ≤ s) (hs1 : s ≤ 18446744073709551615)
    (hn0 : 0 ≤ n) (hn1 : n < 1000000000) (hsys : sys = true → s ≤ 9223372036854775807) :
    decodeDuration sys (Enc.secsNanos s n ++ rest) = .ok (.list [.int s, .int n]) rest := by
  have ha := Reads.arrayHead 2 (by decide) (Enc.u64 s.toNat ++ (Enc.u32 n.toNat ++ rest))
  have h1 := intAcc_u64 s.toNat (Enc.u32 n.toNat ++ rest) (by omega)
  have h2 := intAcc_u32 n.toNat rest (by omega)
  have e1 : n.toNat / NANOS_PER_SEC = 0 := by unfold NANOS_PER_SEC; omega
  have e3 : ¬ s.toNat > 18446744073709551615 := by omega
  simp [decodeDuration, Enc.secsNanos, fieldsDec, fieldsDef, repeatN, Dec.bind_run, List.append_assoc, ha, h1, h2,
    e1, e3, Int.toNat_of_nonneg hs0, Int.toNat_of_nonneg hn0]
  have e5 : ¬ (sys = true ∧ 9223372036854775807 < s) := by
    intro ⟨h, h'⟩; have := hsys h; omega
  have e6 : max s 0 + max n 0 / (NANOS_PER_SEC : Int) = s := by unfold NANOS_PER_SEC; omega
  have e7 : max n 0 % (NANOS_PER_SEC : Int) = n := by unfold NANOS_PER_SEC; omega
  rw [if_neg e5, e6, e7]; rfl

theorem roundtrip_all :
    (∀ t v bs, encodeT t v = some bs → t.all Ty.rtNode = true → bs.length < 2 ^ 64 →
      ∀ rest, decodeT t (bs ++ rest) = .ok v rest) ∧
    (∀ k v kvs bs, encodeMap k v kvs = some bs → k.all Ty.rtNode = true ∧ v.all Ty.rtNode = true →
      bs.length < 2 ^ 64 →
      ∀ rest, ∃ xs, repeatN (pairOf (decodeT k) (decodeT v)) (kvs.length / 2) (bs ++ rest) = .ok xs rest
        ∧ xs.flatten = kvs) ∧
    (∀ ts vs bs, encodeTup ts vs = some bs → Ty.allL Ty.rtNode ts = true → bs.length < 2 ^ 64 →
      ∀ rest, seqAll (decoders ts) (bs ++ rest) = .ok vs rest ∧
        fieldsDef (decoders ts) ts.length (bs ++ rest) = .ok vs rest) ∧
    (∀ t vs bs, encodeList t vs = some bs → t.all Ty.rtNode = true → bs.length < 2 ^ 64 →
      ∀ rest, repeatN (decodeT t) vs.length (bs ++ rest) = .ok vs rest) := by
  obtain ⟨-, sz2, sz3, sz4⟩ := enc_start
  apply encodeT_ok_induct
  case int => intro k v h _ rest; simp [decodeT, Dec.bind_run, intAcc_enc k v rest h]
  case bool => intro b _ rest; simp [decodeT, Dec.bind_run, Reads.bool b rest]
  case char =>
    intro v h0 hs _ rest
    simp [decodeT, Dec.bind_run, char_enc _ rest hs, Int.toNat_of_nonneg h0]
  case f32 => intro b h _ rest; simp [decodeT, Dec.bind_run, Reads.f32 b h rest]
  case f64 => intro b h _ rest; simp [decodeT, Dec.bind_run, Reads.f64 b h rest]
  case str => intro b hu hl rest; simp [decodeT, Dec.bind_run, Reads.str b hu (length_lt_of_append hl) rest]
  case bytes | barr => intro b hl rest; simp [decodeT, Dec.bind_run, Reads.bytes b (length_lt_of_append hl) rest]
  case cstr =>
    intro b h0 hl rest
    have h0' : ∀ x ∈ b, ¬ x = 0 := by simpa using h0
    simp [decodeT, Dec.bind_run, Reads.bytes (b ++ [0]) (length_lt_of_append hl) rest]
    rw [if_pos h0']; rfl
  case unit => intro _ rest; simp [decodeT, Dec.bind_run, Reads.arrayHead 0 (by decide) rest]
  case skipUnit => intro _ rest; simp [decodeT, Dec.bind_run, skip_emptyArray rest]
  case optNone => intro t _ rest; simp [decodeT, Dec.bind_run, datatype_null, skip_null rest]
  case optSome =>
    intro t v bs hp henc ih hl rest
    have hno := (Ty.noOptOptNode_opt t).1 (Bool.and_eq_true_iff.1 hp).2
    obtain ⟨ty, hty, hnn⟩ := datatype_startOk bs rest ((enc_start.1 t v bs henc).2 hno)
    simp [decodeT, Dec.bind_run, hty, hnn, ih hl rest]
  case seq | arr =>
    intro t vs b henc ih hl rest
    have h1 := sz4 _ _ _ henc
    rw [List.length_append] at hl
    have ha := Reads.arrayHead vs.length (by omega) (b ++ rest)
    simp [decodeT, arrayIter, arrayN, Dec.bind_run, ha, ih (by omega) rest]
  case tup | fields =>
    intro ts vs b _ henc ih hl rest
    have h1 := sz3 _ _ _ henc
    rw [List.length_append] at hl
    have ha := Reads.arrayHead ts.length (by omega) (b ++ rest)
    obtain ⟨h2, h3⟩ := ih (by omega) rest
    simp [decodeT, fieldsDec, Dec.bind_run, ha, h2, h3]
  case map =>
    intro k v kvs b henc ih hl rest
    have h1 := sz2 _ _ _ _ henc
    rw [List.length_append] at hl
    have ha := Reads.mapHead (kvs.length / 2) (by omega) (b ++ rest)
    obtain ⟨xs, hxs, hfl⟩ := ih (by omega) rest
    rw [List.append_assoc]
    simp [decodeT, mapIter_eq, Dec.bind_run, ha, hxs, hfl]
  case nz =>
    intro k v h hz _ rest
    simp [decodeT, Dec.bind_run, intAcc_enc k v rest h, hz]
  case tag =>
    intro v _ h0 h1 _ rest
    simp [decodeT, Dec.bind_run, Reads.tag v.toNat (by omega) rest, Int.toNat_of_nonneg h0]
  case tagged =>
    intro n t v b hp henc ih hl rest
    have hn : n < 18446744073709551616 := of_decide_eq_true (Bool.and_eq_true_iff.1 hp).1
    rw [List.length_append] at hl
    simp [decodeT, Dec.bind_run, Reads.tag n hn (b ++ rest), ih (by omega) rest]
  case «enum» =>
    intro ts i t v b hp hi henc ih hl rest
    have hts : ts.length ≤ 4294967296 := of_decide_eq_true (Bool.and_eq_true_iff.1 hp).1
    have hlt : i < ts.length := (List.getElem?_eq_some_iff.1 hi).1
    rw [List.length_append] at hl
    have ha := Reads.arrayHead 2 (by decide) (Enc.u32 i ++ (b ++ rest))
    have hu := intAcc_u32 i (b ++ rest) (by omega)
    simp [decodeT, Dec.bind_run, ha, hu, pickVariant, decoders_get ts i t hi, ih (by omega) rest]
  case duration =>
    intro s n hs0 hs1 hn0 hn1 _ rest
    exact duration_rt false s n rest hs0 (by omega) hn0 hn1 (by simp)
  case systime =>
    intro s n hs0 hs1 hn0 hn1 _ rest
    exact duration_rt true s n rest hs0 (by omega) hn0 hn1 (by simp; omega)
  case mapNil => intro k v _ rest; exact ⟨[], by simp [repeatN], rfl⟩
  case mapCons =>
    intro k v x y kvs a b c ha hb hc iha ihb ihc hl rest
    simp only [List.length_append] at hl
    obtain ⟨xs, hxs, hfl⟩ := ihc (by omega) rest
    refine ⟨[x, y] :: xs, ?_, by simp [hfl]⟩
    have e : (kvs.length + 1 + 1) / 2 = kvs.length / 2 + 1 := by omega
    have h1 := iha (by omega) (b ++ (c ++ rest))
    have h2 := ihb (by omega) (c ++ rest)
    have hp : pairOf (decodeT k) (decodeT v) (a ++ (b ++ (c ++ rest))) = .ok [x, y] (c ++ rest) := by
      simp [pairOf, Dec.bind_run, h1, h2]
    simp [e, repeatN, Dec.bind_run, List.append_assoc, hp, hxs]
  case tupNil => intro _ rest; simp [seqAll, fieldsDef, decoders, repeatN, Dec.bind_run]
  case tupCons =>
    intro t ts v vs a b ha hb iha ihb hl rest
    rw [List.length_append] at hl
    have h1 := iha (by omega) (b ++ rest)
    have h2 := ihb (by omega) rest
    simp [seqAll, fieldsDef, decoders, Dec.bind_run, List.append_assoc, h1, h2.1, h2.2]
  case listNil => intro t _ rest; simp [repeatN]
  case listCons =>
    intro t v vs a b ha hb iha ihb hl rest
    rw [List.length_append] at hl
    have h1 := iha (by omega) (b ++ rest)
    have h2 := ihb (by omega) rest
    simp [repeatN, Dec.bind_run, List.append_assoc, h1, h2]

end Minicbor
