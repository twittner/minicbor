/-
  C10, general case, per type constructor and as non-recursive lemmas: that the documented projection
  is defined (`PjOk`) and what the reader's decoder does on the writer's encoding (`TyC`);
  `pjOk_tyC_option_some`, `pjOk_tyC_vec` give both for the two constructors whose projection is computed
  from that of the element.  Also: the parts of an encoding that fits a slice fit a slice (`FieldsFit`).
  The induction over the writer's schema that ties them together is in Thm/C10.lean (`compat_cases`).
-/
import Minicbor.Lemmas.DeriveCompatBody

/- `benign w r v = true` for all `w`, `r`, `v`: on the code with the K5 repair
   (docs/K5-candidate.diff; `Derive.bareNull`) `k5Hit` is `false` (Compat.lean), so no value is in
   the situation the predicate describes.  Several statements of C10 carry `benign…` hypotheses;
   their proofs ignore them, and where a lemma asks for one (`row_compat`) it is supplied from here. -/
namespace Minicbor.Derive

mutual
theorem benignP_always : ∀ (w r : FTy) (v : Val), benignP true w r v = true
  | .option w, r, v => by
    cases r <;> try rfl
    cases v <;> try rfl
    simp only [benignP]
    exact benignP_always w _ _
  | .vec w, r, v => by
    cases r <;> try rfl
    cases v <;> try rfl
    simp only [benignP, List.all_eq_true]
    exact fun x _ => benignP_always w _ x
  | .struct a fs, r, v => by
    cases r <;> try rfl
    cases v <;> try rfl
    rename_i b gs vs
    simp only [benignP]
    split
    · split
      · exact benignOne_always fs _ vs
      · rfl
    · simp [k5Hit, benignFields_always fs gs vs]
  | .enum a vs, r, v => by
    cases r <;> try rfl
    cases v <;> try rfl
    simp only [benignP]
    exact benignVars_always a _ vs _ _ _
  | .int _, _, _ => rfl
  | .bool, _, _ => rfl
  | .text _, _, _ => rfl
  | .blob _, _, _ => rfl
termination_by structural w => w
theorem benignOne_always : ∀ (fs : Fields) (u : FTy) (vs : List Val), benignOne true fs u vs = true
  | [], u, vs => by simp [benignOne]
  | [(a, t)], u, vs => by
    cases vs with
    | nil => simp [benignOne]
    | cons v vs => cases vs <;> simp [benignOne, benignP_always t u v]
  | _ :: _ :: _, u, vs => by simp [benignOne]
termination_by structural fs => fs
theorem benignFields_always : ∀ (fs gs : Fields) (vs : List Val), benignFields true fs gs vs = true
  | [], gs, vs => by simp [benignFields]
  | (fa, t) :: fs, gs, [] => by simp [benignFields]
  | (fa, t) :: fs, gs, v :: vs => by
    simp only [benignFields, Bool.and_eq_true]
    refine ⟨?_, benignFields_always fs gs vs⟩
    split
    · rfl
    · split
      · rfl
      · exact benignP_always t _ v
termination_by structural fs => fs
theorem benignVars_always (a b : EAttr) : ∀ (vs us : Variants) (k : Nat) (fvs : List Val), benignVars true a b vs us k fvs = true
  | [], us, k, fvs => by simp [benignVars]
  | (va, fs) :: rest, us, 0, fvs => by
    simp only [benignVars]
    split
    · rfl
    · split
      · rfl
      · rfl
      · simp [k5Hit, benignFields_always fs _ fvs]
  | (va, fs) :: rest, us, k + 1, fvs => by
    simp only [benignVars]
    exact benignVars_always a b rest us k fvs
termination_by structural vs => vs
end

theorem benign_always (w r : FTy) (v : Val) : benign w r v = true := benignP_always w r v

open Minicbor.Dec

/-- `ItemC` below the codec: `decTy r` on `encTy w v` delivers the documented projection; where that is
    "unknown variant", the position is lenient (`l = true`) and the decoder reports an unknown-variant
    error. -/
structure TyC (l : Bool) (w r : FTy) (v : Val) : Prop where
  ok  : ∀ x, projTy w r v = .ok x → ∀ rest, decTy r (encTy w v ++ rest) = .ok x rest
  unk : projTy w r v = .unknown → l = true ∧ ∀ rest, ∃ r', decTy r (encTy w v ++ rest) = .err .variant r'

/-- the documented projection is defined: it is never `.bad`, and "unknown variant" only in lenient
    position.  This is what `TyC` leaves open about `projTy w r v`; no decoder is involved. -/
structure PjOk (l : Bool) (w r : FTy) (v : Val) : Prop where
  nb  : projTy w r v ≠ .bad
  unk : projTy w r v = .unknown → l = true

theorem pjOk_ok (w r : FTy) (v : Val) (h : PjOk false w r v) : ∃ x, projTy w r v = .ok x := by
  cases hp : projTy w r v with
  | ok x => exact ⟨x, rfl⟩
  | unknown => have := h.unk hp; cases this
  | bad => exact absurd hp h.nb

theorem pjOk_of_ok {l : Bool} {w r : FTy} {v x : Val} (h : projTy w r v = .ok x) : PjOk l w r v :=
  ⟨by rw [h]; simp, fun hu => by rw [h] at hu; cases hu⟩

theorem tyC_of_ok {l : Bool} {w r : FTy} {v x : Val} (hp : projTy w r v = .ok x)
    (hd : ∀ rest, decTy r (encTy w v ++ rest) = .ok x rest) : TyC l w r v :=
  ⟨fun y hy rest => by rw [hp] at hy; cases hy; exact hd rest, fun hu => by rw [hp] at hu; cases hu⟩

theorem tyC_of_bad {l : Bool} {w r : FTy} {v : Val} (hp : projTy w r v = .bad) : TyC l w r v :=
  ⟨fun x hx => (by rw [hp] at hx; cases hx), fun hu => (by rw [hp] at hu; cases hu)⟩

theorem TyC.pjOk {l : Bool} {w r : FTy} {v : Val} (h : TyC l w r v) (hb : projTy w r v ≠ .bad) : PjOk l w r v :=
  ⟨hb, fun hu => (h.unk hu).1⟩

/-! ### `Option` -/

theorem pjOk_tyC_option_some (l : Bool) (w r : FTy) (v : Val) (hP : PjOk l w r v) :
    PjOk l (.option w) (.option r) (.some v) ∧
    (startOk (encTy w v) = true → TyC l w r v → TyC l (.option w) (.option r) (.some v)) := by
  cases hp : projTy w r v with
  | ok y =>
    have hp' : projTy (.option w) (.option r) (.some v) = .ok (.some y) := by simp only [projTy, hp]
    exact ⟨pjOk_of_ok hp', fun hs h => tyC_of_ok hp' fun rest => by
      simp only [encTy, decTy]
      exact optionDec_some _ _ _ _ hs (h.ok y hp rest)⟩
  | unknown =>
    have hp' : projTy (.option w) (.option r) (.some v) = .unknown := by simp only [projTy, hp]
    refine ⟨⟨by rw [hp']; simp, fun _ => hP.unk hp⟩, fun hs h => ⟨fun x hx => (by rw [hp'] at hx; cases hx), fun _ => ?_⟩⟩
    obtain ⟨hl, herr⟩ := h.unk hp
    refine ⟨hl, fun rest => ?_⟩
    obtain ⟨r', hr'⟩ := herr rest
    exact ⟨r', by simp only [encTy, decTy]; exact optionDec_err _ _ _ _ _ hs hr'⟩
  | bad => exact absurd hp hP.nb

theorem tyC_option_some (l : Bool) (w r : FTy) (v : Val) (hs : startOk (encTy w v) = true) (h : TyC l w r v) :
    TyC l (.option w) (.option r) (.some v) := by
  by_cases hb : projTy w r v = .bad
  · exact tyC_of_bad (by simp only [projTy, hb])
  · exact (pjOk_tyC_option_some l w r v (h.pjOk hb)).2 hs h

theorem tyC_blob (k k' : BlobK) (l : Bool) (v : Val) (hv : hasTy (.blob k) v = true) : TyC l (.blob k) (.blob k') v := by
  cases v <;> simp [hasTy] at hv
  exact tyC_of_ok (x := .blob _) rfl fun rest => by
    simp only [encTy, decTy, Dec.bind_run, Reads.bytes _ (by simpa [U64] using hv) rest]; rfl

/-- byte-string fields (the kinds that exist only through `with = "minicbor::bytes"` included). -/
theorem tyC_fieldBlob (l : Bool) (t u : FTy) (v : Val) (hb : fieldBlob t = true) (hc : compatTy l t u = true)
    (hv : hasTy t v = true) (hcl : C09.noClash t v = true) : TyC l t u v := by
  cases t with
  | blob k =>
    cases u <;> simp [compatTy] at hc
    exact tyC_blob _ _ l v hv
  | option t' =>
    cases t' <;> simp [fieldBlob] at hb
    cases u <;> simp [compatTy] at hc
    rename_i u'
    cases u' <;> simp [compatTy] at hc
    cases v <;> simp [hasTy] at hv
    · exact tyC_of_ok (x := .none) rfl fun rest => by simp only [encTy, decTy]; exact optionDec_none _ rest
    · simp only [C09.noClash, Bool.and_eq_true] at hcl
      exact tyC_option_some l _ _ _ hcl.1 (tyC_blob _ _ l _ hv)
  | _ => simp [fieldBlob] at hb

/-! ### `Vec` -/

theorem mapPRes_cons (p : PRes) (ps : List PRes) :
    mapPRes (p :: ps) =
      (match p, mapPRes ps with
       | .ok v, .ok (.list vs) => .ok (.list (v :: vs))
       | .unknown, .ok _ => .unknown
       | .ok _, .unknown => .unknown
       | .unknown, .unknown => .unknown
       | _, _ => .bad) := rfl

theorem mapPRes_all_ok : ∀ (ps : List PRes), (∀ p ∈ ps, ∃ x, p = .ok x) →
    ∃ ys, mapPRes ps = .ok (.list ys) ∧ All2 (fun p x => p = PRes.ok x) ps ys
  | [], _ => ⟨[], rfl, All2.nil⟩
  | p :: ps, h => by
    obtain ⟨ys, hys, hF⟩ := mapPRes_all_ok ps (fun q hq => h q (by simp [hq]))
    obtain ⟨x, hx⟩ := h p (by simp)
    refine ⟨x :: ys, ?_, All2.cons hx hF⟩
    rw [mapPRes_cons, hx, hys]

theorem vecLoopN_proj (dec : Dec Val) (enc : Val → Bytes) (proj : Val → PRes) :
    ∀ (vs : List Val) (ys : List Val) (rest : Bytes),
    (∀ v ∈ vs, ∀ x, proj v = .ok x → ∀ r, dec (enc v ++ r) = .ok x r) →
    All2 (fun p x => p = PRes.ok x) (vs.map proj) ys →
    vecLoopN dec vs.length ((vs.map enc).flatten ++ rest) = .ok ys rest
  | [], ys, rest, _, h => by
    cases h
    simp [vecLoopN]
  | v :: vs, ys, rest, hd, h => by
    cases h with
    | cons hx hrest =>
      rename_i x xs
      have ih := vecLoopN_proj dec enc proj vs xs rest (fun w hw => hd w (by simp [hw])) hrest
      simp only [List.length_cons, vecLoopN, List.map_cons, List.flatten_cons, List.append_assoc, Dec.bind_run,
        hd v (by simp) x hx, ih]
      rfl

/-- elements of a `Vec` are not in lenient position, so each projects to a value. -/
theorem pjOk_tyC_vec (l : Bool) (w r : FTy) (vs : List Val) (hl : vs.length < U64) (hP : ∀ v ∈ vs, PjOk false w r v) :
    PjOk l (.vec w) (.vec r) (.list vs) ∧ ((∀ v ∈ vs, TyC false w r v) → TyC l (.vec w) (.vec r) (.list vs)) := by
  obtain ⟨ys, hys, hF⟩ := mapPRes_all_ok (vs.map (projTy w r)) (by
    intro p hp
    obtain ⟨v, hv, rfl⟩ := List.mem_map.1 hp
    exact pjOk_ok w r v (hP v hv))
  have hp : projTy (.vec w) (.vec r) (.list vs) = .ok (.list ys) := by simp only [projTy]; exact hys
  refine ⟨pjOk_of_ok hp, fun h => tyC_of_ok hp fun rest => ?_⟩
  have := vecLoopN_proj (decTy r) (encTy w) (projTy w r) vs ys rest (fun v hv x hx r' => (h v hv).ok x hx r') hF
  simp only [encTy, decTy, vecDec, Dec.bind_run, List.append_assoc, Reads.arrayHead vs.length (by simpa [U64] using hl) _, this]
  rfl

theorem mapPRes_bad : ∀ (ps : List PRes), .bad ∈ ps → mapPRes ps = .bad
  | p :: ps, h => by
    rw [mapPRes_cons]
    rcases List.mem_cons.1 h with e | h'
    · subst e; cases mapPRes ps <;> rfl
    · rw [mapPRes_bad ps h']; cases p <;> rfl

theorem tyC_vec (l : Bool) (w r : FTy) (vs : List Val) (hl : vs.length < U64)
    (h : ∀ v ∈ vs, TyC false w r v) : TyC l (.vec w) (.vec r) (.list vs) := by
  by_cases hb : .bad ∈ vs.map (projTy w r)
  · exact tyC_of_bad (by simp only [projTy]; exact mapPRes_bad _ hb)
  · exact (pjOk_tyC_vec l w r vs hl fun v hv => (h v hv).pjOk fun e => hb (List.mem_map.2 ⟨v, hv, e⟩)).2 h

/-! ### the codec of a field -/

theorem itemC_of_tyC (l : Bool) (a : FAttr) (t : FTy) (v : Val) (b : FAttr) (u : FTy)
    (hcod : (a.codec == .nilu) = (b.codec == .nilu)) (hcW : codecOk a.codec t = true) (hcR : codecOk b.codec u = true)
    (hv : hasTy t v = true) (hct : compatTy l t u = true) (h : a.codec ≠ .nilu → TyC l t u v) : ItemC l a t v b u := by
  rcases codec_cases hcW hv with hn | ⟨hn, rfl, i, rfl, hi⟩
  · have hn' : b.codec ≠ .nilu := fun e => hn (by simpa [e] using hcod)
    rw [ItemC, decWith_of_ne hn', encWith_of_ne hn]
    exact ⟨(h hn).ok, (h hn).unk⟩
  · have hn' : b.codec = .nilu := by simpa [hn] using hcod.symm
    cases codecOk_nilu (hn' ▸ hcR)
    rw [ItemC, hn, hn']
    exact ⟨fun x hx r => by cases hx; exact nilu_rt i r hi _ _, fun hu => nomatch hu⟩

/-! ### structs -/

theorem maxPresent_enc_spec (fs : Fields) (vs : List Val) (hacc : acceptedFields fs = true) (hty : hasFields fs vs = true) :
    maxPresent (encFields fs vs) = maxPresent (specFields fs vs) := by
  rw [C08.fields_spec fs vs hacc hty]
  exact maxPresent_map toBytes (fun _ => rfl) (fun _ => rfl) _

theorem nilOrBad_ne_unknown (b : FAttr) (u : FTy) : nilOrBad b u ≠ .unknown := by
  unfold nilOrBad; cases nilOf b u <;> simp

theorem assemble_proj_ne_unknown (fs : Fields) (vs : List Val) (gs : Fields)
    (hndR : (liveIdxs gs).Nodup) (hitems : FieldsC gs fs vs) : assemble gs (projFields fs gs vs) ≠ .unknown := by
  apply assemble_ne_unknown
  intro g hg
  obtain ⟨b, u⟩ := g
  cases hbs : b.skip
  · cases hl : lookupVal fs vs b.idx with
    | none =>
      rw [hereOf_ronly fs vs gs b u hbs hl]
      exact nilOrBad_ne_unknown b u
    | some y =>
      obtain ⟨a, t, v⟩ := y
      rw [hereOf_shared fs vs gs hndR b u hg hbs a t v hl]
      unfold pOf
      cases hnil : isNilField a t v
      · simp only [Bool.false_eq_true, if_false]
        cases hp : projTy t u v with
        | ok x => simp
        | bad => simp
        | unknown =>
          have hI := FieldsC_lookup gs fs vs b.idx a t v b u hitems hl hnil (findField_of_mem gs b u hndR hg hbs)
          simp only [swallows_eq, (hI.2 hp).1, if_true]
          exact nilOrBad_ne_unknown b u
      · exact nilOrBad_ne_unknown b u
  · simp [hereOf, hbs]

theorem tyC_struct (l : Bool) (a b : SAttr) (fs gs : Fields) (vs : List Val)
    (hta : a.transparent = false) (htb : b.transparent = false) (htag : a.tag = b.tag) (htok : tagOk a.tag = true)
    (henc : a.enc.getD .array = b.enc.getD .array)
    (H : BodyHyp (a.enc.getD .array) fs vs gs) : TyC l (.struct a fs) (.struct b gs) (.struct vs) := by
  constructor
  · intro x hx rest
    simp only [projTy, hta, Bool.false_eq_true, if_false] at hx
    obtain ⟨xs, rfl, _⟩ := assemble_ok gs _ _ hx
    rw [encTy_struct, hta, if_neg Bool.false_ne_true, List.append_assoc, htag, henc]
    exact structDec_run htb (tagCheck_rt _ _ (htag ▸ htok)) (henc ▸ body_compat _ fs vs gs rest xs H hx)
  · intro hu
    simp only [projTy, hta, Bool.false_eq_true, if_false] at hu
    exact absurd hu (assemble_proj_ne_unknown fs vs gs H.ndR H.items)

/-! ### enums -/

theorem encOf_variant (ve ee : Option Encoding) : encOf (ve <|> ee) = ve.getD (ee.getD .array) := by
  cases ve <;> rfl

theorem frame_nil (enc : Encoding) : frame enc [] = emptyBody enc := by
  cases enc <;> rfl

theorem onlyOptional_nil (gs : Fields) : onlyOptional gs [] = allOptional gs := by
  simp [onlyOptional, allOptional, findField]

theorem skip_frame (enc : Encoding) (fs : Fields) (vs : List Val) (hacc : acceptedFields fs = true)
    (hnd : (liveIdxs fs).Nodup) (hty : hasFields fs vs = true) (hl : (frame enc (encFields fs vs)).length < 2 ^ 64)
    (r : Bytes) : Dec.skip true (frame enc (encFields fs vs) ++ r) = .ok () r := by
  have nd := C08.specFields_nodup hty hnd
  rw [C08.fields_spec fs vs hacc hty, frame_spec enc _ nd fun p hp => (specFields_valid fs vs hacc hty p hp).1] at hl ⊢
  exact skip_encPref _ r (pv_specBody enc _ nd (specFields_valid fs vs hacc hty)) hl

structure RowHyp (a b : EAttr) (va : VAttr) (fs : Fields) (fvs : List Val) (us : Variants) : Prop where
  io    : a.indexOnly = b.indexOnly
  tagW  : tagOk va.tag = true
  accW  : acceptedFields fs = true
  ndW   : (liveIdxs fs).Nodup
  unitW : va.shape = .unit → fs = []
  ioW   : a.indexOnly = true → va.shape = .unit
  accR  : acceptedVars b us = true
  ty    : hasFields fs fvs = true
  len   : (frame (va.enc.getD (a.enc.getD .array)) (encFields fs fvs)).length < 2 ^ 64

/-- what the writer's row writes after the variant index: `C09.rowBytes e ((va, fs) :: _) 0 vs`
    (by `rfl`; Thm/C10.lean passes `row_compat` where `rowBytes` is asked for). -/
def rowOf (e : EAttr) (va : VAttr) (fs : Fields) (vs : List Val) : Bytes :=
  match va.shape with
  | .unit => if e.indexOnly then [] else tagBytes va.tag ++ emptyBody (va.enc.getD (e.enc.getD .array))
  | _ => tagBytes va.tag ++ frame (va.enc.getD (e.enc.getD .array)) (encFields fs vs)

/-- outside `index_only` enums a unit variant is written like a variant without fields. -/
theorem rowOf_fields (e : EAttr) (va : VAttr) (fs : Fields) (vs : List Val) (hio : e.indexOnly = false)
    (hu : va.shape = .unit → fs = []) :
    rowOf e va fs vs = tagBytes va.tag ++ frame (va.enc.getD (e.enc.getD .array)) (encFields fs vs) := by
  cases hsa : va.shape
  · cases hu hsa
    simp [rowOf, hsa, hio, frame_nil, show encFields [] vs = [] by cases vs <;> rfl]
  all_goals simp only [rowOf, hsa]

theorem varBody_fields (e : EAttr) (va : VAttr) (fs : Fields) (h : va.shape ≠ .unit) :
    varBody e va fs = (do tagCheck va.tag; fieldsDec (va.enc.getD (e.enc.getD .array)) (decFields fs)) := by
  cases hs : va.shape <;> first | exact absurd hs h | simp only [varBody, hs]

/-- a known variant that has fields on the reader's side, whatever the writer's shape (a unit variant
    of the writer is the case `fs = []`). -/
theorem row_fields (a b : EAttr) (va : VAttr) (fs : Fields) (rest0 us : Variants) (fvs : List Val) (pos : Nat) (vb : VAttr)
    (gs : Fields) (hfv : findVar us 0 va.idx = some (pos, vb, gs)) (hne : vb.shape ≠ .unit)
    (hunitW : va.shape = .unit → fs = [])
    (hcv : (match vb.shape with
       | .unit => true
       | _ =>
         encOf (va.enc <|> a.enc) == encOf (vb.enc <|> b.enc) &&
         (match va.shape with
          | .unit => allOptional gs
          | _ => compatFields fs gs && onlyOptional gs fs)) = true) :
    va.enc.getD (a.enc.getD .array) = vb.enc.getD (b.enc.getD .array) ∧ compatFields fs gs = true ∧
    onlyOptional gs fs = true ∧
    projVars ((va, fs) :: rest0) us 0 fvs =
      (match assemble gs (projFields fs gs fvs) with
       | .ok (.struct xs) => .ok (.enum pos xs)
       | .ok _ => .bad
       | e => e) := by
  rw [← encOf_variant, ← encOf_variant]
  cases hsb : vb.shape <;> rw [hsb] at hcv
  · exact absurd hsb hne
  all_goals
    simp only [Bool.and_eq_true, beq_iff_eq] at hcv
    refine ⟨hcv.1, ?_⟩
    cases hsa : va.shape <;> rw [hsa] at hcv
    · cases hunitW hsa
      refine ⟨rfl, by rw [onlyOptional_nil]; exact hcv.2, ?_⟩
      simp only [projVars, hfv, hsb, hsa]; rfl
    all_goals
      simp only [Bool.and_eq_true] at hcv
      refine ⟨hcv.2.1, hcv.2.2, ?_⟩
      simp only [projVars, hfv, hsb, hsa]; rfl

/-- known variant — unit reader variant (body skipped), unit writer variant read by a reader
    variant with only optional fields (all nil), or fields against fields (`body_compat`);
    unknown variant — an unknown-variant error. -/
theorem row_compat (l : Bool) (a b : EAttr) (va : VAttr) (fs : Fields) (rest0 : Variants) (us : Variants) (fvs : List Val)
    (H : RowHyp a b va fs fvs us)
    (hcv : (match findVar us 0 va.idx with
       | none => l
       | some (_, vb, gs) =>
           va.tag == vb.tag &&
           (match vb.shape with
            | .unit => true
            | _ =>
              encOf (va.enc <|> a.enc) == encOf (vb.enc <|> b.enc) &&
              (match va.shape with
               | .unit => allOptional gs
               | _ => compatFields fs gs && onlyOptional gs fs))) = true)
    (hben : (match findVar us 0 va.idx with
       | none => true
       | some (_, vb, gs) =>
           (match vb.shape, va.shape with
            | .unit, _ => true
            | _, .unit => true
            | _, _ => benignFields true fs gs fvs
                && !(true && encOf (va.enc <|> a.enc) == .array && k5Hit gs fs (piecesMax (encFields fs fvs))))) = true)
    (hitems : ∀ gs, acceptedFields gs = true → (liveIdxs gs).Nodup → compatFields fs gs = true →
      benignFields true fs gs fvs = true → FieldsC gs fs fvs) :
    (∀ x, projVars ((va, fs) :: rest0) us 0 fvs = .ok x → ∀ r,
      findVariant (decVars b us) 0 va.idx (rowOf a va fs fvs ++ r) = .ok x r) ∧
    (projVars ((va, fs) :: rest0) us 0 fvs = .unknown → l = true ∧ ∀ r, ∃ r',
      findVariant (decVars b us) 0 va.idx (rowOf a va fs fvs ++ r) = .err .variant r') := by
  cases hfv : findVar us 0 va.idx with
  | none =>
    rw [hfv] at hcv
    simp only at hcv
    constructor
    · intro x hx; simp [projVars, hfv] at hx
    · intro _
      refine ⟨hcv, fun r => ⟨_, C09.findVariant_unknown (decVars b us) 0 va.idx _ ?_⟩⟩
      intro vd hvd e
      exact (findVar_none us 0 va.idx).1 hfv (by rw [← e]; exact C09.decVars_idx b us vd hvd)
  | some y =>
    obtain ⟨pos, vb, gs⟩ := y
    rw [hfv] at hcv
    simp only [Bool.and_eq_true, beq_iff_eq] at hcv
    obtain ⟨hm, _⟩ := findVar_mem us 0 va.idx pos vb gs hfv
    obtain ⟨_, htagR, haccR, hndR, hunitR, hioR⟩ := acceptedVars_mem b us vb gs H.accR hm
    have hfind := findVariant_findVar b us 0 va.idx pos vb gs hfv
    have htag : va.tag = vb.tag := hcv.1
    by_cases hsb : vb.shape = .unit
    · have hproj : projVars ((va, fs) :: rest0) us 0 fvs = .ok (.enum pos []) := by simp [projVars, hfv, hsb]
      rw [hproj]
      refine ⟨fun x hx r => ?_, fun hu => (by cases hu)⟩
      cases hx
      rw [hfind]
      cases hio : b.indexOnly
      · rw [rowOf_fields a va fs fvs (by rw [H.io]; exact hio) H.unitW, htag, List.append_assoc]
        simp only [varBody, hsb, hio, Bool.false_eq_true, if_false, Dec.bind_run, tagCheck_rt _ _ htagR,
          skip_frame _ fs fvs H.accW H.ndW H.ty H.len r, Dec.pure_run]
      · have hioa : a.indexOnly = true := by rw [H.io]; exact hio
        simp [varBody, hsb, hio, rowOf, H.ioW hioa, hioa, Dec.bind_run]
    · obtain ⟨henc, hcf, hoo, hpv⟩ := row_fields a b va fs rest0 us fvs pos vb gs hfv hsb H.unitW hcv.2
      have hioa : a.indexOnly = false := by
        rw [H.io]
        cases h : b.indexOnly
        · rfl
        · exact absurd (hioR h) hsb
      have hitm := hitems gs haccR hndR hcf (benignFields_always fs gs fvs)
      have HB : BodyHyp (va.enc.getD (a.enc.getD .array)) fs fvs gs :=
        ⟨H.accW, H.ndW, H.ty, haccR, hndR, hcf, hoo, H.len, hitm⟩
      rw [hpv]
      cases hn : assemble gs (projFields fs gs fvs) with
      | ok y =>
        obtain ⟨xs, rfl, _⟩ := assemble_ok gs _ y hn
        refine ⟨fun x hx r => ?_, fun hu => (by cases hu)⟩
        cases hx
        rw [hfind, rowOf_fields a va fs fvs hioa H.unitW, htag, List.append_assoc, varBody_fields b vb gs hsb]
        simp only [Dec.bind_run, tagCheck_rt _ _ htagR, ← henc, body_compat _ fs fvs gs r xs HB hn, Dec.pure_run]
      | unknown => exact absurd hn (assemble_proj_ne_unknown fs fvs gs hndR hitm)
      | bad => exact ⟨fun x hx => (by cases hx), fun hu => (by cases hu)⟩

theorem tyC_enum (l : Bool) (a b : EAttr) (vs us : Variants) (k : Nat) (fvs : List Val)
    (htag : a.tag = b.tag) (htok : tagOk a.tag = true) (hio : a.indexOnly = b.indexOnly)
    (haW : acceptedVars a vs = true) (hv : hasVars vs k fvs = true) (hidx : C09.varIdx vs k < 4294967296)
    (hrow : (∀ x, projVars vs us k fvs = .ok x → ∀ r,
        findVariant (decVars b us) 0 (C09.varIdx vs k) (C09.rowBytes a vs k fvs ++ r) = .ok x r) ∧
      (projVars vs us k fvs = .unknown → l = true ∧ ∀ r, ∃ r',
        findVariant (decVars b us) 0 (C09.varIdx vs k) (C09.rowBytes a vs k fvs ++ r) = .err .variant r')) :
    TyC l (.enum a vs) (.enum b us) (.enum k fvs) := by
  have hdec : ∀ rest, decTy (.enum b us) (encTy (.enum a vs) (.enum k fvs) ++ rest) =
      findVariant (decVars b us) 0 (C09.varIdx vs k) (C09.rowBytes a vs k fvs ++ rest) := by
    intro rest
    simp only [encTy, decTy, enumDec, C09.encVars_eq a vs k fvs haW hv, List.append_assoc]
    rw [Dec.bind_run, ← htag, tagCheck_rt _ _ htok]
    simp only []
    rw [← hio]
    cases hix : a.indexOnly
    · simp only [Bool.false_eq_true, if_false]
      rw [Dec.bind_run, Dec.bind_run, Reads.arrayHead 2 (by decide) _]
      simp only [beq_self_eq_true, if_true, Dec.pure_run]
      rw [Dec.bind_run, intAcc_u32 _ _ hidx]
      simp only [Int.toNat_natCast]
      exact wrapperEnd_false_bind _ _
    · simp only [if_true, List.nil_append]
      rw [Dec.bind_run, Dec.pure_run]
      simp only []
      rw [Dec.bind_run, intAcc_u32 _ _ hidx]
      simp only [Int.toNat_natCast]
      exact wrapperEnd_false_bind _ _
  constructor
  · intro x hx rest
    simp only [projTy] at hx
    rw [hdec]; exact hrow.1 x hx rest
  · intro hu
    simp only [projTy] at hu
    obtain ⟨h1, h2⟩ := hrow.2 hu
    refine ⟨h1, fun rest => ?_⟩
    obtain ⟨r', hr'⟩ := h2 rest
    exact ⟨r', by rw [hdec]; exact hr'⟩

theorem varIdx_lt (e : EAttr) : ∀ (vars : Variants) (k : Nat) (vs : List Val), acceptedVars e vars = true →
    hasVars vars k vs = true → C09.varIdx vars k < 4294967296
  | [], _, _, _, hv => by simp [hasVars] at hv
  | (va, fs) :: rest, 0, vs, ha, _ => by
    simpa [C09.varIdx, U32] using (acceptedVars_mem e _ va fs ha List.mem_cons_self).1
  | (va, fs) :: rest, k + 1, vs, ha, hv => by
    simp only [acceptedVars, Bool.and_eq_true] at ha
    simp only [hasVars] at hv
    simpa [C09.varIdx] using varIdx_lt e rest k vs ha.2 hv

theorem tyC_transparent (l : Bool) (a b : SAttr) (fs : Fields) (gb : FAttr) (u : FTy) (vs : List Val)
    (hta : a.transparent = true) (htb : b.transparent = true)
    (h : (∀ x, projOne fs u vs = .ok x → ∀ rest,
        decWith gb.codec (decTy u) (transparentBody (encFields fs vs) ++ rest) = .ok x rest) ∧
      projOne fs u vs ≠ .unknown) :
    TyC l (.struct a fs) (.struct b [(gb, u)]) (.struct vs) := by
  constructor
  · intro x hx rest
    simp only [projTy, hta, if_true] at hx
    cases hp : projOne fs u vs with
    | ok y =>
      rw [hp] at hx; simp only at hx; cases hx
      simp only [encTy, decTy, structDec, hta, htb, if_true, decFields, transparentDec, Dec.bind_run, h.1 y hp rest]
      rfl
    | unknown => rw [hp] at hx; simp at hx
    | bad => rw [hp] at hx; simp at hx
  · intro hu
    simp only [projTy, hta, if_true] at hu
    cases hp : projOne fs u vs with
    | ok y => rw [hp] at hu; simp at hu
    | unknown => exact absurd hp h.2
    | bad => rw [hp] at hu; simp at hu

/-! ### sizes -/

def FieldsFit : Fields → List Val → Prop
  | (a, t) :: fs, v :: vs =>
      (a.skip = false → isNilField a t v = false → (encWith a.codec (encTy t) v).length < 2 ^ 64) ∧ FieldsFit fs vs
  | _, _ => True

theorem fieldsFit_of_pieces : ∀ (fs : Fields) (vs : List Val),
    (∀ p ∈ encFields fs vs, p.nil = false → p.body.length < 2 ^ 64) → FieldsFit fs vs
  | [], vs, _ => by cases vs <;> trivial
  | (a, t) :: fs, [], _ => trivial
  | (a, t) :: fs, v :: vs, h =>
    ⟨fun hs hn => h _ (mem_encFields_cons.2 (Or.inl ⟨hs, rfl⟩)) hn,
      fieldsFit_of_pieces fs vs fun p hp => h p (mem_encFields_cons.2 (Or.inr hp))⟩

theorem fieldsFit_of_frame (enc : Encoding) (fs : Fields) (vs : List Val) (hacc : acceptedFields fs = true)
    (hnd : (liveIdxs fs).Nodup) (hty : hasFields fs vs = true)
    (hl : (frame enc (encFields fs vs)).length < 2 ^ 64) : FieldsFit fs vs := by
  apply fieldsFit_of_pieces fs vs
  intro p hp hn
  have hle : (tagBytes p.tag ++ p.body).length ≤ (frame enc (encFields fs vs)).length := by
    cases enc with
    | map => exact entry_le_frame _ p hp hn
    | array =>
      -- a non-nil field lies below the highest present index, and the cell there is its item
      obtain ⟨a, t, v, hlk, rfl⟩ := lookupVal_of_mem fs vs p hnd hp
      obtain ⟨m, hm, hw⟩ := le_maxPresent fs vs hacc hty _ a t v hlk hn
      have nd := C08.specFields_nodup hty hnd
      have hcl := cell_le_frame (specFields fs vs) nd m a.idx hm hw
      rwa [← C08.fields_spec fs vs hacc hty, cellAt_some fs vs a.idx a t v hacc hty hlk] at hcl
  simp only [List.length_append] at hle
  omega

/-! ### the projection is defined (no decoder involved) -/

def FieldsP (gs : Fields) : Fields → List Val → Prop
  | (a, t) :: fs, v :: vs =>
      (a.skip = false → isNilField a t v = false → ∀ b u, findField gs a.idx = some (b, u) →
        PjOk (optionalField b u) t u v) ∧ FieldsP gs fs vs
  | _, _ => True

theorem FieldsP_lookup (gs fs : Fields) (vs : List Val) (i : Nat) (a : FAttr) (t : FTy) (v : Val)
    (b : FAttr) (u : FTy) (hC : FieldsP gs fs vs) (h : lookupVal fs vs i = some (a, t, v)) (hn : isNilField a t v = false)
    (hf : findField gs i = some (b, u)) : PjOk (optionalField b u) t u v := by
  obtain ⟨_, hai, _⟩ := lookupVal_mem fs vs i a t v h
  exact lookupVal_elim (F := FieldsP gs) (fun _ _ _ _ _ h => h) fs vs i a t v hC h hn b u (hai ▸ hf)

theorem assemble_all_ok : ∀ (gs : Fields) (ps : List (Nat × PRes)),
    (∀ g ∈ gs, ∃ x, hereOf ps g.1 g.2 = .ok x) → ∃ xs, assemble gs ps = .ok (.struct xs)
  | [], ps, _ => ⟨[], rfl⟩
  | (b, u) :: gs, ps, h => by
    obtain ⟨xs, hxs⟩ := assemble_all_ok gs ps (fun g hg => h g (by simp [hg]))
    obtain ⟨x, hx⟩ := h (b, u) (by simp)
    refine ⟨x :: xs, ?_⟩
    rw [assemble_cons, hx, hxs]

theorem nilOrBad_of_optional (b : FAttr) (u : FTy) (h : optionalField b u = true) : ∃ z, nilOrBad b u = .ok z := by
  unfold optionalField at h
  unfold nilOrBad
  cases hn : nilOf b u with
  | none => rw [hn] at h; cases h
  | some z => exact ⟨z, rfl⟩

theorem assemble_total (fs : Fields) (vs : List Val) (gs : Fields)
    (hndR : (liveIdxs gs).Nodup) (hty : hasFields fs vs = true) (hcf : compatFields fs gs = true)
    (hoo : onlyOptional gs fs = true) (hitems : FieldsP gs fs vs) :
    ∃ xs, assemble gs (projFields fs gs vs) = .ok (.struct xs) := by
  apply assemble_all_ok
  intro g hg
  obtain ⟨b, u⟩ := g
  cases hbs : b.skip
  · cases hl : lookupVal fs vs b.idx with
    | none =>
      rw [hereOf_ronly fs vs gs b u hbs hl]
      exact nilOrBad_of_optional b u ((onlyOptional_iff gs fs).1 hoo b u hg hbs ((lookupVal_none fs vs b.idx hty).1 hl))
    | some y =>
      obtain ⟨a, t, v⟩ := y
      rw [hereOf_shared fs vs gs hndR b u hg hbs a t v hl]
      have hf := findField_of_mem gs b u hndR hg hbs
      obtain ⟨_, hcod, hct⟩ := compatFields_lookup fs vs gs b.idx a t v b u hcf hl hf
      unfold pOf
      cases hnil : isNilField a t v
      · simp only [Bool.false_eq_true, if_false]
        have hP := FieldsP_lookup gs fs vs b.idx a t v b u hitems hl hnil hf
        cases hp : projTy t u v with
        | ok x => exact ⟨x, rfl⟩
        | bad => exact absurd hp hP.nb
        | unknown =>
          simp only [swallows_eq, hP.unk hp, if_true]
          exact nilOrBad_of_optional b u (hP.unk hp)
      · exact nilOrBad_of_optional b u (nil_partner_optional a t v b u _ hnil hcod hct)
  · exact ⟨defaultOf u, by simp [hereOf, hbs]⟩

theorem row_proj (l : Bool) (a b : EAttr) (va : VAttr) (fs : Fields) (rest0 : Variants) (us : Variants) (fvs : List Val)
    (hty : hasFields fs fvs = true) (haR : acceptedVars b us = true)
    (hunitW : va.shape = .unit → fs = [])
    (hcv : (match findVar us 0 va.idx with
       | none => l
       | some (_, vb, gs) =>
           va.tag == vb.tag &&
           (match vb.shape with
            | .unit => true
            | _ =>
              encOf (va.enc <|> a.enc) == encOf (vb.enc <|> b.enc) &&
              (match va.shape with
               | .unit => allOptional gs
               | _ => compatFields fs gs && onlyOptional gs fs))) = true)
    (hitems : ∀ gs, acceptedFields gs = true → (liveIdxs gs).Nodup → compatFields fs gs = true → FieldsP gs fs fvs) :
    projVars ((va, fs) :: rest0) us 0 fvs ≠ .bad ∧ (projVars ((va, fs) :: rest0) us 0 fvs = .unknown → l = true) := by
  cases hfv : findVar us 0 va.idx with
  | none =>
    rw [hfv] at hcv
    simp only at hcv
    simp [projVars, hfv, hcv]
  | some y =>
    obtain ⟨pos, vb, gs⟩ := y
    rw [hfv] at hcv
    simp only [Bool.and_eq_true, beq_iff_eq] at hcv
    obtain ⟨hm, _⟩ := findVar_mem us 0 va.idx pos vb gs hfv
    obtain ⟨_, _, haccR, hndR, _, _⟩ := acceptedVars_mem b us vb gs haR hm
    by_cases hsb : vb.shape = .unit
    · simp [projVars, hfv, hsb]
    · obtain ⟨_, hcf, hoo, hpv⟩ := row_fields a b va fs rest0 us fvs pos vb gs hfv hsb hunitW hcv.2
      obtain ⟨xs, hxs⟩ := assemble_total fs fvs gs hndR hty hcf hoo (hitems gs haccR hndR hcf)
      simp [hpv, hxs]

end Minicbor.Derive
