/-
  The vocabulary in which Lemmas/DisplayTree.lean shows that the diagnostic printer produces the
  documented notation.  `Reach` is "the inner loop gets from one configuration to another" (fuel-free);
  `Runs st ts ps st'` says that from stack `st`, facing the tokens `ts` followed by anything, it
  consumes exactly `ts`, writes `ps` and arrives at stack `st'`; `Shows ts ps` is that for an
  `E::N` on top of any stack.  Sequences (definite / indefinite arrays and maps, chunked strings)
  are handled once, abstractly, over lists of units that each run under a fixed stack prefix:
  `[N]` for an array element or a chunk, `[N, S ": ", N]` for a key with its value.
-/
import Minicbor.Lemmas.DisplayStep
import Minicbor.Lemmas.DisplaySpec

namespace Minicbor
open C19

def Reach (st : List E) (it : List TokItem) (out : List Piece)
    (st' : List E) (it' : List TokItem) (out' : List Piece) : Prop :=
  ∃ k, ∀ f, displayInner (f + k) st it out = displayInner f st' it' out'

theorem Reach.refl (st : List E) (it : List TokItem) (out : List Piece) : Reach st it out st it out :=
  ⟨0, fun _ => rfl⟩

theorem Reach.trans {st1 st2 st3 : List E} {it1 it2 it3 : List TokItem} {o1 o2 o3 : List Piece}
    (h1 : Reach st1 it1 o1 st2 it2 o2) (h2 : Reach st2 it2 o2 st3 it3 o3) :
    Reach st1 it1 o1 st3 it3 o3 := by
  obtain ⟨k1, h1⟩ := h1
  obtain ⟨k2, h2⟩ := h2
  refine ⟨k2 + k1, fun f => ?_⟩
  rw [← Nat.add_assoc, h1, h2]

theorem Reach.step {e : E} {st : List E} {it : List TokItem} {out : List Piece}
    {st' : List E} {it' : List TokItem} {em : List Piece}
    (h : dstep e st it = .cont st' it' em) : Reach (e :: st) it out st' it' (out ++ em) :=
  ⟨1, fun f => by rw [displayInner_succ, h]; rfl⟩

def Runs (st : List E) (ts : List Token) (ps : List Piece) (st' : List E) : Prop :=
  ∀ it out, Reach st (ts.map TokItem.tok ++ it) out st' it (out ++ ps)

theorem Runs.nil (st : List E) : Runs st [] [] st := by
  intro it out; rw [List.append_nil]; exact Reach.refl _ _ _

theorem Runs.trans {a b c : List E} {ts us : List Token} {ps qs : List Piece}
    (h1 : Runs a ts ps b) (h2 : Runs b us qs c) : Runs a (ts ++ us) (ps ++ qs) c := by
  intro it out
  rw [List.map_append, List.append_assoc, ← List.append_assoc out]
  exact (h1 _ out).trans (h2 it _)

/-- one iteration, which may read into `ts` but not beyond, then a run. -/
theorem Runs.step {e : E} {st st' st'' : List E} {ts ts' : List Token} {em ps : List Piece}
    (h : ∀ it, dstep e st (ts.map TokItem.tok ++ it) = .cont st' (ts'.map TokItem.tok ++ it) em)
    (hr : Runs st' ts' ps st'') : Runs (e :: st) ts (em ++ ps) st'' := by
  intro it out
  rw [← List.append_assoc]
  exact (Reach.step (h it)).trans (hr it _)

theorem Runs.tok {t : Token} {st st' st'' : List E} {ts : List Token} {em ps : List Piece}
    (hr : Runs st' ts ps st'')
    (h : ∀ it, nstep t st (ts.map TokItem.tok ++ it) = .cont st' (ts.map TokItem.tok ++ it) em) :
    Runs (.N :: st) (t :: ts) (em ++ ps) st'' :=
  Runs.step (ts := t :: ts) h hr

def Shows (ts : List Token) (ps : List Piece) : Prop :=
  ∀ st it out, Reach (.N :: st) (ts.map TokItem.tok ++ it) out st it (out ++ ps)

theorem Shows.of_runs {ts : List Token} {ps : List Piece} (h : ∀ st, Runs (.N :: st) ts ps st) :
    Shows ts ps := h

theorem Shows.runs {ts : List Token} {ps : List Piece} (h : Shows ts ps) (st : List E) :
    Runs (.N :: st) ts ps st := h st

/-- an element of a sequence: its tokens and its notation. -/
abbrev DItem := List Token × List Piece

/-- the printer shows it, and its first token exists and is not `break` (so the look-ahead of
    `E::X` / `E::A(None)` … sees an element). -/
def Good (x : DItem) : Prop := Shows x.1 x.2 ∧ ∃ t r, x.1 = t :: r ∧ t ≠ Token.brk

def StartsItem (ts : List Token) : Prop := ∃ t r, ts = t :: r ∧ t ≠ Token.brk

theorem StartsItem.append {ts : List Token} (h : StartsItem ts) (us : List Token) : StartsItem (ts ++ us) := by
  obtain ⟨t, r, rfl, ht⟩ := h
  exact ⟨t, r ++ us, rfl, ht⟩

theorem indefStep_brk (msg close : String) (more st : List E) (it : List TokItem) :
    indefStep msg close more st (.tok .brk :: it) = .cont st it [.lit close] := rfl

theorem indefStep_tok (msg close : String) (more st : List E) {ts : List Token} (h : StartsItem ts)
    (it : List TokItem) :
    indefStep msg close more st (ts.map TokItem.tok ++ it) = .cont (more ++ st) (ts.map TokItem.tok ++ it) [] := by
  obtain ⟨t, r, rfl, ht⟩ := h
  cases t <;> first | rfl | exact absurd rfl ht

theorem dstep_X_tok (s : String) (st : List E) {ts : List Token} (h : StartsItem ts)
    (it : List TokItem) :
    dstep (.X s) st (ts.map TokItem.tok ++ it) = .cont st (ts.map TokItem.tok ++ it) [.lit s] := by
  obtain ⟨t, r, rfl, ht⟩ := h
  cases t <;> first | rfl | exact absurd rfl ht

/-- a unit of a sequence: tokens `ts`, notation `ps`, run under the stack prefix `elt`. -/
def SeqUnit (elt : List E) (ts : List Token) (ps : List Piece) : Prop :=
  (∀ st, Runs (elt ++ st) ts ps st) ∧ StartsItem ts

variable {α : Type} {tk : α → List Token} {pc : α → List Piece}

/-- a definite-length sequence: the counter `mk xs.length` facing the units `xs`. -/
theorem runs_def (mk : Nat → E) (elt : List E) (close : String)
    (h0 : ∀ st it, dstep (mk 0) st it = .cont st it [.lit close])
    (h1 : ∀ st it, dstep (mk 1) st it = .cont (elt ++ mk 0 :: st) it [])
    (h2 : ∀ n st it, dstep (mk (n + 2)) st it = .cont (elt ++ .S ", " :: mk (n + 1) :: st) it [])
    (xs : List α) (hx : ∀ x ∈ xs, SeqUnit elt (tk x) (pc x)) (st : List E) :
    Runs (mk xs.length :: st) (xs.flatMap tk) (commaSep (xs.map pc) ++ [.lit close]) st := by
  induction xs with
  | nil => simpa [commaSep] using Runs.step (ts := []) (fun _ => h0 st _) (Runs.nil st)
  | cons x xs ih =>
    have ih := ih fun y hy => hx y (List.mem_cons_of_mem _ hy)
    have hu := (hx x List.mem_cons_self).1
    cases xs with
    | nil =>
      have := Runs.step (fun _ => h1 st _) ((hu _).trans ih)
      simpa [commaSep] using this
    | cons y ys =>
      have := Runs.step (fun _ => h2 ys.length st _)
        ((hu _).trans (Runs.step (e := .S ", ") (fun _ => rfl) ih))
      simpa [commaSep] using this

/-- an indefinite-length sequence under its marker `e`, which closes on `break` (`hb`) and otherwise
    schedules a unit, an `E::X` and itself (`ht`); the `E::X` looks ahead for the `break`. -/
theorem runs_indef (e : E) (elt : List E) (close : String)
    (hb : ∀ st it, dstep e st (.tok .brk :: it) = .cont st it [.lit close])
    (ht : ∀ st (ts : List Token), StartsItem ts → ∀ it,
      dstep e st (ts.map TokItem.tok ++ it) = .cont (elt ++ .X ", " :: e :: st) (ts.map TokItem.tok ++ it) [])
    (xs : List α) (hx : ∀ x ∈ xs, SeqUnit elt (tk x) (pc x)) (st : List E) :
    Runs (e :: st) (xs.flatMap tk ++ [.brk]) (commaSep (xs.map pc) ++ [.lit close]) st := by
  induction xs with
  | nil => simpa [commaSep] using Runs.step (ts := [.brk]) (fun _ => hb st _) (Runs.nil st)
  | cons x xs ih =>
    have ih := ih fun y hy => hx y (List.mem_cons_of_mem _ hy)
    have hu := hx x List.mem_cons_self
    -- the marker sees a token and schedules the unit, `X` and itself; the unit runs
    have start : ∀ {ps}, Runs (.X ", " :: e :: st) (xs.flatMap tk ++ [.brk]) ps st →
        Runs (e :: st) (tk x ++ (xs.flatMap tk ++ [.brk])) (pc x ++ ps) st := fun hr => by
      simpa using Runs.step (ht st _ (hu.2.append _)) ((hu.1 _).trans hr)
    cases xs with
    | nil =>
      have := start (Runs.step (e := .X ", ") (ts := [.brk]) (fun _ => rfl) ih)
      simpa [commaSep] using this
    | cons y ys =>
      have hd : StartsItem ((y :: ys).flatMap tk ++ [.brk]) := by
        simpa using (hx y (by simp)).2.append (ys.flatMap tk ++ [.brk])
      have := start (Runs.step (dstep_X_tok ", " _ hd) ih)
      simpa [commaSep] using this

def pairs : List α → List (α × α)
  | a :: b :: r => (a, b) :: pairs r
  | _ => []

theorem pairs_spec (tk : α → List Token) (pc : α → List Piece) (n : Nat) (l : List α) (h : l.length = 2 * n) :
    (pairs l).length = n ∧ (pairs l).flatMap (fun p => tk p.1 ++ tk p.2) = l.flatMap tk ∧
      commaSep ((pairs l).map fun p => pc p.1 ++ [.lit ": "] ++ pc p.2) = kvSep (l.map pc) ∧
      ∀ p ∈ pairs l, p.1 ∈ l ∧ p.2 ∈ l := by
  induction n generalizing l with
  | zero =>
    have : l = [] := List.eq_nil_of_length_eq_zero (by omega)
    subst this; simp [pairs, commaSep, kvSep]
  | succ n ih =>
    match l, h with
    | a :: b :: r, h =>
      obtain ⟨h1, h2, h3, h4⟩ := ih r (by simp only [List.length_cons] at h; omega)
      refine ⟨by simp [pairs, h1], by simp [pairs, h2], ?_, ?_⟩
      · match r, n, h1 with
        | [], _, _ => simp [pairs, commaSep, kvSep]
        | [_], _, _ => simp at h; omega
        | c :: d :: r', _, _ => simp only [pairs, List.map_cons, commaSep, kvSep] at h3 ⊢; rw [h3]
      · intro p hp
        simp only [pairs, List.mem_cons] at hp ⊢
        rcases hp with rfl | hp
        · simp
        · have := h4 p hp; simp [this]

theorem seqUnit_pair {k v : DItem} (hk : Good k) (hv : Good v) :
    SeqUnit [.N, .S ": ", .N] (k.1 ++ v.1) (k.2 ++ [.lit ": "] ++ v.2) := by
  refine ⟨fun st => ?_, StartsItem.append hk.2 _⟩
  simpa using (hk.1.runs _).trans (Runs.step (e := .S ": ") (fun _ => rfl) (hv.1.runs st))

end Minicbor
