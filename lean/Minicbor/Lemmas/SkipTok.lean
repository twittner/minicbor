/-
  The token view of `skip`.  One iteration of the loop reads a token (`armTok`: which bytes it
  consumes depends neither on the build nor on the state) and applies it to the state
  (`applyTok`: pure, or the no-alloc build's "unsupported" error); `skipArm_eq` holds on
  arbitrary bytes.  Every valid wire tree begins with exactly one token (`armTok_encW`); what the
  string iterators do on a valid string comes from Lemmas/Accessors.lean.
-/
import Minicbor.Lemmas.Accessors

namespace Minicbor
open Dec

theorem head_split_ai (m : Nat) (hm : m ≤ 7) (w : Width) (n : Nat) (h : w.fits n = true) :
    (u8 (m * 32 + w.ai n)).toNat / 32 = m ∧ (u8 (m * 32 + w.ai n)).toNat % 32 = w.ai n ∧ w.ai n ≠ 31 := by
  have := Width.ai_le w n h
  rw [headByte_toNat m w n (by omega) h]; omega

/-- what one iteration of the loop reads, independently of the state. -/
inductive Tok where
  | item | defn (n : Nat) | indef | brk | tag
  deriving Repr, DecidableEq

/-- the token for what `array()`/`map()` return: `Some(len)` is a definite head announcing `f len`
    items (`f = satMul2` for maps: key and value), `None` an indefinite one. -/
def optTok (f : Nat → Nat) : Option Nat → Tok
  | some k => .defn (f k)
  | none => .indef

/-- the token at the head of the input (mirrors the `match` of `skip`, without the state). -/
def Dec.armTok : Dec Tok := do
  let b ← current
  let n := b.toNat
  if n ≤ 0x1b then do
    let _ ← intAcc .u64; pure .item
  else if 0x20 ≤ n && n ≤ 0x3b then do
    let _ ← intAcc .int; pure .item
  else if 0x40 ≤ n && n ≤ 0x5f then do
    skipString false; pure .item
  else if 0x60 ≤ n && n ≤ 0x7f then do
    skipString true; pure .item
  else if 0x80 ≤ n && n ≤ 0x9f then do
    let o ← array; pure (optTok id o)
  else if 0xa0 ≤ n && n ≤ 0xbf then do
    let o ← map; pure (optTok satMul2 o)
  else if 0xc0 ≤ n && n ≤ 0xdb then do
    let h ← read
    let _ ← unsigned (infoOf h)
    pure .tag
  else if 0xe0 ≤ n && n ≤ 0xfb then do
    let h ← read
    let _ ← unsigned (infoOf h)
    pure .item
  else if n == 0xff then do
    let _ ← read
    pure .brk
  else typeMismatch b

/-- state after a definite array/map head announcing `n` further items (for maps `n` is already doubled).
    `n = 0 ∧ alloc`: the alloc build matches `Some(0) => {}` before `Some(n)` (the `some 0` arms of `skipArm`,
    Skip.lean), so an empty container neither pushes `Some(0)` on the stack nor touches `nrounds`; the
    no-alloc build has no such arm and adds 0. -/
def defSt (alloc : Bool) (s : SkipSt) (n : Nat) : SkipSt :=
  if n = 0 ∧ alloc = true then s else skipDefinite alloc s n

/-- state after an indefinite array/map head (`none`: the no-alloc build gives up). -/
def indefSt (alloc : Bool) (s : SkipSt) : Option SkipSt :=
  if alloc && !s.counting then some { s with stack := none :: s.stack }
  else if s.nr < 2 then some { s with ir := satAdd s.ir 1 }
  else if alloc then
    some { nr := 0, ir := 0, stack := none :: some (s.nr - 1) :: (List.replicate s.ir none ++ s.stack) }
  else none

def brkSt (alloc : Bool) (s : SkipSt) : SkipSt :=
  if alloc && !s.counting then
    match s.stack with
    | none :: rest => { s with stack := rest }
    | _ => s
  else { s with ir := s.ir - 1 }

/-- the effect of a token on the state (before the bookkeeping). -/
def Dec.applyTok (alloc : Bool) (s : SkipSt) : Tok → Dec SkipArm
  | .item => pure (.next s)
  | .defn n => pure (.next (defSt alloc s n))
  | .indef => match indefSt alloc s with
      | some s' => pure (.next s')
      | none => fail .message
  | .brk => pure (.next (brkSt alloc s))
  | .tag => pure (.cont s)

theorem typeMismatch_bind (b : UInt8) (f : α → Dec β) :
    (typeMismatch b : Dec α) >>= f = typeMismatch b := by
  unfold typeMismatch
  rw [Dec.bind_assoc]
  congr 1

theorem skipIndefinite_bind (alloc : Bool) (s : SkipSt) :
    (skipIndefinite alloc s >>= fun s' => pure (SkipArm.next s')) = applyTok alloc s .indef := by
  simp only [applyTok]
  unfold skipIndefinite indefSt
  split
  · rfl
  · split
    · rfl
    · split <;> rfl

theorem skipArm_eq (alloc : Bool) (s : SkipSt) : skipArm alloc s = armTok >>= applyTok alloc s := by
  unfold skipArm armTok
  simp only [Dec.bind_assoc, ite_bind', Dec.pure_bind, typeMismatch_bind]
  congr 1; funext b
  repeat' (first | (apply ite_congr rfl <;> intro _) | rfl)
  · congr 1; funext o
    match o with
    | some 0 => cases alloc <;> simp [applyTok, optTok, defSt]
    | some (k + 1) => simp [applyTok, optTok, defSt]
    | none => exact skipIndefinite_bind alloc s
  · congr 1; funext o
    match o with
    | some 0 => cases alloc <;> simp [applyTok, optTok, defSt, satMul2]
    | some (k + 1) =>
      have : satMul2 (k + 1) ≠ 0 := by unfold satMul2 U64MAX; split <;> omega
      simp [applyTok, optTok, defSt, this]
    | none => exact skipIndefinite_bind alloc s
  · congr 1; funext _
    unfold applyTok brkSt
    split
    · split <;> simp_all
    · rfl

/-- major type 7 covers the simple values and the floats (`f9 xx xx` = `headW 7 .w2 _` …). -/
theorem Dec.armTok_headW (maj : Nat) (w : Width) (n : Nat) (rest : Bytes) (hm : maj < 8)
    (hs : maj ≠ 2 ∧ maj ≠ 3) (h : w.fits n = true) :
    armTok (headW maj w n ++ rest) =
      .ok (if maj = 4 then .defn n else if maj = 5 then .defn (satMul2 n) else if maj = 6 then .tag
           else .item) rest := by
  obtain ⟨b, e, hb, hM, h31, hu⟩ := headW_cons maj w n rest hm h
  have ha := Width.ai_le w n h
  have hn : n ≤ 18446744073709551615 := by have := Width.fits_lt w n h; omega
  rw [e]
  -- one major type at a time: the table `hr` of the tests in `armTok`'s `if` chain is slow for `omega`
  -- while `maj` is symbolic
  obtain hk | hk | hk | hk | hk | hk : maj = 0 ∨ maj = 1 ∨ maj = 4 ∨ maj = 5 ∨ maj = 6 ∨ maj = 7 := by omega
  all_goals
    have hr : (b.toNat ≤ 27 ↔ maj = 0) ∧ ((32 ≤ b.toNat ∧ b.toNat ≤ 59) ↔ maj = 1) ∧
        ¬ (64 ≤ b.toNat ∧ b.toNat ≤ 95) ∧ ¬ (96 ≤ b.toNat ∧ b.toNat ≤ 127) ∧
        ((128 ≤ b.toNat ∧ b.toNat ≤ 159) ↔ maj = 4) ∧ ((160 ≤ b.toNat ∧ b.toNat ≤ 191) ↔ maj = 5) ∧
        ((192 ≤ b.toNat ∧ b.toNat ≤ 219) ↔ maj = 6) ∧ ((224 ≤ b.toNat ∧ b.toNat ≤ 251) ↔ maj = 7) := by omega
  -- `intAcc` hands `unsigned` the initial byte itself (major type 0), or that byte less `0x20` (major type 1)
  · have : unsigned b (be w.bytes n ++ rest) = .ok n rest := by
      rwa [infoOf, show b.toNat % 32 = b.toNat by omega, u8_toNat_self] at hu
    simp [armTok, Dec.bind_run, hr, hk, intAcc, tryAs, IntTy.u64, this, hn]
  · have : unsigned (u8 (b.toNat - 32)) (be w.bytes n ++ rest) = .ok n rest := by
      rwa [infoOf, show b.toNat % 32 = b.toNat - 32 by omega] at hu
    simp [armTok, Dec.bind_run, hr, hk, intAcc, tryAs, IntTy.int, this, hn]
  · simp [armTok, Dec.bind_run, hr, hk, Dec.array, container, hM, h31, hu, optTok]
  · simp [armTok, Dec.bind_run, hr, hk, Dec.map, container, hM, h31, hu, optTok]
  · simp [armTok, Dec.bind_run, hr, hk, hu]
  · simp [armTok, Dec.bind_run, hr, hk, hu]

/-- `armTok` only looks at the initial byte to choose the string arms. -/
theorem Dec.armTok_string (text : Bool) (b0 : UInt8) (tl rest : Bytes) (cs : List Bytes)
    (hb : b0.toNat / 32 = (if text then 3 else 2))
    (hs : stringIter text (b0 :: tl) = .ok cs rest) : armTok (b0 :: tl) = .ok .item rest := by
  have hr : ¬ b0.toNat ≤ 27 ∧ ¬ (32 ≤ b0.toNat ∧ b0.toNat ≤ 59) ∧
      ((64 ≤ b0.toNat ∧ b0.toNat ≤ 95) ↔ text = false) ∧ ((96 ≤ b0.toNat ∧ b0.toNat ≤ 127) ↔ text = true) := by
    cases text <;> simp at hb ⊢ <;> omega
  cases text <;> simp [armTok, Dec.bind_run, hr, skipString, hs]

theorem Dec.armTok_indef (isMap : Bool) (rest : Bytes) :
    armTok ((if isMap then (0xbf : UInt8) else 0x9f) :: rest) = .ok .indef rest := by
  cases isMap <;> rfl

theorem Dec.armTok_brk (rest : Bytes) : armTok (0xff :: rest) = .ok .brk rest := rfl

def WItem.tok : WItem → Tok
  | .array _ xs => .defn xs.length
  | .map _ kvs => .defn (satMul2 (kvs.length / 2))
  | .arrayI _ | .mapI _ => .indef
  | .tag .. => .tag
  | _ => .item

/-- what follows the token `w.tok` in `encW w`. -/
def WItem.after : WItem → Bytes
  | .array _ xs | .map _ xs => encWs xs
  | .arrayI xs | .mapI xs => encWs xs ++ [0xff]
  | .tag _ _ x => encW x
  | _ => []

theorem satAdd_eq (a b : Nat) (h : a + b ≤ U64MAX) : satAdd a b = a + b := by
  unfold satAdd; simp [h]

theorem satAdd_le (a b : Nat) : satAdd a b ≤ U64MAX := by
  unfold satAdd; split <;> omega

theorem satAdd_le_add (a b : Nat) : satAdd a b ≤ a + b := by
  unfold satAdd; split <;> omega

theorem satMul2_half (l : Nat) (he : l % 2 = 0) (hl : l ≤ U64MAX) : satMul2 (l / 2) = l := by
  unfold satMul2
  have : 2 * (l / 2) = l := by omega
  simp [this, hl]

theorem WItem.after_length_lt (w : WItem) : w.after.length < (encW w).length := by
  cases w <;> simp [WItem.after, encW, headW_length] <;> (try split) <;> (try simp) <;> omega

theorem encWs_length_ge (xs : List WItem) : xs.length ≤ (encWs xs).length := by
  induction xs with
  | nil => simp [encWs]
  | cons x xs ih =>
    have := encW_length_pos x
    simp [encWs]; omega

theorem Dec.armTok_encW (w : WItem) (rest : Bytes) (hv : w.valid = true) :
    armTok (encW w ++ rest) = .ok w.tok (w.after ++ rest) := by
  cases w with
  | uint wd n => exact armTok_headW 0 wd n rest (by omega) (by omega) hv
  | nint wd n => exact armTok_headW 1 wd n rest (by omega) (by omega) hv
  | bytes wd b =>
    simp only [encW, List.append_assoc]
    exact armTok_string false _ _ _ _ (head_split_ai 2 (by omega) wd _ hv).1
      (stringIter_definite false wd b rest hv rfl)
  | text wd b =>
    simp only [WItem.valid, Bool.and_eq_true] at hv
    simp only [encW, List.append_assoc]
    exact armTok_string true _ _ _ _ (head_split_ai 3 (by omega) wd _ hv.1).1
      (stringIter_definite true wd b rest hv.1 hv.2)
  | bytesI cs =>
    simp only [encW, List.cons_append, List.append_assoc, List.nil_append]
    exact armTok_string false _ _ _ _ rfl (stringIter_indefinite false cs rest hv)
  | textI cs =>
    simp only [encW, List.cons_append, List.append_assoc, List.nil_append]
    exact armTok_string true _ _ _ _ rfl (stringIter_indefinite true cs rest hv)
  | array wd xs =>
    simp only [WItem.valid, Bool.and_eq_true] at hv
    simp only [encW, List.append_assoc]
    exact armTok_headW 4 wd _ _ (by omega) (by omega) hv.1
  | map wd xs =>
    simp only [WItem.valid, Bool.and_eq_true] at hv
    simp only [encW, List.append_assoc]
    exact armTok_headW 5 wd _ _ (by omega) (by omega) hv.1.2
  | arrayI xs =>
    simp only [encW, WItem.after, List.cons_append, List.append_assoc, List.nil_append]
    exact armTok_indef false _
  | mapI xs =>
    simp only [encW, WItem.after, List.cons_append, List.append_assoc, List.nil_append]
    exact armTok_indef true _
  | tag wd n x =>
    simp only [WItem.valid, Bool.and_eq_true] at hv
    simp only [encW, List.append_assoc]
    exact armTok_headW 6 wd n _ (by omega) (by omega) hv.1
  | simple n =>
    have e : encW (.simple n) = headW 7 (if n < 24 then .w0 else .w1) n := by
      unfold encW headW; split <;> simp [Width.ai, Width.bytes, be] <;> rfl
    rw [e]
    refine armTok_headW 7 _ n rest (by omega) (by omega) ?_
    simp only [WItem.valid, Bool.or_eq_true, Bool.and_eq_true, decide_eq_true_eq] at hv
    split <;> simp [Width.fits] <;> omega
  | f16 bits => exact armTok_headW 7 .w2 bits rest (by omega) (by omega) hv
  | f32 bits => exact armTok_headW 7 .w4 bits rest (by omega) (by omega) hv
  | f64 bits => exact armTok_headW 7 .w8 bits rest (by omega) (by omega) hv

end Minicbor
