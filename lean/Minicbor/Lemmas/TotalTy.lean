/-
  For C02: `Val.size`, and `NoPanic` / `Suffix` / `EoiNil` / `Stable` / the size bound for every
  `decodeT t`.  On the way: `decodeDuration` with its dead `panic` arm removed (`durOk`,
  `decodeDuration_eq`).
-/
import Minicbor.Lemmas.TotalComb
import Minicbor.Lemmas.C04Stable

namespace Minicbor

mutual
/-- allocation units of a decoded value: one per node, plus the payload length of strings;
    `some v` costs nothing beyond `v`; `tagged`/`variant` cost their heads. -/
def Val.size : Val → Nat
  | .int _ => 1
  | .bool _ => 1
  | .float _ => 1
  | .unit => 1
  | .none => 1
  | .str b => 1 + b.length
  | .bytes b => 1 + b.length
  | .some v => v.size
  | .list vs => 1 + Val.sizeList vs
  | .map vs => 1 + Val.sizeList vs
  | .tagged v => 1 + v.size
  | .variant _ v => 1 + v.size
def Val.sizeList : List Val → Nat
  | [] => 0
  | v :: vs => v.size + Val.sizeList vs
end

theorem Val.sizeList_eq (vs : List Val) : Val.sizeList vs = Dec.listSz Val.size vs := by
  induction vs with
  | nil => simp [Val.sizeList]
  | cons v vs ih => simp [Val.sizeList, ih]

theorem Val.size_pos : (v : Val) → 1 ≤ v.size
  | .int _ | .bool _ | .float _ | .unit | .none => by simp [Val.size]
  | .str b | .bytes b => by simp [Val.size]
  | .some v => by have := Val.size_pos v; simpa [Val.size] using this
  | .list vs | .map vs => by simp [Val.size]
  | .tagged v | .variant _ v => by simp [Val.size]

namespace Dec

theorem SizedBy.pickVariant {ms : List (Dec Val)} (h : ∀ m ∈ ms, Sized Val.size m) (i : Nat) :
    SizedBy 1 Val.size (Dec.pickVariant ms i) := by
  unfold Dec.pickVariant
  split
  · rename_i m hm
    have := h m (List.mem_of_getElem? hm)
    refine SizedBy.bind (this.weaken (sz' := fun v => v.size + 1) (c' := 1) (fun _ => by omega)) (fun v => ?_)
    exact SizedBy.pure (by simp [Val.size]; omega)
  · exact SizedBy.fail _ _ _

/-- the continuation of `decodeDuration` after the two fields, with the `| _ => panic` arm
    replaced by an error. -/
def durOk (sys : Bool) (l : List Int) : Dec Val :=
  match l with
  | [s, n] =>
      let secs := s.toNat + n.toNat / NANOS_PER_SEC
      if secs > 18446744073709551615 then fail .message
      else if sys && secs > 9223372036854775807 then fail .message
      else pure (.list [.int secs, .int (n.toNat % NANOS_PER_SEC)])
  | _ => fail .message

/-- the `| _ => panic` arm of `decodeDuration` is dead: `decode_fields!` with two fields returns
    exactly two values. -/
theorem decodeDuration_eq (sys : Bool) :
    Dec.decodeDuration sys = (Dec.fieldsDec [Dec.intAcc .u64, Dec.intAcc .u32] >>= durOk sys) := by
  funext bs
  unfold Dec.decodeDuration
  dsimp only
  rw [Dec.bind_run, Dec.bind_run]
  cases h : Dec.fieldsDec [Dec.intAcc IntTy.u64, Dec.intAcc IntTy.u32] bs with
  | ok l r =>
    have hl := fieldsDec_length h
    match l, hl with
    | [s, n], _ => rfl
  | err e r => rfl
  | panic => rfl

theorem forall_mem_pair {p : α → Prop} {a b : α} (ha : p a) (hb : p b) : ∀ x ∈ [a, b], p x := by
  intro x hx
  simp only [List.mem_cons, List.not_mem_nil, or_false] at hx
  rcases hx with rfl | rfl <;> assumption

theorem Rules.durOk {P : Nat → ∀ {α : Type}, Dec α → Prop} (h : Rules P) (sys : Bool) (l : List Int) :
    P 0 (Dec.durOk sys l) := by
  unfold Dec.durOk
  split
  · exact ite_pres (h.fail _ _) <| ite_pres (h.fail _ _) (h.pure _)
  · exact h.fail _ _

/-- `Duration::decode` / `SystemTime::decode` never panic: the carry `secs + nanos / 10^9` is
    range-checked (commit e7da71d; before it, `Duration::new` panicked on overflow). -/
theorem NoPanic.decodeDuration (sys : Bool) : NoPanic (Dec.decodeDuration sys) := by
  rw [decodeDuration_eq]
  exact NoPanic.bind
    (NoPanic.fieldsDec (forall_mem_pair (NoPanic.intAcc _) (NoPanic.intAcc _))
      (forall_mem_pair ((Consumes.intAcc _).mono (Nat.zero_le 1)) ((Consumes.intAcc _).mono (Nat.zero_le 1))))
    (NoPanic.rules.durOk sys)

theorem LoopRules.decodeDuration {R : Nat → ∀ {α : Type}, Dec α → Dec α → Prop} (h : LoopRules R) (sys : Bool) :
    R 1 (Dec.decodeDuration sys) (Dec.decodeDuration sys) := by
  rw [decodeDuration_eq]
  exact h.bindR (h.fieldsDec (forall_mem_pair (h.weaken (h.intAcc _)) (h.weaken (h.intAcc _)))) (h.durOk sys)

theorem LoopRules.tyRules {R : Nat → ∀ {α : Type}, Dec α → Dec α → Prop} (h : LoopRules R) :
    TyRules (fun k => fun m => R k m m) :=
  { h.toRules with
    skip := h.skip true
    duration := fun sys => h.weaken (h.decodeDuration sys)
    arrayIter := fun _ ht => h.weaken (h.arrayIter ht)
    arrayN := fun _ n ht => h.weaken (h.arrayN ht n)
    mapIter := fun _ _ hk hv => h.weaken (h.mapIter hk hv)
    fieldsDec := fun _ hts => h.weaken (h.fieldsDec hts) }

theorem EoiNil.decodeDuration (sys : Bool) : EoiNil (Dec.decodeDuration sys) := by
  rw [decodeDuration_eq]
  exact EoiNil.bind _ (EoiNil.fieldsDec _)

theorem Sized.decodeDuration (sys : Bool) : Sized Val.size (Dec.decodeDuration sys) := by
  rw [decodeDuration_eq]
  refine SizedBy.bind (Sized.fieldsDec (sz := fun _ => 1) (forall_mem_pair
    (SizedBy.of_consumes 0 (Consumes.intAcc _)) (SizedBy.of_consumes 0 (Consumes.intAcc _)))) (fun l => ?_)
  unfold Dec.durOk
  split
  · dsimp only
    refine ite_pres (SizedBy.fail _ _ _) (ite_pres (SizedBy.fail _ _ _) (SizedBy.pure ?_))
    simp [Val.size, Val.sizeList]
  · exact SizedBy.fail _ _ _

mutual
theorem decodeT_sized : (t : Ty) → Sized Val.size (decodeT t)
  | .int _ => SizedBy.bindC (Consumes.intAcc _) fun _ => SizedBy.pure (by simp [Val.size])
  | .bool => SizedBy.bindC Consumes.rules.bool fun _ => SizedBy.pure (by simp [Val.size])
  | .char => SizedBy.bindC Consumes.rules.char fun _ => SizedBy.pure (by simp [Val.size])
  | .f32 => SizedBy.bindC (Consumes.rules.f32 _) fun _ => SizedBy.pure (by simp [Val.size])
  | .f64 => SizedBy.bindC (Consumes.rules.f64 _) fun _ => SizedBy.pure (by simp [Val.size])
  | .str => SizedBy.bind Sized.str fun _ => SizedBy.pure (by simp [Val.size])
  | .bytes => SizedBy.bind Sized.bytes fun _ => SizedBy.pure (by simp [Val.size])
  | .barr _ => SizedBy.bind Sized.bytes fun _ => ite_pres (SizedBy.pure (by simp [Val.size])) (SizedBy.fail _ _ _)
  | .cstr => SizedBy.bind Sized.bytes fun b => by
      split
      · rename_i z revInit heq
        have hl : b.length = revInit.length + 1 := by simpa using congrArg List.length heq
        exact ite_pres (SizedBy.pure (by simp [Val.size]; omega)) (SizedBy.fail _ _ _)
      · exact SizedBy.fail _ _ _
  | .unit => SizedBy.bindC Consumes.array fun _ => ite_pres (SizedBy.pure (by simp [Val.size])) (SizedBy.fail _ _ _)
  | .skipUnit => SizedBy.bindC (Consumes.skip true) fun _ => SizedBy.pure (by simp [Val.size])
  | .opt t => SizedBy.bindC Consumes.datatype fun _ => ite_pres
      (SizedBy.bindC (Consumes.skip true) fun _ => SizedBy.pure (by simp [Val.size]))
      (SizedBy.bind (decodeT_sized t) fun _ => SizedBy.pure (by simp [Val.size]))
  | .seq t => SizedBy.bind (Sized.arrayIter (decodeT_sized t)) fun _ =>
      SizedBy.pure (by simp [Val.size, Val.sizeList_eq])
  | .arr n t => SizedBy.bind (Sized.arrayN (decodeT_sized t) n) fun _ =>
      SizedBy.pure (by simp [Val.size, Val.sizeList_eq])
  | .tup ts => SizedBy.bindC Consumes.array fun _ => ite_pres (SizedBy.fail _ _ _) <|
      SizedBy.bind ((Sized.seqAll (decoders_sized ts)).weaken (sz' := fun l => 1 + listSz Val.size l) (c' := 0 + 1)
        (fun _ => by omega)) fun _ => SizedBy.pure (by simp [Val.size, Val.sizeList_eq])
  | .map k v => SizedBy.bind (Sized.mapIter (decodeT_sized k) (decodeT_sized v)) fun _ =>
      SizedBy.pure (by simp [Val.size, Val.sizeList_eq])
  | .nz _ => SizedBy.bindC (Consumes.intAcc _) fun _ => ite_pres (SizedBy.fail _ _ _) (SizedBy.pure (by simp [Val.size]))
  | .tag => SizedBy.bindC Consumes.rules.tag fun _ => SizedBy.pure (by simp [Val.size])
  | .tagged _ t => SizedBy.bindC Consumes.rules.tag fun _ => ite_pres (SizedBy.fail _ _ _) <|
      SizedBy.bind ((decodeT_sized t).weaken (sz' := fun v => 1 + v.size) (c' := 0 + 1) (fun _ => by omega))
        fun _ => SizedBy.pure (by simp [Val.size])
  | .enum ts => SizedBy.bindC Consumes.array fun _ => ite_pres (SizedBy.fail _ _ _) <|
      SizedBy.bindC (Consumes.intAcc _) fun _ => (SizedBy.pickVariant (decoders_sized ts) _).weaken (fun _ => by omega)
  | .fields ts => SizedBy.bind (Sized.fieldsDec (decoders_sized ts)) fun _ =>
      SizedBy.pure (by simp [Val.size, Val.sizeList_eq])
  | .duration => Sized.decodeDuration _
  | .systime => Sized.decodeDuration _
theorem decoders_sized : (ts : List Ty) → ∀ m ∈ decoders ts, Sized Val.size m
  | [] => by intro m hm; simp [decoders] at hm
  | t :: ts => by
    intro m hm
    rcases mem_decoders_cons hm with rfl | hm
    · exact decodeT_sized t
    · exact decoders_sized ts m hm
end

theorem Consumes.decodeT (t : Ty) : Consumes (decodeT t) 1 :=
  (decodeT_sized t).to_consumes Val.size_pos

theorem Consumes.decoders (ts : List Ty) : ∀ m ∈ decoders ts, Consumes m 1 :=
  fun m hm => (decoders_sized ts m hm).to_consumes Val.size_pos

theorem NoPanic.tyRules : TyRules (fun _ => @NoPanic) :=
  { NoPanic.rules with
    skip := NoPanic.skip true
    duration := NoPanic.decodeDuration
    arrayIter := fun t ht => NoPanic.arrayIter ht (Consumes.decodeT t)
    arrayN := fun t n ht => NoPanic.arrayN ht (Consumes.decodeT t) n
    mapIter := fun k v hk hv =>
      NoPanic.mapIter hk hv (Consumes.decodeT k) ((Consumes.decodeT v).mono (Nat.zero_le _))
    fieldsDec := fun ts hts =>
      NoPanic.fieldsDec hts fun m hm => (Consumes.decoders ts m hm).mono (Nat.zero_le _) }

theorem decodeT_noPanic (t : Ty) : NoPanic (decodeT t) := NoPanic.tyRules.decodeT t

theorem decoders_noPanic : (ts : List Ty) → ∀ m ∈ decoders ts, NoPanic m :=
  NoPanic.tyRules.decoders

theorem decodeT_suffix (t : Ty) : Suffix (decodeT t) := Suffix.rules.tyRules.decodeT t

theorem decoders_suffix : (ts : List Ty) → ∀ m ∈ decoders ts, Suffix m :=
  Suffix.rules.tyRules.decoders

theorem decodeT_eoiNil : (t : Ty) → EoiNil (decodeT t)
  | .int _ | .nz _ => EoiNil.bind _ (EoiNil.intAcc _)
  | .bool => EoiNil.bind _ EoiNil.bool
  | .char => EoiNil.bind _ EoiNil.char
  | .f32 => EoiNil.bind _ (EoiNil.f32 _)
  | .f64 => EoiNil.bind _ (EoiNil.f64 _)
  | .str => EoiNil.bind _ EoiNil.str
  | .bytes | .barr _ | .cstr => EoiNil.bind _ EoiNil.bytes
  | .unit | .tup _ | .enum _ => EoiNil.bind _ EoiNil.array
  | .skipUnit => EoiNil.bind _ (EoiNil.skip _)
  | .opt _ => EoiNil.bind _ EoiNil.datatype
  | .seq _ => EoiNil.bind _ (EoiNil.arrayIter _)
  | .arr _ _ => EoiNil.bind _ (EoiNil.arrayN _ _)
  | .map _ _ => EoiNil.bind _ (EoiNil.mapIter _ _)
  | .tag | .tagged _ _ => EoiNil.bind _ EoiNil.tag
  | .fields _ => EoiNil.bind _ (EoiNil.fieldsDec _)
  | .duration | .systime => EoiNil.decodeDuration _

theorem Stable.repeatN {m : Dec α} (hm : Stable m) (n : Nat) : Stable (Dec.repeatN m n) :=
  ExtRel.rules.repeatN hm n

theorem ExtRel.untilBreak {m : Dec α} (hm : Stable m) (f f' : Nat) (hf : f ≤ f') :
    ExtRel (Dec.untilBreak m f) (Dec.untilBreak m f') :=
  ExtRel.rules.untilBreak hm f f' hf

theorem Stable.arrayIter {m : Dec α} (hm : Stable m) : Stable (Dec.arrayIter m) :=
  ExtRel.rules.arrayIter hm

theorem Stable.mapIter {mk mv : Dec α} (hk : Stable mk) (hv : Stable mv) : Stable (Dec.mapIter mk mv) :=
  ExtRel.rules.mapIter hk hv

theorem ExtRel.arrayNIndef {m : Dec α} (hm : Stable m) (n f f' : Nat) (hf : f ≤ f') (k : Nat) :
    ExtRel (Dec.arrayNIndef m n f k) (Dec.arrayNIndef m n f' k) :=
  ExtRel.rules.arrayNIndef hm n f f' hf k

theorem Stable.arrayN {m : Dec α} (hm : Stable m) (n : Nat) : Stable (Dec.arrayN m n) :=
  ExtRel.rules.arrayN hm n

theorem Stable.fieldsDec {ms : List (Dec α)} (h : ∀ m ∈ ms, Stable m) : Stable (Dec.fieldsDec ms) :=
  ExtRel.rules.fieldsDec h

theorem Stable.pickVariant {ms : List (Dec Val)} (h : ∀ m ∈ ms, Stable m) (i : Nat) :
    Stable (Dec.pickVariant ms i) :=
  ExtRel.rules.pickVariant h i

theorem decodeT_stable (t : Ty) : Stable (decodeT t) := ExtRel.rules.tyRules.decodeT t

theorem decoders_stable : (ts : List Ty) → ∀ m ∈ decoders ts, Stable m :=
  ExtRel.rules.tyRules.decoders

theorem decodeT_prefix_eoi (t : Ty) (p q : Bytes) (v : Val) (r0 : Bytes)
    (h : decodeT t (p ++ q) = .ok v r0) (hlen : r0.length < q.length) :
    ∃ r, decodeT t p = .err .eoi r :=
  (decodeT_stable t).prefix_eoi (decodeT_noPanic t) h hlen

end Dec
end Minicbor
