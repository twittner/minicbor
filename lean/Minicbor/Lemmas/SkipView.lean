/-
  One iteration of the `skip` loop in the token view, on arbitrary bytes: the bookkeeping after the `match` as a
  total function on states (`postSt`: the loop's `break` is the state with an empty stack, which is not running),
  the effect of a token on the state through a whole iteration (`tokStep`), and `loop_tok`: a running loop reads
  a token and goes on from `tokStep`.
-/
import Minicbor.Encoder
import Minicbor.Lemmas.SkipTok
import Minicbor.Lemmas.Consumes

namespace Minicbor
open Dec

/-- `while let Some(Some(0)) = stack.last() { pop }; if let Some(Some(n)) = last_mut() { *n -= 1 }` -/
def postStack (st : List (Option Nat)) : List (Option Nat) :=
  match popZeros st with
  | some (k + 1) :: r => some k :: r
  | st' => st'

def postSt (alloc : Bool) (s : SkipSt) : SkipSt :=
  if alloc && !s.counting then { s with stack := postStack s.stack }
  else { s with nr := s.nr - 1 }

theorem not_counting_iff (s : SkipSt) : s.counting = false ↔ s.nr = 0 ∧ s.ir = 0 := by
  unfold SkipSt.counting; simp

theorem counting_mk (nr ir : Nat) (st : List (Option Nat)) :
    SkipSt.counting ⟨nr, ir, st⟩ = !(nr == 0 && ir == 0) := rfl

theorem skipLoop_done (alloc : Bool) (f : Nat) (s : SkipSt) (bs : Bytes)
    (h : skipRunning alloc s = false) : skipLoop alloc (f + 1) s bs = .ok () bs := by
  rw [skipLoop]; simp [h]

theorem skipPost_eq (alloc : Bool) (s : SkipSt) (r : Bytes) :
    skipPost alloc s r =
      .ok (if (alloc && !s.counting) = true ∧ popZeros s.stack = [] then none
           else some (postSt alloc s)) r := by
  unfold skipPost postSt postStack
  by_cases hm : (alloc && !s.counting) = true
  · simp only [hm, if_true, true_and]
    cases hp : popZeros s.stack with
    | nil => simp
    | cons x t =>
      match x with
      | none => simp
      | some 0 => exact absurd hp (popZeros_ne_zero _ _)
      | some (k + 1) => simp
  · simp [hm]

theorem postSt_break {alloc : Bool} {s : SkipSt} (hm : (alloc && !s.counting) = true)
    (hp : popZeros s.stack = []) : skipRunning alloc (postSt alloc s) = false := by
  have hc : s.counting = false := by cases alloc <;> simp_all
  obtain ⟨hnr, hir⟩ := (not_counting_iff s).1 hc
  simp [postSt, postStack, hm, hp, skipRunning, hnr, hir]

theorem postSt_nil (nr ir : Nat) : postSt true ⟨nr, ir, []⟩ = ⟨nr - 1, ir, []⟩ := by
  unfold postSt
  split
  · rename_i h
    obtain ⟨h1, h2⟩ := (not_counting_iff _).1 (by simpa using h)
    simp at h1 h2
    subst h1 h2
    rfl
  · rfl

theorem skipLoop_step (alloc : Bool) (f : Nat) (s : SkipSt) (bs : Bytes)
    (hrun : skipRunning alloc s = true) :
    skipLoop alloc (f + 2) s bs =
      match skipArm alloc s bs with
      | .ok (.cont s') r => skipLoop alloc (f + 1) s' r
      | .ok (.next s') r => skipLoop alloc (f + 1) (postSt alloc s') r
      | .err e r => .err e r
      | .panic => .panic := by
  rw [skipLoop]
  simp only [hrun, Bool.not_true, Bool.false_eq_true, if_false]
  rw [Dec.bind_run]
  cases skipArm alloc s bs with
  | ok a r =>
    cases a with
    | cont s' => rfl
    | next s' =>
      simp only []
      rw [Dec.bind_run, skipPost_eq]
      by_cases h : (alloc && !s'.counting) = true ∧ popZeros s'.stack = []
      · rw [if_pos h, skipLoop_done _ _ _ _ (postSt_break h.1 h.2)]; rfl
      · rw [if_neg h]
  | err e r => rfl
  | panic => rfl

/-- the effect of one whole iteration (token + bookkeeping) on the state; `none`: the no-alloc
    build refuses an indefinite array/map while more than one item is pending. -/
def tokStep (alloc : Bool) (s : SkipSt) : Tok → Option SkipSt
  | .item => some (postSt alloc s)
  | .defn n => some (postSt alloc (defSt alloc s n))
  | .indef => (indefSt alloc s).map (postSt alloc)
  | .brk => some (postSt alloc (brkSt alloc s))
  | .tag => some s

theorem loop_tok (alloc : Bool) (s : SkipSt) (bs : Bytes) (f : Nat)
    (hrun : skipRunning alloc s = true) :
    skipLoop alloc (f + 2) s bs =
      match armTok bs with
      | .ok t r =>
        (match tokStep alloc s t with
         | some s' => skipLoop alloc (f + 1) s' r
         | none => .err .message r)
      | .err e r => .err e r
      | .panic => .panic := by
  rw [skipLoop_step _ _ _ _ hrun, skipArm_eq, Dec.bind_run]
  cases armTok bs with
  | ok t r =>
    cases t with
    | indef =>
      simp only [applyTok, tokStep]
      cases indefSt alloc s <;> rfl
    | _ => rfl
  | err e r => rfl
  | panic => rfl

/-- `k` iterations take the loop from `(c, bs)` to `(c', bs')`, whatever the spare fuel. -/
def SkipSteps (alloc : Bool) (k : Nat) (c : SkipSt) (bs : Bytes) (c' : SkipSt) (bs' : Bytes) : Prop :=
  ∀ f, skipLoop alloc (f + 1 + k) c bs = skipLoop alloc (f + 1) c' bs'

theorem SkipSteps.refl (alloc : Bool) (c : SkipSt) (bs : Bytes) : SkipSteps alloc 0 c bs c bs := fun _ => rfl

theorem SkipSteps.trans {alloc : Bool} {k1 k2 : Nat} {c c1 c2 : SkipSt} {bs bs1 bs2 : Bytes}
    (h1 : SkipSteps alloc k1 c bs c1 bs1) (h2 : SkipSteps alloc k2 c1 bs1 c2 bs2) :
    SkipSteps alloc (k1 + k2) c bs c2 bs2 := by
  intro f
  have e : f + 1 + (k1 + k2) = (f + k2) + 1 + k1 := by omega
  rw [e, h1 (f + k2)]
  have e2 : f + k2 + 1 = f + 1 + k2 := by omega
  rw [e2, h2 f]

theorem SkipSteps.tok {alloc : Bool} {c c' : SkipSt} {bs r : Bytes} {t : Tok}
    (hrun : skipRunning alloc c = true) (ht : armTok bs = .ok t r) (hs : tokStep alloc c t = some c') :
    SkipSteps alloc 1 c bs c' r := by
  intro f
  rw [loop_tok alloc c bs f hrun, ht]
  simp only [hs]

theorem skip_one_tok {alloc : Bool} {bs r : Bytes} {t : Tok} {c : SkipSt} (ht : armTok bs = .ok t r)
    (hs : tokStep alloc SkipSt.init t = some c) (hc : skipRunning alloc c = false) :
    Dec.skip alloc bs = .ok () r := by
  unfold Dec.skip
  simp only [Dec.bind_run, Dec.remaining]
  rw [loop_tok alloc _ bs bs.length (by cases alloc <;> rfl), ht]
  simp only [hs]
  exact skipLoop_done _ _ _ _ hc

/-- a bare break byte is not an item, yet `skip` gets across it: `irounds.saturating_sub(1)`, then
    `nrounds` drops to 0.  The derived decoders of indefinite containers rely on it. -/
theorem skip_break (rest : Bytes) : Dec.skip true (0xff :: rest) = .ok () rest :=
  skip_one_tok (armTok_brk rest) rfl rfl

theorem skip_null (rest : Bytes) : Dec.skip true (Enc.null ++ rest) = .ok () rest :=
  skip_one_tok (t := .item) rfl rfl rfl

end Minicbor
