/-
  For C02: the predicates behind "decoding is total" with their rules for `bind`, and their
  instances for the accessors of Decoder.lean and for `skip`.  `Suffix`: the position never leaves the buffer and
  never moves backwards (after ok or err).  `EoiNil`: at the end of the input the action answers `end of input` and
  stays where it is.  `SizedBy c sz`: the decoded value is paid for by consumed bytes (`c` = credit from bytes
  already consumed by the caller); `Consumes m k` of Lemmas/Consumes.lean is `SizedBy 0 (fun _ => k) m`.
-/
import Minicbor.Types
import Minicbor.Lemmas.Reads
import Minicbor.Lemmas.TokenBasic

namespace Minicbor.Dec

theorem bind_err_inv {m : Dec α} {f : α → Dec β} {bs : Bytes} {e : Err} {r : Bytes}
    (h : (m >>= f) bs = .err e r) :
    m bs = .err e r ∨ ∃ a r', m bs = .ok a r' ∧ f a r' = .err e r := by
  rw [Dec.bind_run] at h
  cases hmb : m bs with
  | ok a r' => rw [hmb] at h; exact .inr ⟨a, r', rfl, h⟩
  | err e' r' => rw [hmb] at h; cases h; exact .inl rfl
  | panic => rw [hmb] at h; cases h

def Suffix (m : Dec α) : Prop :=
  ∀ bs, (∀ a r, m bs = .ok a r → r <:+ bs) ∧ (∀ e r, m bs = .err e r → r <:+ bs)

namespace Suffix

theorem pure (a : α) : Suffix (Pure.pure a : Dec α) := by
  intro bs; constructor
  · intro a' r h; cases h; exact List.suffix_refl _
  · intro e r h; cases h

theorem fail (e : Err) : Suffix (Dec.fail e : Dec α) := by
  intro bs; constructor
  · intro a' r h; cases h
  · intro e r h; cases h; exact List.suffix_refl _

theorem panic : Suffix (Dec.panic : Dec α) := by
  intro bs; constructor
  · intro a' r h; cases h
  · intro e r h; cases h

theorem read : Suffix Dec.read := by
  intro bs; cases bs with
  | nil => constructor
           · intro a r h; cases h
           · intro e r h; cases h; exact List.suffix_refl _
  | cons b bs => constructor
                 · intro a r h; cases h; exact List.suffix_cons _ _
                 · intro e r h; cases h

theorem current : Suffix Dec.current := by
  intro bs; cases bs with
  | nil => constructor
           · intro a r h; cases h
           · intro e r h; cases h; exact List.suffix_refl _
  | cons b bs => constructor
                 · intro a r h; cases h; exact List.suffix_refl _
                 · intro e r h; cases h

theorem peek : Suffix Dec.peek := by
  intro bs
  match bs with
  | [] => constructor
          · intro a r h; cases h
          · intro e r h; cases h; exact List.suffix_refl _
  | [_] => constructor
           · intro a r h; cases h
           · intro e r h; cases h; exact List.suffix_refl _
  | _ :: _ :: _ => constructor
                   · intro a r h; cases h; exact List.suffix_refl _
                   · intro e r h; cases h

theorem remaining : Suffix Dec.remaining := by
  intro bs; constructor
  · intro a r h; cases h; exact List.suffix_refl _
  · intro e r h; cases h

theorem readSlice (n : Nat) : Suffix (Dec.readSlice n) := by
  intro bs; unfold Dec.readSlice; constructor
  · intro a r h; split at h
    · cases h; exact List.drop_suffix _ _
    · cases h
  · intro e r h; split at h
    · cases h
    · cases h; exact List.suffix_refl _

theorem bind {m : Dec α} {f : α → Dec β} (hm : Suffix m) (hf : ∀ a, Suffix (f a)) :
    Suffix (m >>= f) := fun bs =>
  ⟨fun b r h => let ⟨a, r', h1, h2⟩ := bind_ok_inv h; ((hf a r').1 b r h2).trans ((hm bs).1 a r' h1),
   fun e r h => (bind_err_inv h).elim ((hm bs).2 e r) fun ⟨a, r', h1, h2⟩ =>
     ((hf a r').2 e r h2).trans ((hm bs).1 a r' h1)⟩

theorem rules : LoopRules (fun _ => fun m _ => Suffix m) :=
  .of_pred (P := fun _ => @Suffix) ⟨pure, fun _ => fail, read, current, peek, readSlice, bind, id⟩ remaining fun _ => panic

theorem length_err {m : Dec α} (h : Suffix m) {bs : Bytes} {e : Err} {r : Bytes} (he : m bs = .err e r) :
    r.length ≤ bs.length := ((h bs).2 e r he).length_le

end Suffix

def EoiNil (m : Dec α) : Prop := m [] = .err .eoi []

namespace EoiNil
theorem read : EoiNil Dec.read := rfl
theorem current : EoiNil Dec.current := rfl
theorem peek : EoiNil Dec.peek := rfl
theorem bind {m : Dec α} (f : α → Dec β) (hm : EoiNil m) : EoiNil (m >>= f) := by
  unfold EoiNil at *; rw [Dec.bind_run, hm]
end EoiNil

def SizedBy (c : Nat) (sz : α → Nat) (m : Dec α) : Prop :=
  ∀ bs a r, m bs = .ok a r → sz a + r.length ≤ c + bs.length

abbrev Sized (sz : α → Nat) (m : Dec α) : Prop := SizedBy 0 sz m

namespace SizedBy

theorem weaken {c c' : Nat} {sz sz' : α → Nat} {m : Dec α} (h : SizedBy c sz m)
    (hs : ∀ a, sz' a + c ≤ sz a + c') : SizedBy c' sz' m := by
  intro bs a r e; have := h bs a r e; have := hs a; omega

theorem pure {c : Nat} {sz : α → Nat} {a : α} (h : sz a ≤ c) : SizedBy c sz (Pure.pure a : Dec α) := by
  intro bs a' r e; cases e; omega

theorem fail (c : Nat) (sz : α → Nat) (e : Err) : SizedBy c sz (Dec.fail e : Dec α) := by
  intro bs a r h; cases h

theorem panic (c : Nat) (sz : α → Nat) : SizedBy c sz (Dec.panic : Dec α) := by
  intro bs a r h; cases h

theorem bind {c : Nat} {s1 : α → Nat} {s2 : β → Nat} {m : Dec α} {f : α → Dec β}
    (hm : SizedBy c s1 m) (hf : ∀ a, SizedBy (s1 a) s2 (f a)) : SizedBy c s2 (m >>= f) := by
  intro bs b r h
  obtain ⟨a, r', h1, h2⟩ := bind_ok_inv h
  have := hm bs a r' h1
  have := hf a r' b r h2
  omega

theorem fmap {c c' : Nat} {s1 : α → Nat} {s2 : β → Nat} {m : Dec α} {g : α → β} (hm : SizedBy c s1 m)
    (hg : ∀ a, s2 (g a) + c ≤ s1 a + c') : SizedBy c' s2 (m >>= fun a => Pure.pure (g a)) :=
  bind (hm.weaken (sz' := fun a => s2 (g a)) hg) fun _ => pure (Nat.le_refl _)

theorem of_consumes (c : Nat) {m : Dec α} {k : Nat} (h : Consumes m k) : SizedBy c (fun _ => c + k) m := by
  intro bs a r e; have := h bs a r e; show c + k + _ ≤ _; omega

theorem bindC {c k : Nat} {s2 : β → Nat} {m : Dec α} {f : α → Dec β}
    (hm : Consumes m k) (hf : ∀ a, SizedBy (c + k) s2 (f a)) : SizedBy c s2 (m >>= f) :=
  bind (of_consumes c hm) hf

theorem to_consumes {m : Dec α} {sz : α → Nat} {k : Nat} (h : SizedBy 0 sz m) (hk : ∀ a, k ≤ sz a) :
    Consumes m k := by
  intro bs a r e; have := h bs a r e; have := hk a; omega

end SizedBy

def listSz (sz : α → Nat) : List α → Nat
  | [] => 0
  | a :: l => sz a + listSz sz l

@[simp] theorem listSz_nil (sz : α → Nat) : listSz sz [] = 0 := rfl
@[simp] theorem listSz_cons (sz : α → Nat) (a : α) (l : List α) : listSz sz (a :: l) = sz a + listSz sz l := rfl

theorem listSz_append (sz : α → Nat) (l₁ l₂ : List α) : listSz sz (l₁ ++ l₂) = listSz sz l₁ + listSz sz l₂ := by
  induction l₁ with
  | nil => simp
  | cons a l ih => simp [ih]; omega

theorem listSz_flatten (sz : α → Nat) (ls : List (List α)) : listSz sz ls.flatten = listSz (listSz sz) ls := by
  induction ls with
  | nil => rfl
  | cons l ls ih => simp [listSz_append, ih]

theorem length_le_listSz (sz : α → Nat) (h : ∀ a, 1 ≤ sz a) (l : List α) : l.length ≤ listSz sz l := by
  induction l with
  | nil => simp
  | cons a l ih => have := h a; simp; omega

theorem SizedBy.readSlice (c n : Nat) : SizedBy c (fun b => c + b.length) (Dec.readSlice n) := by
  intro bs a r h
  unfold Dec.readSlice at h
  split at h
  · cases h; simp; omega
  · cases h

theorem SizedBy.typeMismatch (c : Nat) (sz : α → Nat) (b : UInt8) : SizedBy c sz (Dec.typeMismatch b : Dec α) :=
  fun bs a r h => absurd h (typeMismatch_not_ok b bs a r)

theorem NoPanic.array : NoPanic Dec.array := NoPanic.container _
theorem NoPanic.map : NoPanic Dec.map := NoPanic.container _
theorem NoPanic.undefined : NoPanic Dec.undefined := NoPanic.rules.undefined
theorem NoPanic.bytesIter : NoPanic Dec.bytesIter := NoPanic.stringIter _
theorem NoPanic.strIter : NoPanic Dec.strIter := NoPanic.stringIter _

theorem Suffix.unsigned (b : UInt8) : Suffix (Dec.unsigned b) := Suffix.rules.unsigned b
theorem Suffix.u64ToUsize (n : Nat) : Suffix (Dec.u64ToUsize n) := Suffix.rules.u64ToUsize n
theorem Suffix.intAcc (t : IntTy) : Suffix (Dec.intAcc t) := Suffix.rules.intAcc t
theorem Suffix.container (maj : Nat) : Suffix (Dec.container maj) := Suffix.rules.container maj
theorem Suffix.undefined : Suffix Dec.undefined := Suffix.rules.undefined
theorem Suffix.simple : Suffix Dec.simple := Suffix.rules.simple
theorem Suffix.datatype : Suffix Dec.datatype := Suffix.rules.datatype

theorem Suffix.chunkLoop (text : Bool) (fuel : Nat) : Suffix (Dec.chunkLoop text fuel) :=
  Suffix.rules.chunkLoop text fuel fuel (Nat.le_refl _)

theorem Suffix.skipLoop (alloc : Bool) (fuel : Nat) (s : SkipSt) : Suffix (Dec.skipLoop alloc fuel s) :=
  Suffix.rules.skipLoop alloc fuel fuel (Nat.le_refl _) s

theorem EoiNil.intAcc (t : IntTy) : EoiNil (Dec.intAcc t) := EoiNil.bind _ EoiNil.read
theorem EoiNil.bool : EoiNil Dec.bool := EoiNil.bind _ EoiNil.read
theorem EoiNil.f16 : EoiNil Dec.f16 := EoiNil.bind _ EoiNil.read
theorem EoiNil.f32 (half : Bool) : EoiNil (Dec.f32 half) := EoiNil.bind _ EoiNil.current
theorem EoiNil.f64 (half : Bool) : EoiNil (Dec.f64 half) := EoiNil.bind _ EoiNil.current
theorem EoiNil.char : EoiNil Dec.char := EoiNil.bind _ (EoiNil.intAcc _)
theorem EoiNil.bytes : EoiNil Dec.bytes := EoiNil.bind _ EoiNil.read
theorem EoiNil.str : EoiNil Dec.str := EoiNil.bind _ EoiNil.read
theorem EoiNil.stringIter (text : Bool) : EoiNil (Dec.stringIter text) := EoiNil.bind _ EoiNil.read
theorem EoiNil.bytesIter : EoiNil Dec.bytesIter := EoiNil.stringIter _
theorem EoiNil.strIter : EoiNil Dec.strIter := EoiNil.stringIter _
theorem EoiNil.container (maj : Nat) : EoiNil (Dec.container maj) := EoiNil.bind _ EoiNil.read
theorem EoiNil.array : EoiNil Dec.array := EoiNil.container _
theorem EoiNil.map : EoiNil Dec.map := EoiNil.container _
theorem EoiNil.tag : EoiNil Dec.tag := EoiNil.bind _ EoiNil.read
theorem EoiNil.null : EoiNil Dec.null := EoiNil.bind _ EoiNil.read
theorem EoiNil.undefined : EoiNil Dec.undefined := EoiNil.bind _ EoiNil.read
theorem EoiNil.simple : EoiNil Dec.simple := EoiNil.bind _ EoiNil.read
theorem EoiNil.datatype : EoiNil Dec.datatype := EoiNil.bind _ EoiNil.current
theorem EoiNil.skip (alloc : Bool) : EoiNil (Dec.skip alloc) := by
  cases alloc <;> rfl

theorem Consumes.array : Consumes Dec.array 1 := Consumes.container _
theorem Consumes.null : Consumes Dec.null 1 := Consumes.rules.null
theorem Consumes.undefined : Consumes Dec.undefined 1 := Consumes.rules.undefined

/-- the loop runs at least once: `nrounds = 1`. -/
theorem Consumes.skip (alloc : Bool) : Consumes (Dec.skip alloc) 1 := by
  intro bs a r h
  have c0 := Consumes.rules.skipLoop alloc (bs.length + 1) _ (Nat.le_refl _)
  have hrun : skipRunning alloc SkipSt.init = true := by cases alloc <;> rfl
  have first : Consumes (Dec.skipLoop alloc (bs.length + 2) SkipSt.init) 1 := by
    unfold Dec.skipLoop
    simp only [hrun, Bool.not_true, Bool.false_eq_true, if_false]
    exact Consumes.rules.bindR (Consumes.rules.skipArm alloc _) fun
      | .cont s' => c0 s'
      | .next s' => Consumes.rules.bindR (Consumes.rules.skipPost alloc s') fun
        | none => Consumes.pure _
        | some s'' => c0 s''
  exact first bs a r h

/-- a declared length that exceeds the input is an `end of input` error, never an allocation. -/
theorem Sized.bytes : Sized (fun b : Bytes => 1 + b.length) Dec.bytes := by
  unfold Dec.bytes
  refine SizedBy.bindC Consumes.read (fun b => ?_)
  refine ite_pres (SizedBy.typeMismatch _ _ _) ?_
  refine SizedBy.bindC (Consumes.rules.unsigned _) (fun n => ?_)
  refine SizedBy.bindC (Consumes.rules.u64ToUsize _) (fun n => ?_)
  exact SizedBy.readSlice _ _

theorem Sized.str : Sized (fun b : Bytes => 1 + b.length) Dec.str := by
  unfold Dec.str
  refine SizedBy.bindC Consumes.read (fun b => ?_)
  refine ite_pres (SizedBy.typeMismatch _ _ _) ?_
  refine SizedBy.bindC (Consumes.rules.unsigned _) (fun n => ?_)
  refine SizedBy.bindC (Consumes.rules.u64ToUsize _) (fun n => ?_)
  refine SizedBy.bind (SizedBy.readSlice _ _) (fun d => ?_)
  exact ite_pres (SizedBy.pure (Nat.le_refl _)) (SizedBy.fail _ _ _)

end Minicbor.Dec
