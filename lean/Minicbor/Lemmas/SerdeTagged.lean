/-
  Lemmas for C17: the derived visitors of enums and of structs with a flattened member, on
  the bytes `ser` writes: externally tagged (variant name, or a one-entry map), adjacently tagged
  (tag entry first), internally tagged and `#[serde(flatten)]` (entries buffered as `Content`).
-/
import Minicbor.Lemmas.SerdeContent

namespace Minicbor.C17
open Minicbor.Serde Minicbor.Dec

theorem datatype_str (n : Bytes) (h : nameOk n = true) : Peeks datatype (Enc.str n) .string :=
  (Writes.text n h).eq ▸ datatype_encW _ (Writes.text n h).valid

theorem datatype_map (n : Nat) (h : n < U64) : Peeks datatype (Enc.map n) .map :=
  C03.map_pref n h ▸ datatype_head 5 (prefWidth n) n (by omega) (.inl (by omega)) (prefWidth_fits n h)

theorem variantId_rt (vds : List VarDec) {n : Bytes} {vd : VarDec} (hfind : findVar vds n = some vd) (hn : nameOk n = true) :
    Reads (variantId vds) (Enc.str n) vd := by
  unfold variantId
  refine (key_rt n hn).bind_nil ?_
  rw [hfind]; exact Reads.ret vd

theorem deEnumBody_unit (vds : List VarDec) {n : Bytes} {vd : VarDec} {v : SVal} (hfind : findVar vds n = some vd)
    (hn : nameOk n = true) (hdec : Reads vd.dec [] v) : Reads (deEnumBody vds) (Enc.str n) v := by
  have hh : Peeks enumHeader (Enc.str n) () := (datatype_str n hn).bind fun _ => rfl
  exact Reads.peek hh ((variantId_rt vds hfind hn).bind_nil hdec)

theorem deEnumBody_content (vds : List VarDec) {n c : Bytes} {vd : VarDec} {v : SVal} (hfind : findVar vds n = some vd)
    (hn : nameOk n = true) (hdec : Reads vd.dec c v) : Reads (deEnumBody vds) (Enc.map 1 ++ (Enc.str n ++ c)) v := by
  have hh : Reads enumHeader (Enc.map 1) () := by
    refine Reads.peek (datatype_map 1 (by decide)) ?_
    simp only [beq_self_eq_true, if_true]
    exact (Reads.mapHead 1 (by decide)).bind_nil (Reads.ret ())
  exact hh.bind ((variantId_rt vds hfind hn).bind hdec)

/-- the right-hand sides end in `++ []`: that is the shape a chain of `Reads.bind` over the entries produces. -/
theorem ser_struct2 (a b : SVal) : ser (.struct [a, b]) = Enc.map 1 ++ (ser a ++ (ser b ++ [])) := by
  simp only [ser, sers, List.length_cons, List.length_nil, Nat.reduceAdd, Nat.reduceDiv]

theorem ser_struct4 (a b c d : SVal) :
    ser (.struct [a, b, c, d]) = Enc.map 2 ++ (ser a ++ (ser b ++ (ser c ++ (ser d ++ [])))) := by
  simp only [ser, sers, List.length_cons, List.length_nil, Nat.reduceAdd, Nat.reduceDiv]


theorem adjKey_key (tag content : Bytes) (n : Nat) {k : Bytes} {a : AdjKey} (hk : nameOk k = true)
    (ha : a = .tag ∧ k = tag ∨ a = .content ∧ k = content ∧ tag ≠ content) :
    Reads (adjKey tag content (some (n + 1))) (Enc.str k) (some a, some (n + 1)) := fun rest => by
  unfold adjKey
  simp only [adjNextKey]
  rw [Dec.bind_run]
  simp only [Dec.pure_run, Bool.not_true, Bool.false_eq_true, if_false]
  rw [Dec.bind_ok _ _ _ _ _ (key_rt k hk rest)]
  rcases ha with ⟨rfl, rfl⟩ | ⟨rfl, rfl, hne⟩
  · simp
  · have : (k == tag) = false := by simpa using fun e => hne e.symm
    simp [this]

theorem adjKey_end (tag content : Bytes) : Reads (adjKey tag content (some 0)) [] (none, some 0) := fun _ => rfl

theorem adjVariantA_rt (ads : List AdjDec) {n : Bytes} {ad : AdjDec} (hfind : findAdj ads n = some ad) (hn : nameOk n = true) :
    Reads (adjVariantA ads) (Enc.str n) ad := by
  have hh : Peeks enumHeader (Enc.str n) () := (datatype_str n hn).bind fun _ => rfl
  refine Reads.peek hh ((key_rt n hn).bind_nil ?_)
  rw [hfind]; exact Reads.ret ad

theorem deAtagBody_missing (tag content : Bytes) (ads : List AdjDec) {n : Bytes} {ad : AdjDec} {x : Option SVal}
    (hfind : findAdj ads n = some ad) (ht : nameOk tag = true) (hn : nameOk n = true) (hm : ad.missing = some x) :
    Reads (deAtagBody tag content ads) (Enc.map 1 ++ (Enc.str tag ++ (Enc.str n ++ []))) (adjResult tag content ad.name x) := by
  refine (Reads.mapHead 1 (by decide)).bind ((adjKey_key tag content 0 ht (.inl ⟨rfl, rfl⟩)).bind ((adjVariantA_rt ads hfind hn).bind ?_))
  refine (adjKey_end tag content).bind_nil ?_
  simp only [hm]; exact Reads.ret _

theorem deAtagBody_content (tag content : Bytes) (ads : List AdjDec) {n body : Bytes} {ad : AdjDec} {x : Option SVal}
    (hfind : findAdj ads n = some ad) (ht : nameOk tag = true) (hc : nameOk content = true) (hne : tag ≠ content)
    (hn : nameOk n = true) (hdec : Reads ad.dec body x) :
    Reads (deAtagBody tag content ads) (Enc.map 2 ++ (Enc.str tag ++ (Enc.str n ++ (Enc.str content ++ (body ++ [])))))
      (adjResult tag content ad.name x) := by
  refine (Reads.mapHead 2 (by decide)).bind ((adjKey_key tag content 1 ht (.inl ⟨rfl, rfl⟩)).bind ((adjVariantA_rt ads hfind hn).bind ?_))
  refine (adjKey_key tag content 0 hc (.inr ⟨rfl, rfl, hne⟩)).bind (hdec.bind ?_)
  exact (adjKey_end tag content).bind_nil (Reads.ret _)


theorem deAny_key (k : Bytes) (h : nameOk k = true) : Reads deAny (Enc.str k) (.str k) := de_any_on_ser (.str k) h

/-- `mk` is where the body's state keeps the buffer, `P` what the body needs of a buffered key. -/
theorem bufferRun {step : σ → Dec σ} (mk : List Content → σ) {P : Bytes → Prop}
    (hother : ∀ (acc : List Content) {k : Bytes} {v : SVal}, nameOk k = true → P k → vok v = true →
      Reads (step (mk acc)) (Enc.str k ++ ser v) (mk (acc ++ [.str k, cv v]))) :
    (ns : List Bytes) → (vs : List SVal) → ns.length = vs.length → (∀ n ∈ ns, nameOk n = true ∧ P n) → oks vs = true →
    ∀ (acc : List Content), Run step ns.length (mk acc) (sers (mkKvs ns vs)) (mk (acc ++ cKvs ns vs))
  | [], [], _, _, _, acc => by simpa [cKvs, mkKvs, sers] using Run.nil (step := step) (mk acc)
  | [], _ :: _, h, _, _, _ | _ :: _, [], h, _, _, _ => by simp at h
  | n :: ns, v :: vs, hl, hn, hoks, acc => by
    simp only [oks, Bool.and_eq_true] at hoks
    have ih := bufferRun mk hother ns vs (by simpa using hl) (fun m hm => hn m (by simp [hm])) hoks.2 (acc ++ [.str n, cv v])
    rw [sers_mkKvs_cons, show acc ++ cKvs (n :: ns) (v :: vs) = acc ++ [.str n, cv v] ++ cKvs ns vs by simp [cKvs]]
    exact .cons (hother acc (hn n (by simp)).1 (hn n (by simp)).2 hoks.1) ((key_noBrk n (hn n (by simp)).1).append _) ih

theorem itagStep_other (tag : Bytes) (vds : List VarDec) (o : Option VarDec) (acc : List Content) {k : Bytes} {v : SVal}
    (hk : nameOk k = true) (hne : k ≠ tag) (hv : vok v = true) :
    Reads (itagStep tag vds (o, acc)) (Enc.str k ++ ser v) (o, acc ++ [.str k, cv v]) := by
  unfold itagStep
  refine (deAny_key k hk).bind ?_
  have : (k == tag) = false := by simpa using hne
  simp only [this, Bool.false_eq_true, if_false]
  exact Reads.map (de_any_on_ser v hv) _

theorem itagStep_tag (tag : Bytes) (vds : List VarDec) (acc : List Content) {n : Bytes} {vd : VarDec}
    (ht : nameOk tag = true) (hfind : findVar vds n = some vd) (hn : nameOk n = true) :
    Reads (itagStep tag vds (none, acc)) (Enc.str tag ++ Enc.str n) (some vd, acc) := by
  unfold itagStep
  refine (deAny_key tag ht).bind ?_
  simp only [beq_self_eq_true, if_true, Option.isSome_none, Bool.false_eq_true, if_false]
  exact (variantId_rt vds hfind hn).map _

/-- internally tagged, the tag entry first (as `ser` writes it). -/
theorem deItagBody_rt (tag : Bytes) (vds : List VarDec) {n : Bytes} {vd : VarDec} (fn : List Bytes) (vals : List SVal)
    {v : SVal} (hfind : findVar vds n = some vd) (hl : fn.length = vals.length) (hnt : tag ∉ fn)
    (hok : ∀ m ∈ tag :: fn, nameOk m = true) (hn : nameOk n = true) (hoks : oks vals = true) (hlen : vals.length + 1 < U64)
    (hc : vd.fromC (some (.map (cKvs fn vals))) = .ok v) :
    Reads (deItagBody tag vds) (Enc.map (vals.length + 1) ++ (Enc.str tag ++ (Enc.str n ++ sers (mkKvs fn vals)))) v := by
  have hrun := (Run.one (itagStep_tag tag vds [] (hok tag (by simp)) hfind hn) ((key_noBrk tag (hok tag (by simp))).append _)).trans
    (bufferRun (some vd, ·) (itagStep_other tag vds (some vd)) fn vals hl
      (fun m hm => ⟨hok m (by simp [hm]), fun e => hnt (e ▸ hm)⟩) hoks [])
  rw [hl, Nat.add_comm, List.append_assoc] at hrun
  unfold deItagBody
  refine Reads.peek ((datatype_map _ hlen).append _) ?_
  simp only [beq_self_eq_true, Bool.true_or, if_true]
  refine mapVisit_def hrun hlen ?_
  simp only [List.nil_append, hc]; exact Reads.ret v


theorem findField_append (a b : List FieldDec) (k : Bytes) :
    findField (a ++ b) k = (match findField a k with | some f => some f | none => findField b k) := by
  induction a with
  | nil => simp [findField]
  | cons f a ih =>
    rw [List.cons_append, findField_cons, findField_cons]
    split
    · rfl
    · exact ih

theorem flatStep_known (direct : List FieldDec) (acc : List Content) {f : FieldDec} (hfind : findField direct f.name = some f)
    (hn : nameOk f.name = true) {c : Bytes} {v : SVal} (hv : Reads f.dec c v) {fd : Found} (hfr : fd.has f.name = false) :
    Reads (flatStep direct (fd, acc)) (Enc.str f.name ++ c) (fd ++ [(f.name, v)], acc) := by
  unfold flatStep
  refine (key_rt _ hn).bind ?_
  simp only [hfind, hfr, Bool.false_eq_true, if_false]
  exact hv.map _

theorem flatStep_other (direct : List FieldDec) (fd : Found) (acc : List Content) {k : Bytes} {v : SVal}
    (hk : nameOk k = true) (hnf : findField direct k = none) (hv : vok v = true) :
    Reads (flatStep direct (fd, acc)) (Enc.str k ++ ser v) (fd, acc ++ [.str k, cv v]) := by
  unfold flatStep
  refine (key_rt _ hk).bind ?_
  simp only [hnf]
  exact Reads.map (de_any_on_ser v hv) _

theorem flatTake_all (inner : List FieldDec) : (ns : List Bytes) → (vs : List SVal) →
    (∀ n ∈ ns, (findField inner n).isSome = true) → flatTake inner (cKvs ns vs) = cKvs ns vs
  | [], _, _ | _ :: _, [], _ => by simp [cKvs, flatTake]
  | n :: ns, v :: vs, h => by
    simp [cKvs, flatTake, h n (by simp), flatTake_all inner ns vs (fun m hm => h m (by simp [hm]))]


/-- `#[serde(flatten)]`: `pre` and `post` are read directly, the entries of the flattened member `inner` go
    through the buffer. -/
theorem deFlatBody_rt (pre inner post : List FieldDec) (preV inV postV : List SVal)
    (hnd : (pre.map (·.name) ++ inner.map (·.name) ++ post.map (·.name)).Nodup)
    (hok : ∀ n ∈ pre.map (·.name) ++ inner.map (·.name) ++ post.map (·.name), nameOk n = true)
    (hpre : AllRtD (pre.map (·.dec)) preV) (hpost : AllRtD (post.map (·.dec)) postV)
    (hin : AllRtC (inner.map (·.fromC)) inV) (hoks : oks inV = true) :
    Reads (deFlatBody pre inner post)
      (Enc.beginMap ++ (sers (mkKvs (pre.map (·.name)) preV ++ mkKvs (inner.map (·.name)) inV ++
        mkKvs (post.map (·.name)) postV) ++ Enc.end))
      (.map false (mkKvs (pre.map (·.name)) preV ++ mkKvs (inner.map (·.name)) inV ++ mkKvs (post.map (·.name)) postV)) := by
  have hlPre : pre.length = preV.length := by simpa using allRtD_length _ _ hpre
  have hlIn : (inner.map (·.name)).length = inV.length := by simpa using allRtC_length _ _ hin
  have hlPost : post.length = postV.length := by simpa using allRtD_length _ _ hpost
  rw [List.append_assoc, List.nodup_append] at hnd
  obtain ⟨hndPre, hndIP, hdisj⟩ := hnd
  rw [List.nodup_append] at hndIP
  obtain ⟨hndIn, hndPost, hdisjIP⟩ := hndIP
  have hwf : FieldsWf (pre ++ post) := ⟨by
    rw [List.map_append, List.nodup_append]
    exact ⟨hndPre, hndPost, fun a ha b hb => hdisj a ha b (by simp [hb])⟩,
    fun f hf => hok _ (by rcases List.mem_append.mp hf with h | h <;> simp [List.mem_map_of_mem (f := (·.name)) h])⟩
  have hInNone : ∀ n ∈ inner.map (·.name), nameOk n = true ∧ findField (pre ++ post) n = none := fun n hn =>
    ⟨hok n (by simp [hn]), findField_none _ n (by
      rw [List.map_append]; intro hm
      rcases List.mem_append.mp hm with h | h
      · exact hdisj n h n (by simp [hn]) rfl
      · exact hdisjIP n hn n h rfl)⟩
  -- the loop: direct fields, buffered entries, direct fields
  have hrun := (fieldsRun (·, []) hwf (flatStep_known _ []) pre preV (fun f hf => by simp [hf]) hndPre hpre [] (fun _ _ => rfl)).trans
    ((bufferRun (_, ·) (flatStep_other _ _) _ inV hlIn hInNone hoks []).trans
      (fieldsRun (·, _) hwf (flatStep_known _ _) post postV (fun f hf => by simp [hf]) hndPost hpost _
        (fun n hn => pairsOf_has_false _ _ n fun hm => hdisj n hm n (by simp [hn]) rfl)))
  have hfinPre := finish_rt pre preV hlPre hndPre [] (pairsOf (post.map (·.name)) postV) (fun _ _ => rfl)
  have hfinPost := finish_rt post postV hlPost hndPost (pairsOf (pre.map (·.name)) preV) []
    (fun n hn => pairsOf_has_false _ _ n fun hm => hdisj n hm n (by simp [hn]) rfl)
  have hinner : cStructMap inner (flatTake inner (cKvs (inner.map (·.name)) inV)) = .ok (mkKvs (inner.map (·.name)) inV) := by
    rw [flatTake_all inner _ inV fun n hn => by
      obtain ⟨f, hf, rfl⟩ := List.mem_map.mp hn
      rw [findField_mem inner hndIn f hf]; rfl]
    exact cStructMap_rt inner hndIn inV hin
  simp only [List.nil_append, List.append_nil] at hrun hfinPre hfinPost
  rw [← sers_append, ← sers_append, ← List.append_assoc] at hrun
  refine mapVisit_indef hrun ?_
  simp only [hfinPre, hfinPost, hinner]
  exact Reads.ret _

end Minicbor.C17
