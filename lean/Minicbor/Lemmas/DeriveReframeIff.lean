/-
  C09: the re-framing relation `rf` (Reframe.lean) characterised.  `Snd w i`: the wire tree `w`
  has the data-model value `i` and chunks no string.  Every predicate of Reframe.lean is `Snd` at
  one constructor of `Item`, and these compose into `rf_iff_all`:
      rf t v w  ↔  Snd w (specTy t v) ∧ noClash t v
  — the trees related to `v : t` are the unchunked trees of the documented item, and a value in the
  `Some(x) = null` exclusion has none.  Soundness of `reframes`, its completeness, its invariance
  under a change of framing and the membership of the preferred tree are read off it
  (Thm/C09Round.lean).
-/
import Minicbor.Lemmas.DeriveReframeCases

namespace Minicbor.Derive

def Snd (w : WItem) (i : Item) : Prop := value w = i ∧ noChunks w = true

def Snds (xs : List WItem) (is : List Item) : Prop := values xs = is ∧ noChunksAll xs = true

/-! ### `Snd` along the constructors of `Item` -/

theorem isNullW_iff {w : WItem} : isNullW w = true ↔ Snd w nullI := by
  cases w <;> simp [isNullW, Snd, value, noChunks, nullI]

theorem isUintW_iff {n : Nat} {w : WItem} : isUintW n w = true ↔ Snd w (.uint n) := by
  cases w <;> simp [isUintW, Snd, value, noChunks]

theorem isBoolW_iff {b : Bool} {w : WItem} : isBoolW b w = true ↔ Snd w (.simple (if b then 21 else 20)) := by
  cases w <;> simp [isBoolW, Snd, value, noChunks]

theorem isTextW_iff {b : Bytes} {w : WItem} : isTextW b w = true ↔ Snd w (.text b) := by
  cases w <;> simp [isTextW, Snd, value, noChunks]
  exact eq_comm

theorem isBytesW_iff {b : Bytes} {w : WItem} : isBytesW b w = true ↔ Snd w (.bytes b) := by
  cases w <;> simp [isBytesW, Snd, value, noChunks]
  exact eq_comm

theorem isIntW_iff {i : Int} {w : WItem} : isIntW i w = true ↔ Snd w (intItem i) := by
  cases w <;> simp only [isIntW, Snd, value, noChunks, intItem] <;> split <;> simp <;> omega

theorem snd_tag_iff {t : Option Nat} {x : WItem} {i : Item} :
    Snd x (tagI t i) ↔ ∃ y, untagW t x = some y ∧ Snd y i := by
  cases t with
  | none => simp [tagI, untagW]
  | some n => cases x <;> simp [tagI, untagW, Snd, value, noChunks, and_assoc]

theorem snd_array_iff {w : WItem} {is : List Item} : Snd w (.array is) ↔ ∃ xs, arrItems w = some xs ∧ Snds xs is := by
  cases w <;> simp [Snd, Snds, value, noChunks, arrItems]

theorem snd_map_iff {w : WItem} {is : List Item} : Snd w (.map is) ↔ ∃ kvs, mapItems w = some kvs ∧ Snds kvs is := by
  cases w <;> simp [Snd, Snds, value, noChunks, mapItems]

theorem snds_nil {is : List Item} : Snds [] is ↔ is = [] := by
  simp [Snds, values, noChunksAll, eq_comm]

theorem snds_cons_nil {x : WItem} {xs : List WItem} : ¬ Snds (x :: xs) [] := by
  simp [Snds, values]

theorem snds_cons {x : WItem} {xs : List WItem} {i : Item} {js : List Item} :
    Snds (x :: xs) (i :: js) ↔ Snd x i ∧ Snds xs js := by
  simp [Snds, Snd, values, noChunksAll, and_assoc, and_left_comm]

theorem snds_nil_right {xs : List WItem} : Snds xs [] ↔ xs = [] := by
  cases xs <;> simp [snds_nil, snds_cons_nil]

theorem snds_pair {xs : List WItem} {a b : Item} : Snds xs [a, b] ↔ ∃ x y, xs = [x, y] ∧ Snd x a ∧ Snd y b := by
  rcases xs with _ | ⟨x, _ | ⟨y, _ | ⟨_, _⟩⟩⟩ <;> simp [snds_nil, snds_cons, snds_cons_nil, and_assoc]

mutual
theorem snd_prefTree : ∀ i : Item, Snd (prefTree i) i
  | .uint _ | .nint _ | .bytes _ | .text _ | .simple _ | .f16 _ | .f32 _ | .f64 _ => ⟨rfl, rfl⟩
  | .array xs => snd_array_iff.2 ⟨_, rfl, snds_prefTrees xs⟩
  | .map kvs => snd_map_iff.2 ⟨_, rfl, snds_prefTrees kvs⟩
  | .tag n x => snd_tag_iff (t := some n).2 ⟨_, by simp [prefTree, untagW], snd_prefTree x⟩
theorem snds_prefTrees : ∀ is : List Item, Snds (prefTrees is) is
  | [] => snds_nil.2 rfl
  | x :: xs => snds_cons.2 ⟨snd_prefTree x, snds_prefTrees xs⟩
end

theorem snds_get {xs : List WItem} {is : List Item} :
    Snds xs is ↔ xs.length = is.length ∧ ∀ (k : Nat) (x : WItem) (i : Item), xs[k]? = some x → is[k]? = some i → Snd x i := by
  induction xs generalizing is with
  | nil => cases is <;> simp [snds_nil]
  | cons x xs ih =>
    cases is with
    | nil => simp [snds_cons_nil]
    | cons i js =>
      simp only [snds_cons, List.length_cons, Nat.add_right_cancel_iff, ih]
      constructor
      · rintro ⟨h0, hl, h⟩
        refine ⟨hl, fun k => ?_⟩
        cases k with
        | zero => simpa using h0
        | succ k => simpa using h k
      · rintro ⟨hl, h⟩
        exact ⟨h 0 x i rfl rfl, hl, fun k => by simpa using h (k + 1)⟩

theorem snds_range {xs : List WItem} {n : Nat} {c : Nat → Item} :
    Snds xs ((List.range n).map c) ↔ xs.length = n ∧ ∀ (k : Nat) (x : WItem), xs[k]? = some x → Snd x (c k) := by
  rw [snds_get, List.length_map, List.length_range]
  refine and_congr_right fun hl => forall_congr' fun k => forall_congr' fun x => ⟨fun h hx => ?_, fun h i hx hi => ?_⟩
  · have hk : k < n := hl ▸ (List.getElem?_eq_some_iff.1 hx).1
    exact h (c k) hx (by simp [hk])
  · obtain ⟨hk, rfl⟩ := List.getElem?_eq_some_iff.1 hi
    simpa using h hx

theorem entriesW_inv {kvs : List WItem} {es : List (Nat × WItem × WItem)} (h : entriesW kvs = some es) :
    (kvs = [] ∧ es = []) ∨ ∃ wd n x kvs' es', kvs = .uint wd n :: x :: kvs' ∧ entriesW kvs' = some es' ∧
      es = (n, .uint wd n, x) :: es' := by
  unfold entriesW at h
  split at h
  · exact Or.inl ⟨rfl, (Option.some.inj h).symm⟩
  · obtain ⟨es', he, rfl⟩ := Option.map_eq_some_iff.1 h
    exact Or.inr ⟨_, _, _, _, es', rfl, he, rfl⟩
  · cases h

theorem snds_entries (c : Nat → Item) : ∀ (ks : List Nat) (kvs : List WItem),
    Snds kvs (ks.flatMap fun i => [.uint i, c i]) ↔
      ∃ es, entriesW kvs = some es ∧ es.map (·.1) = ks ∧ ∀ e ∈ es, Snd e.2.2 (c e.1)
  | [], kvs => by
    rw [List.flatMap_nil, snds_nil_right]
    constructor
    · rintro rfl; exact ⟨[], rfl, rfl, fun _ h => nomatch h⟩
    · rintro ⟨es, he, hk, _⟩
      rcases entriesW_inv he with ⟨h, _⟩ | ⟨_, _, _, _, _, _, _, rfl⟩
      · exact h
      · cases hk
  | k :: ks, kvs => by
    rw [List.flatMap_cons]
    constructor
    · intro h
      rcases kvs with _ | ⟨a, _ | ⟨x, kvs⟩⟩
      · cases snds_nil.1 h
      · cases snds_nil.1 (snds_cons.1 h).2
      · obtain ⟨ha, hx, hr⟩ := snds_cons.1 h |>.imp_right snds_cons.1
        obtain ⟨wd, rfl⟩ := isUintW_eq k a (isUintW_iff.2 ha)
        obtain ⟨es, he, rfl, hs⟩ := (snds_entries c ks kvs).1 hr
        exact ⟨_, by rw [entriesW, he]; rfl, rfl, List.forall_mem_cons.2 ⟨hx, hs⟩⟩
    · rintro ⟨es, he, hk, hs⟩
      rcases entriesW_inv he with ⟨_, rfl⟩ | ⟨wd, n, x, kvs', es', rfl, he', rfl⟩
      · cases hk
      · obtain ⟨rfl, hks⟩ := List.cons.inj hk
        exact snds_cons.2 ⟨isUintW_iff.1 (by simp [isUintW]), snds_cons.2 ⟨(List.forall_mem_cons.1 hs).1,
          (snds_entries c ks kvs').2 ⟨es', he', hks, (List.forall_mem_cons.1 hs).2⟩⟩⟩

open Minicbor.C09

/-! ### the exclusion -/

/-- what `noClash` asks of a `Some(x)`: the documented item of `x` is not `null`. -/
theorem startOk_enc_iff {t : FTy} {x : Val} (ha : accField t = true) (hv : hasTy t x = true) :
    startOk (encTy t x) = true ↔ specTy t x ≠ nullI := by
  obtain ⟨he, hval⟩ := C08.denotes ha hv
  rw [he]
  refine ⟨fun h e => by rw [e] at h; exact absurd h (by decide), fun h => ?_⟩
  refine startOk_encW _ hval (Bool.eq_false_iff.2 fun hn => h ?_)
  rw [← (snd_prefTree (specTy t x)).1, (isNullW_iff.1 hn).1]

theorem noClash_of_nil {a : FAttr} {t : FTy} {v : Val} (hn : isNilField a t v = true) : noClash t v = true := by
  have : v = .none ∨ ∃ i, v = .int i := by
    unfold isNilField at hn
    split at hn <;> cases v <;> simp_all [Val.isNone, Val.isZero]
  rcases this with rfl | ⟨i, rfl⟩ <;> cases t <;> rfl

theorem noClashFields_iff : ∀ (fs : Fields) (vs : List Val), hasFields fs vs = true → (liveIdxs fs).Nodup →
    (noClashFields fs vs = true ↔ ∀ i a t v, lookupVal fs vs i = some (a, t, v) → noClash t v = true)
  | [], [], _, _ => by simp [noClashFields, lookupVal]
  | (a, t) :: fs, v :: vs, hty, hnd => by
    simp only [hasFields_cons, Bool.and_eq_true] at hty
    simp only [noClashFields, Bool.and_eq_true, Bool.or_eq_true, noClashFields_iff fs vs hty.2 (nodup_liveIdxs_cons hnd).2]
    constructor
    · rintro ⟨h1, h2⟩ i a' t' v' hl
      rcases lookupVal_cons_inv hl with ⟨hs, _, e⟩ | hl'
      · cases e; exact h1.resolve_left (by simp [hs])
      · exact h2 i a' t' v' hl'
    · intro h
      refine ⟨?_, fun i a' t' v' hl => h i a' t' v' (lookupVal_tail hnd hl)⟩
      cases hs : a.skip
      · exact Or.inr (h a.idx a t v (lookupVal_head hs))
      · exact Or.inl rfl
  | [], _ :: _, h, _ | _ :: _, [], h, _ => Bool.noConfusion h

theorem prefTrees_get : ∀ (xs : List Item) (i : Nat), (prefTrees xs)[i]? = (xs[i]?).map prefTree
  | [], i => by simp [prefTrees]
  | x :: xs, 0 => by simp [prefTrees]
  | x :: xs, i + 1 => by simp [prefTrees, prefTrees_get xs i]

def FieldsPref : Fields → List Val → Prop
  | (a, t) :: fs, v :: vs =>
      (a.skip = false → rfWith a.codec (rf t) v (prefTree (specWith a.codec (specTy t) v)) = true) ∧ FieldsPref fs vs
  | _, _ => True

theorem flatMap_congr' {α β : Type} {f g : α → List β} (l : List α) (h : ∀ a ∈ l, f a = g a) : l.flatMap f = l.flatMap g := by
  rw [List.flatMap_def, List.flatMap_def, List.map_congr_left h]

theorem entries_flatMap : ∀ (S : List (Piece Item)),
    entries S = (S.filter fun p => !p.nil).flatMap (fun p => [Item.uint p.idx, tagI p.tag p.body])
  | [] => rfl
  | p :: ps => by
    cases hn : p.nil <;> simp [entries, hn, entries_flatMap ps]

theorem specArray_cells (fs : Fields) (vs : List Val) :
    specArray (specFields fs vs) = .array ((List.range (arrLen fs vs)).map (cellAt (specFields fs vs))) := by
  rw [specArray_eq]
  unfold arrLen
  cases maxPresent (specFields fs vs) <;> rfl

theorem specMap_cells (fs : Fields) (vs : List Val) (hacc : acceptedFields fs = true) (hty : hasFields fs vs = true)
    (hnd : (liveIdxs fs).Nodup) :
    specMap (specFields fs vs) =
      .map ((presentIdxs fs vs).flatMap fun i => [.uint i, cellAt (specFields fs vs) i]) := by
  have nd := C08.specFields_nodup hty hnd
  rw [C08.spec_map_shape _ nd, presentIdxs_spec fs vs hacc hty, entries_flatMap, List.flatMap_map]
  congr 1
  apply flatMap_congr'
  intro p hp
  rw [cellAt_of_mem nd ((sortP_perm _).mem_iff.1 (List.mem_filter.1 hp).1)]

/-! ### struct / variant bodies -/

theorem nil_of_absent {enc : Encoding} {fs : Fields} {vs : List Val} {body : WItem} {cell : Nat → Option WItem}
    (hacc : acceptedFields fs = true) (hty : hasFields fs vs = true) (hc : bodyCells enc fs vs body = some cell)
    {i : Nat} {a : FAttr} {t : FTy} {v : Val} (hl : lookupVal fs vs i = some (a, t, v)) (hi : cell i = none) :
    isNilField a t v = true := by
  cases enc with
  | array =>
    obtain ⟨xs, _, hlen, _, rfl⟩ := bodyCells_array.1 hc
    cases hn : isNilField a t v
    · obtain ⟨m, hm, hle⟩ := le_maxPresent fs vs hacc hty i a t v hl hn
      have := List.getElem?_eq_none_iff.1 hi
      simp only [hlen, arrLen, hm] at this
      omega
    · rfl
  | map =>
    obtain ⟨kvs, es, _, _, hkeys, rfl⟩ := bodyCells_map.1 hc
    cases hn : isNilField a t v
    · obtain ⟨_, hai, hmem⟩ := lookupVal_mem fs vs i a t v hl
      obtain ⟨e, he, hei⟩ := List.mem_map.1 (hkeys ▸ (mem_presentIdxs fs vs i).2 ⟨_, hmem, hn, hai⟩)
      have := List.find?_eq_none.1 (Option.map_eq_none_iff.1 hi) e he
      simp [hei] at this
    · rfl

def FieldsIff : Fields → List Val → Prop
  | (a, t) :: fs, v :: vs =>
      (a.skip = false → ∀ y, rfWith a.codec (rf t) v y = true ↔
        Snd y (specWith a.codec (specTy t) v) ∧ noClash t v = true) ∧ FieldsIff fs vs
  | _, _ => True

theorem FieldsIff_lookup {fs : Fields} {vs : List Val} {i : Nat} {a : FAttr} {t : FTy} {v : Val}
    (hF : FieldsIff fs vs) (hl : lookupVal fs vs i = some (a, t, v)) (y : WItem) :
    rfWith a.codec (rf t) v y = true ↔ Snd y (specWith a.codec (specTy t) v) ∧ noClash t v = true :=
  lookupVal_elim (F := FieldsIff) (fun _ _ _ _ _ h => h) fs vs i a t v hF hl y

/-- what `rfFields` and `gapsNull` ask of the items on the wire, index by index. -/
theorem cell_iff {fs : Fields} {vs : List Val} (hty : hasFields fs vs = true) (hnd : (liveIdxs fs).Nodup)
    (hF : FieldsIff fs vs) (cell : Nat → Option WItem) :
    (rfFields fs vs cell = true ∧ ∀ i x, cell i = some x → i ∉ liveIdxs fs → isNullW x = true) ↔
      ∀ i x, cell i = some x → Snd x (cellAt (specFields fs vs) i) ∧
        ∀ a t v, lookupVal fs vs i = some (a, t, v) → noClash t v = true := by
  rw [rfFields_iff cell fs vs hty hnd]
  constructor
  · rintro ⟨h1, h2⟩ i x hc
    by_cases hm : i ∈ liveIdxs fs
    · obtain ⟨a, t, v, hl⟩ := live_lookup fs vs hty i hm
      obtain ⟨y, hu, hr⟩ := h1 i a t v x hl hc
      have := (FieldsIff_lookup hF hl y).1 hr
      rw [cellAt_lookup fs vs hty i a t v hl]
      exact ⟨snd_tag_iff.2 ⟨y, hu, this.1⟩, fun a' t' v' hl' => by rw [hl] at hl'; cases hl'; exact this.2⟩
    · rw [cellAt_gap fs vs hty i hm]
      exact ⟨isNullW_iff.1 (h2 i x hc hm), fun a t v hl => by rw [lookupVal_none_of_not_mem fs vs i hm] at hl; cases hl⟩
  · refine fun h => ⟨fun i a t v x hl hc => ?_, fun i x hc hm => isNullW_iff.2 (cellAt_gap fs vs hty i hm ▸ (h i x hc).1)⟩
    obtain ⟨hs, hn⟩ := h i x hc
    rw [cellAt_lookup fs vs hty i a t v hl] at hs
    obtain ⟨y, hu, hy⟩ := snd_tag_iff.1 hs
    exact ⟨y, hu, (FieldsIff_lookup hF hl y).2 ⟨hy, hn a t v hl⟩⟩

theorem body_iff (enc : Encoding) (fs : Fields) (vs : List Val) (hacc : acceptedFields fs = true)
    (hty : hasFields fs vs = true) (hnd : (liveIdxs fs).Nodup) (hF : FieldsIff fs vs) (body : WItem) :
    (∃ cell, bodyCells enc fs vs body = some cell ∧ rfFields fs vs cell = true) ↔
      Snd body (specBody enc (specFields fs vs)) ∧ noClashFields fs vs = true := by
  rw [noClashFields_iff fs vs hty hnd]
  constructor
  · rintro ⟨cell, hc, hrf⟩
    have h := (cell_iff hty hnd hF cell).1 ⟨hrf, fun i x hx hni => bodyCells_gap hacc hty hc hx hni⟩
    refine ⟨?_, fun i a t v hl => ?_⟩
    · cases enc with
      | array =>
        obtain ⟨xs, hai, hlen, -, rfl⟩ := bodyCells_array.1 hc
        rw [specBody, specArray_cells]
        exact snd_array_iff.2 ⟨xs, hai, snds_range.2 ⟨hlen, fun k x hx => (h k x hx).1⟩⟩
      | map =>
        obtain ⟨kvs, es, hmi, hes, hkeys, rfl⟩ := bodyCells_map.1 hc
        have hndK : (es.map (·.1)).Nodup := hkeys ▸ presentIdxs_nodup fs vs hty hnd
        rw [specBody, specMap_cells fs vs hacc hty hnd]
        exact snd_map_iff.2 ⟨kvs, hmi, (snds_entries _ _ kvs).2 ⟨es, hes, hkeys, fun e he =>
          (h e.1 e.2.2 (by simp only [find_key es e hndK he, Option.map_some])).1⟩⟩
    · -- a field on the wire is outside the exclusion by `cell_iff`, the others are nil
      cases hx : cell i with
      | some x => exact (h i x hx).2 a t v hl
      | none => exact noClash_of_nil (nil_of_absent hacc hty hc hl hx)
  · rintro ⟨hs, hn⟩
    cases enc with
    | array =>
      rw [specBody, specArray_cells] at hs
      obtain ⟨xs, hai, hs⟩ := snd_array_iff.1 hs
      obtain ⟨hlen, hx⟩ := snds_range.1 hs
      obtain ⟨hrf, hg⟩ := (cell_iff hty hnd hF (fun i => xs[i]?)).2 fun i x hc => ⟨hx i x hc, hn i⟩
      exact ⟨_, bodyCells_array.2 ⟨xs, hai, hlen, gapsNull_iff.2 hg, rfl⟩, hrf⟩
    | map =>
      rw [specBody, specMap_cells fs vs hacc hty hnd] at hs
      obtain ⟨kvs, hmi, hs⟩ := snd_map_iff.1 hs
      obtain ⟨es, hes, hkeys, hx⟩ := (snds_entries _ _ kvs).1 hs
      obtain ⟨hrf, _⟩ := (cell_iff hty hnd hF (fun i => (es.find? (fun e => e.1 == i)).map (·.2.2))).2 fun i x hc => by
        obtain ⟨e, hf, rfl⟩ := Option.map_eq_some_iff.1 hc
        have hei : e.1 = i := by simpa using List.find?_some hf
        exact ⟨hei ▸ hx e (List.mem_of_find?_eq_some hf), hn i⟩
      exact ⟨_, bodyCells_map.2 ⟨kvs, es, hmi, hes, hkeys, rfl⟩, hrf⟩

/-! ### `Vec`, the codec, enums -/

theorem all2_iff (t : FTy) : ∀ (vs : List Val) (xs : List WItem),
    (∀ v ∈ vs, ∀ x, rf t v x = true ↔ Snd x (specTy t v) ∧ noClash t v = true) →
    (all2 (rf t) vs xs = true ↔ Snds xs (vs.map (specTy t)) ∧ vs.all (noClash t) = true)
  | [], [], _ => by simp [all2, snds_nil]
  | [], x :: xs, _ => by simp [all2, snds_cons_nil]
  | v :: vs, [], _ => by simp [all2, snds_nil]
  | v :: vs, x :: xs, h => by
    simp only [all2, Bool.and_eq_true, List.map_cons, snds_cons, List.all_cons, h v (by simp) x,
      all2_iff t vs xs (fun w hw => h w (by simp [hw])), and_and_and_comm]

theorem rfWith_nilu_iff {f : Val → WItem → Bool} {g : Val → Item} {i : Int} {y : WItem} :
    rfWith .nilu f (.int i) y = true ↔ Snd y (specWith .nilu g (.int i)) := by
  by_cases h0 : i = 0
  · subst h0; exact isNullW_iff
  · have hne : (i == 0) = false := by simpa using h0
    simpa only [rfWith, specWith, Val.isZero, hne, Bool.false_eq_true, if_false] using isUintW_iff

theorem rfWith_iff {c : Codec} {t : FTy} {v : Val} (hc : codecOk c t = true) (hv : hasTy t v = true)
    (h : ∀ y, rf t v y = true ↔ Snd y (specTy t v) ∧ noClash t v = true) (y : WItem) :
    rfWith c (rf t) v y = true ↔ Snd y (specWith c (specTy t) v) ∧ noClash t v = true := by
  rcases codec_cases hc hv with hn | ⟨rfl, rfl, i, rfl, _⟩
  · rw [rfWith_of_ne hn, specWith_of_ne hn]; exact h y
  · rw [rfWith_nilu_iff (g := specTy (.int .u32))]; exact (and_iff_left rfl).symm

theorem isEmptyW_iff {enc : Encoding} {body : WItem} : isEmptyW enc body = true ↔ Snd body (specEmpty enc) := by
  cases enc
  · simp [isEmptyW_array, specEmpty, snd_array_iff, snds_nil_right]
  · simp [isEmptyW_map, specEmpty, snd_map_iff, snds_nil_right]

theorem vars_iff (e : EAttr) : ∀ (vars : Variants) (k : Nat) (vs : List Val) (w : WItem), acceptedVars e vars = true →
    hasVars vars k vs = true → FieldsIff (nthFields vars k) vs →
    (rfVars e vars k vs w = true ↔ Snd w (specVars e vars k vs) ∧ noClashVars vars k vs = true)
  | [], _, _, _, _, hv, _ => Bool.noConfusion hv
  | (va, fs) :: rest, 0, vs, w, ha, hv, hF => by
    obtain ⟨_, _, hacc, hnd, hunit, hio⟩ := acceptedVars_mem e _ va fs ha List.mem_cons_self
    change hasFields fs vs = true at hv
    change FieldsIff fs vs at hF
    have hnone : va.shape = .unit → noClashFields fs vs = true := fun hsh => by rw [hunit hsh]; rfl
    simp only [specVars, noClashVars]
    cases hix : e.indexOnly
    · have hB : ∀ body, ((va.shape = .unit → isEmptyW (va.enc.getD (e.enc.getD .array)) body = true) ∧
          (va.shape ≠ .unit → ∃ cell, bodyCells (va.enc.getD (e.enc.getD .array)) fs vs body = some cell ∧
            rfFields fs vs cell = true)) ↔
          Snd body (match va.shape with
            | .unit => specEmpty (va.enc.getD (e.enc.getD .array))
            | _ => specBody (va.enc.getD (e.enc.getD .array)) (specFields fs vs)) ∧ noClashFields fs vs = true := fun body => by
        cases hsh : va.shape
        · simp [isEmptyW_iff, hnone hsh]
        all_goals simp [body_iff _ fs vs hacc hv hnd hF body]
      simp only [rfVars_zero_iff hix, Bool.false_eq_true, if_false, snd_array_iff, snds_pair, ← isUintW_iff,
        snd_tag_iff]
      constructor
      · rintro ⟨kx, bx, body, hp, hk, hu, h⟩
        exact ⟨⟨_, pairItems_iff.1 hp, kx, bx, rfl, hk, body, hu, ((hB body).1 h).1⟩, ((hB body).1 h).2⟩
      · rintro ⟨⟨_, hai, kx, bx, rfl, hk, body, hu, hb⟩, hn⟩
        exact ⟨kx, bx, body, pairItems_iff.2 hai, hk, hu, (hB body).2 ⟨hb, hn⟩⟩
    · simp only [rfVars, hix, if_true, isUintW_iff, hnone (hio hix), and_true]
  | _ :: rest, k + 1, vs, w, ha, hv, hF => by
    rw [acceptedVars_cons, Bool.and_eq_true] at ha
    exact vars_iff e rest k vs w ha.2 hv hF

/-! ### the predicates the theorems of C09 about `rf` are stated over -/

def Sim (w1 w2 : WItem) : Prop := value w1 = value w2 ∧ noChunks w1 = true ∧ noChunks w2 = true

theorem Snd.sim {w1 w2 : WItem} {i : Item} (h : Snd w1 i) (hs : Sim w1 w2) : Snd w2 i := ⟨hs.1 ▸ h.1, hs.2.2⟩

def FieldsVal : Fields → List Val → Prop
  | (a, t) :: fs, v :: vs =>
      (a.skip = false → ∀ y, rfWith a.codec (rf t) v y = true → Snd y (specWith a.codec (specTy t) v)) ∧ FieldsVal fs vs
  | _, _ => True

def FieldsSim : Fields → List Val → Prop
  | (a, t) :: fs, v :: vs => (a.skip = false → ∀ y1 y2, rf t v y1 = true → Sim y1 y2 → rf t v y2 = true) ∧ FieldsSim fs vs
  | _, _ => True

theorem rf_iff_all :
    (∀ t v, accField t = true → hasTy t v = true → ∀ w, rf t v w = true ↔ Snd w (specTy t v) ∧ noClash t v = true) ∧
    (∀ fs vs, acceptedFields fs = true → hasFields fs vs = true →
      FieldsIff fs vs ∧ FieldsVal fs vs ∧ FieldsSim fs vs ∧ (noClashFields fs vs = true → FieldsPref fs vs)) :=
  typed_ind (PVar := fun _ vars k vs => FieldsIff (nthFields vars k) vs) {
    here := fun _ _ _ _ _ _ _ _ _ _ _ ih => ih.1
    there := fun _ _ _ _ _ ih => ih
    int := fun _ _ _ _ => isIntW_iff.trans (and_iff_left rfl).symm
    bool := fun _ _ => isBoolW_iff.trans (and_iff_left rfl).symm
    text := fun _ _ _ _ _ => isTextW_iff.trans (and_iff_left rfl).symm
    blob := fun _ _ _ _ => isBytesW_iff.trans (and_iff_left rfl).symm
    none := fun _ _ => isNullW_iff.trans (and_iff_left rfl).symm
    some := fun t x ha hv ih w => by
      simp only [rf, specTy, noClash, Bool.and_eq_true, Bool.not_eq_true', ih w, startOk_enc_iff ha hv]
      -- `w` is not `null` iff the documented item is not
      exact ⟨fun ⟨hn, hs, hc⟩ => ⟨hs, ⟨fun e => Bool.noConfusion ((isNullW_iff.2 (e ▸ hs)).symm.trans hn), hc⟩⟩,
        fun ⟨hs, hne, hc⟩ => ⟨Bool.eq_false_iff.2 fun hn => hne (hs.1.symm.trans (isNullW_iff.1 hn).1), hs, hc⟩⟩
    vec := fun t vs _ _ ih w => by
      simp only [rf_vec_iff, specTy_vec, noClash, snd_array_iff, all2_iff t vs _ (fun x hx => (ih x hx).2), ← and_assoc,
        exists_and_right]
    struct := fun a fs vs htr _ hacc hnd hv hF w => by
      simp only [rf_struct_iff htr, body_iff _ fs vs hacc hv hnd hF.1, specTy_struct, htr, Bool.false_eq_true, if_false,
        noClash, snd_tag_iff, ← and_assoc, exists_and_right]
    transparent := fun a fa ft x htr hs hF w => by
      rw [rf_transparent htr, hF.1.1 hs w]
      simp only [specTy_struct, htr, if_true, specFields, hs, Bool.false_eq_true, if_false, specTransparent, noClash,
        noClashFields, Bool.false_or, Bool.and_true]
    enum := fun e vars k vs _ _ ha hv hF w => by
      simp only [rf_enum_iff, specTy_enum, noClash, snd_tag_iff, vars_iff e vars k vs _ ha hv hF, ← and_assoc, exists_and_right]
    nil := ⟨trivial, trivial, trivial, fun _ => trivial⟩
    cons := fun a t v fs vs hco hv ih ihs =>
      have h := fun hs => rfWith_iff (hco hs).2.2 hv ih
      ⟨⟨h, ihs.1⟩, ⟨fun hs y hr => ((h hs y).1 hr).1, ihs.2.1⟩,
        ⟨fun _ y1 y2 hr hsim => (ih y2).2 ⟨((ih y1).1 hr).1.sim hsim, ((ih y1).1 hr).2⟩, ihs.2.2.1⟩,
        fun hc => by
          simp only [noClashFields, Bool.and_eq_true, Bool.or_eq_true] at hc
          exact ⟨fun hs => (h hs _).2 ⟨snd_prefTree _, hc.1.resolve_left (by simp [hs])⟩, ihs.2.2.2 hc.2⟩⟩ }

theorem rf_iff {t : FTy} {v : Val} (ha : accepted t = true) (hv : hasTy t v = true) (w : WItem) :
    rf t v w = true ↔ Snd w (specTy t v) ∧ noClash t v = true :=
  rf_iff_all.1 t v (accField_of_accepted ha) hv w

theorem rf_iff_vars (e : EAttr) (vars : Variants) (k : Nat) (vs : List Val) (ha : acceptedVars e vars = true)
    (hv : hasVars vars k vs = true) :
    FieldsIff (nthFields vars k) vs ∧ FieldsVal (nthFields vars k) vs ∧ FieldsSim (nthFields vars k) vs ∧
      (noClashFields (nthFields vars k) vs = true → FieldsPref (nthFields vars k) vs) :=
  rf_iff_all.2 _ vs (acceptedFields_nth e vars k ha) (hasFields_nth vars k vs hv)

theorem noClash_of_pref {fs : Fields} {vs : List Val} (hacc : acceptedFields fs = true) (hty : hasFields fs vs = true)
    (hnd : (liveIdxs fs).Nodup) (hp : FieldsPref fs vs) : noClashFields fs vs = true :=
  (noClashFields_iff fs vs hty hnd).2 fun i a t v hl =>
    ((FieldsIff_lookup (rf_iff_all.2 fs vs hacc hty).1 hl _).1
      (lookupVal_elim (F := FieldsPref) (fun _ _ _ _ _ h => h) fs vs i a t v hp hl)).2

theorem body_pref (enc : Encoding) (fs : Fields) (vs : List Val) (hacc : acceptedFields fs = true)
    (hty : hasFields fs vs = true) (hnd : (liveIdxs fs).Nodup) (hp : FieldsPref fs vs) :
    ∃ cell, bodyCells enc fs vs (prefTree (specBody enc (specFields fs vs))) = some cell ∧ rfFields fs vs cell = true :=
  (body_iff enc fs vs hacc hty hnd (rf_iff_all.2 fs vs hacc hty).1 _).2 ⟨snd_prefTree _, noClash_of_pref hacc hty hnd hp⟩

theorem snd_body (enc : Encoding) (fs : Fields) (vs : List Val) (hacc : acceptedFields fs = true)
    (hty : hasFields fs vs = true) (hnd : (liveIdxs fs).Nodup)
    (body : WItem) (cell : Nat → Option WItem) (hc : bodyCells enc fs vs body = some cell)
    (hrf : rfFields fs vs cell = true) : Snd body (specBody enc (specFields fs vs)) :=
  ((body_iff enc fs vs hacc hty hnd (rf_iff_all.2 fs vs hacc hty).1 body).1 ⟨cell, hc, hrf⟩).1

theorem rfVars_pref (e : EAttr) : ∀ (vars : Variants) (k : Nat) (vs : List Val), acceptedVars e vars = true →
    hasVars vars k vs = true → FieldsPref (nthFields vars k) vs →
    rfVars e vars k vs (prefTree (specVars e vars k vs)) = true := fun vars k vs ha hv hp => by
  obtain ⟨va, hnth, hty, _⟩ := hasVars_nth vars k vs hv
  obtain ⟨_, _, hacc, hnd, _, _⟩ := acceptedVars_mem e vars va _ ha (List.mem_of_getElem? hnth)
  exact (vars_iff e vars k vs _ ha hv (rf_iff_vars e vars k vs ha hv).1).2
    ⟨snd_prefTree _, noClashVars_nth vars k vs ▸ noClash_of_pref hacc hty hnd hp⟩

theorem snd_vars (e : EAttr) (vars : Variants) (k : Nat) (vs : List Val) (w : WItem) (ha : acceptedVars e vars = true)
    (hv : hasVars vars k vs = true) (h : rfVars e vars k vs w = true) : Snd w (specVars e vars k vs) :=
  ((vars_iff e vars k vs w ha hv (rf_iff_vars e vars k vs ha hv).1).1 h).1

end Minicbor.Derive
