/-
  Lemmas for C17: the bridge's `deserialize_any` (with serde's `ContentVisitor`) on a
  well-formed item of any framing.
-/
import Minicbor.Lemmas.SerdeLoops

namespace Minicbor.Serde
open Minicbor.Dec

mutual
/-- the items the bridge's `deserialize_any` accepts: no tags, no simple values other than false / true / null,
    no negative integer below `-2^63`. -/
def anyOk : WItem → Bool
  | .uint _ _ => true
  | .nint w n => !(w == .w8 && decide (9223372036854775808 ≤ n))
  | .bytes _ _ => true
  | .bytesI _ => true
  | .text _ _ => true
  | .textI _ => true
  | .array _ xs => anyOks xs
  | .arrayI xs => anyOks xs
  | .map _ kvs => anyOks kvs
  | .mapI kvs => anyOks kvs
  | .tag _ _ _ => false
  | .simple n => n == 20 || n == 21 || n == 22
  | .f16 _ => true
  | .f32 _ => true
  | .f64 _ => true
def anyOks : List WItem → Bool
  | [] => true
  | x :: xs => anyOk x && anyOks xs
end

mutual
/-- what serde's `Content` buffer holds after `deserialize_any` on the item: framing and head widths erased,
    chunks concatenated, the integer kind chosen by `Decoder::datatype`. -/
def cOfW : WItem → Content
  | .uint w n => .int (uintKind w) n
  | .nint w n => .int (nintKind w n) (-1 - (n : Int))
  | .bytes _ b => .bytes b
  | .bytesI cs => .bytes (joinChunks cs)
  | .text _ b => .str b
  | .textI cs => .str (joinChunks cs)
  | .array _ xs => .seq (cOfWs xs)
  | .arrayI xs => .seq (cOfWs xs)
  | .map _ kvs => .map (cOfWs kvs)
  | .mapI kvs => .map (cOfWs kvs)
  | .tag _ _ _ => .none
  | .simple n => if n == 22 then .none else .bool (n == 21)
  | .f16 b => .f32 (f16ToF32 b)
  | .f32 b => .f32 b
  | .f64 b => .f64 b
def cOfWs : List WItem → List Content
  | [] => []
  | x :: xs => cOfW x :: cOfWs xs
end

theorem cOfWs_length : (xs : List WItem) → (cOfWs xs).length = xs.length
  | [] => rfl
  | _ :: xs => by simp [cOfWs, cOfWs_length xs]

theorem encW_le_encWs : (xs : List WItem) → ∀ x ∈ xs, (encW x).length ≤ (encWs xs).length :=
  fun xs _ hx => C03.encWs_eq_flatten xs ▸ (List.sublist_flatten_of_mem (List.mem_map_of_mem hx)).length_le

theorem readsList_encWs {m : Dec Content} : (xs : List WItem) → (∀ x ∈ xs, Reads m (encW x) (cOfW x)) →
    validAll xs = true → ReadsList m (encWs xs) (cOfWs xs)
  | [], _, _ => .nil
  | x :: xs, h, hv =>
    .cons (h x (by simp)) (encW_noBrk x (validAll_mem _ x hv (by simp)))
      (readsList_encWs xs (fun y hy => h y (by simp [hy])) (Bool.and_eq_true _ _ ▸ hv).2)

theorem readsPairs_encWs {m : Dec Content} : (xs : List WItem) → (∀ x ∈ xs, Reads m (encW x) (cOfW x)) →
    validAll xs = true → xs.length % 2 = 0 → ReadsPairs m m (encWs xs) (cOfWs xs)
  | [], _, _, _ => .nil
  | [_], _, _, he => by simp at he
  | k :: v :: xs, h, hv, he => by
    simp only [validAll, Bool.and_eq_true] at hv
    exact .cons (h k (by simp)) (encW_noBrk k hv.1) (h v (by simp))
      (readsPairs_encWs xs (fun y hy => h y (by simp [hy])) hv.2.2 (by simp at he; omega))

theorem f16_rt (b : Nat) (h : b < 65536) : Reads Dec.f16 (0xf9 :: be 2 b) (f16ToF32 b) := fun rest => by
  have hs := Dec.readSlice_be 2 b rest
  have hv := fromBe_be 2 b (by simpa using h)
  simp [Dec.f16, Dec.bind_run, hs, hv]

theorem deAnyF_int (k : IntKind) (f : Nat) {c : Bytes} {v : Int} (hd : Peeks datatype c k.cty) (hv : Reads (intAcc k.ty) c v) :
    Reads (deAnyF (f + 1)) c (.int k v) := by
  cases k <;> exact Reads.peek hd (hv.map _)


theorem any_uint (w : Width) (n f : Nat) (hf : w.fits n = true) : Reads (deAnyF (f + 1)) (headW 0 w n) (.int (uintKind w) n) := by
  refine deAnyF_int _ f (headType_uint w n hf ▸ datatype_encW (.uint w n) hf) fun rest => ?_
  have hm : n ≤ (uintKind w).ty.max := by cases w <;> simp [Width.fits] at hf <;> simp [uintKind, IntKind.ty, IntTy.u8, IntTy.u16, IntTy.u32, IntTy.u64] <;> omega
  exact C05.int_accessor_ok _ w false n rest hf nofun hm

theorem any_nint (w : Width) (n f : Nat) (hf : w.fits n = true) (hok : nintBig w n = false) :
    Reads (deAnyF (f + 1)) (headW 1 w n) (.int (nintKind w n) (-1 - (n : Int))) := by
  have hd := datatype_encW (.nint w n) hf
  simp only [wType, nintType_eq, hok, Bool.false_eq_true, if_false] at hd
  refine deAnyF_int _ f hd fun rest => ?_
  have hm : (nintKind w n).ty.neg = true ∧ n ≤ (nintKind w n).ty.max := by
    cases w <;> simp [Width.fits, nintBig] at hf hok <;> simp only [nintKind] <;> (try split) <;>
      simp [IntKind.ty, IntTy.i8, IntTy.i16, IntTy.i32, IntTy.i64] <;> omega
  exact C05.int_accessor_ok _ w true n rest hf (fun _ => hm.1) hm.2


mutual
theorem deAnyF_encW : (w : WItem) → w.valid = true → anyOk w = true → ∀ (fuel : Nat),
    (encW w).length ≤ fuel → Reads (deAnyF fuel) (encW w) (cOfW w)
  | .tag _ _ _, _, hok, _, _ => nomatch hok
  | w, hv, hok, 0, hfu => by have := encW_length_pos w; omega
  | .uint w n, hv, _, f + 1, _ => any_uint w n f hv
  | .nint w n, hv, hok, f + 1, _ => any_nint w n f hv ((Bool.not_eq_true' _).mp hok)
  | .bytes w b, hv, _, f + 1, _ => Reads.peek (datatype_encW _ hv) (Reads.map (C04.bytes_sound w b · hv) _)
  | .text w b, hv, _, f + 1, _ => by
    have hd := datatype_encW _ hv
    simp only [WItem.valid, Bool.and_eq_true] at hv
    exact Reads.peek hd (Reads.map (C04.str_sound w b · hv.1 hv.2) _)
  | .bytesI cs, hv, _, f + 1, _ => by
    refine Reads.peek (datatype_encW _ hv) fun rest => ?_
    obtain ⟨chunks, hc, hval⟩ := C04.bytes_iter_indef cs rest hv
    simp only [wType]
    rw [Dec.bind_ok _ _ _ _ _ hc, ← Item.bytes.inj hval]; rfl
  | .textI cs, hv, _, f + 1, _ => by
    refine Reads.peek (datatype_encW _ hv) fun rest => ?_
    obtain ⟨chunks, hc, hval⟩ := C04.str_iter_indef cs rest hv
    simp only [wType]
    rw [Dec.bind_ok _ _ _ _ _ hc, ← Item.text.inj hval]; rfl
  | .array w xs, hv, hok, f + 1, hfu => by
    have hd := datatype_encW _ hv
    simp only [WItem.valid, Bool.and_eq_true] at hv
    have hl := (readsList_encWs xs (deAnyF_all xs hv.2 hok f (by simp [encW, headW] at hfu; omega)) hv.2).seqAccess_def
    rw [cOfWs_length] at hl
    exact Reads.peek hd (Reads.bind (C04.array_sound w xs.length · hv.1) (hl.map _))
  | .arrayI xs, hv, hok, f + 1, hfu => by
    have hl := (readsList_encWs xs (deAnyF_all xs hv hok f (by simp [encW] at hfu; omega)) hv).seqAccess_indef
    exact Reads.peek (datatype_encW _ hv) (Reads.bind (c := [0x9f]) C04.array_indef (hl.map _))
  | .map w kvs, hv, hok, f + 1, hfu => by
    have hd := datatype_encW _ hv
    simp only [WItem.valid, Bool.and_eq_true, beq_iff_eq] at hv
    have hl := (readsPairs_encWs kvs (deAnyF_all kvs hv.2 hok f (by simp [encW, headW] at hfu; omega)) hv.2 hv.1.1).mapAccess_def
    rw [cOfWs_length] at hl
    exact Reads.peek hd (Reads.bind (C04.map_sound w _ · hv.1.2) (hl.map _))
  | .mapI kvs, hv, hok, f + 1, hfu => by
    have hd := datatype_encW _ hv
    simp only [WItem.valid, Bool.and_eq_true, beq_iff_eq] at hv
    have hl := (readsPairs_encWs kvs (deAnyF_all kvs hv.2 hok f (by simp [encW] at hfu; omega)) hv.2 hv.1).mapAccess_indef
    exact Reads.peek hd (Reads.bind (c := [0xbf]) C04.map_indef (hl.map _))
  | .simple n, hv, hok, f + 1, _ => by
    have hd := datatype_encW _ hv
    simp only [anyOk, Bool.or_eq_true, beq_iff_eq] at hok
    rcases hok with (rfl | rfl) | rfl
    · exact Reads.peek hd (Reads.map (C04.bool_sound false) _)
    · exact Reads.peek hd (Reads.map (C04.bool_sound true) _)
    · exact Reads.peek hd (Reads.map skip_null _)
  | .f16 b, hv, _, f + 1, _ => Reads.peek (datatype_encW _ hv) ((f16_rt b (by simpa [WItem.valid] using hv)).map _)
  | .f32 b, hv, _, f + 1, _ => Reads.peek (datatype_encW _ hv) ((Reads.f32 b (by simpa [WItem.valid] using hv)).map _)
  | .f64 b, hv, _, f + 1, _ => Reads.peek (datatype_encW _ hv) ((Reads.f64 b (by simpa [WItem.valid] using hv)).map _)
theorem deAnyF_all : (xs : List WItem) → validAll xs = true → anyOks xs = true → ∀ (fuel : Nat),
    (encWs xs).length ≤ fuel → ∀ x ∈ xs, ∀ r, deAnyF fuel (encW x ++ r) = .ok (cOfW x) r
  | [], _, _, _, _, x, hx, _ => by cases hx
  | y :: ys, hv, hok, fuel, hfu, x, hx, r => by
    simp only [validAll, Bool.and_eq_true] at hv
    simp only [anyOks, Bool.and_eq_true] at hok
    simp only [encWs, List.length_append] at hfu
    rcases List.mem_cons.mp hx with e | hx'
    · rw [e]; exact deAnyF_encW y hv.1 hok.1 fuel (by omega) r
    · exact deAnyF_all ys hv.2 hok.2 fuel (by omega) x hx' r
end

theorem deAny_encW (w : WItem) (hv : w.valid = true) (hok : anyOk w = true) : Reads deAny (encW w) (cOfW w) :=
  fun rest => deAnyF_encW w hv hok _ (by simp; omega) rest

end Minicbor.Serde
