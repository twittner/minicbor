/-
  `Steps rd ts bs rest`: the reader `rd`, called again and again, yields `ts` from `bs` and leaves `rest`.  The
  readers are `Dec.token` (the tokenizer, Lemmas/TokenBasic.lean) and `armTok` (the token one iteration of `skip`
  reads: Lemmas/SkipTok.lean, stepped through in Lemmas/SkipExact.lean).
-/
import Minicbor.Lemmas.Consumes

namespace Minicbor
open Dec

def Steps {τ : Type} (rd : Dec τ) : List τ → Bytes → Bytes → Prop
  | [], bs, rest => bs = rest
  | t :: ts, bs, rest => ∃ mid, rd bs = .ok t mid ∧ Steps rd ts mid rest

variable {τ : Type} {rd : Dec τ}

theorem Steps.nil (bs : Bytes) : Steps rd [] bs bs := rfl

theorem Steps.one {t : τ} {bs rest : Bytes} (h : rd bs = .ok t rest) : Steps rd [t] bs rest :=
  ⟨rest, h, rfl⟩

theorem Steps.cons {t : τ} {ts : List τ} {bs mid rest : Bytes}
    (h : rd bs = .ok t mid) (hs : Steps rd ts mid rest) : Steps rd (t :: ts) bs rest :=
  ⟨mid, h, hs⟩

theorem Steps.append {ts us : List τ} {bs mid rest : Bytes}
    (h1 : Steps rd ts bs mid) (h2 : Steps rd us mid rest) : Steps rd (ts ++ us) bs rest := by
  induction ts generalizing bs with
  | nil => cases h1; exact h2
  | cons t ts ih =>
    obtain ⟨m, hm, hs⟩ := h1
    exact ⟨m, hm, ih hs⟩

theorem Steps.length_le (hc : Consumes rd 1) {ts : List τ} {bs rest : Bytes} (h : Steps rd ts bs rest) :
    rest.length + ts.length ≤ bs.length := by
  induction ts generalizing bs with
  | nil => cases h; simp
  | cons t ts ih =>
    obtain ⟨m, hm, hs⟩ := h
    have := hc bs t m hm
    have := ih hs
    simp only [List.length_cons]; omega

end Minicbor
