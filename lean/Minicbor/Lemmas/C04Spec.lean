/-
  For `C04.typed_sound`: forward simulation of `decodeT` on well-formed items.

  `Spec m f`: on every valid wire tree `w` that fits in a slice, followed by arbitrary bytes, the
  action `m` succeeds with `v` and leaves those bytes if `f w = some v`, and does not succeed if
  `f w = none`.  One lemma per loop combinator of Loops.lean (here, in C04SpecLoops and C04SpecTy)
  against the specification-side loops of Lemmas/C04Interp.lean.  The decoders that open with `array()`
  go through `Spec.ofArray`, which leaves the two loops (definite count, until the break) to be related
  to the specification over a `GoodL` element list.
-/
import Minicbor.Lemmas.C04Interp
import Minicbor.Thm.C04Acc
import Minicbor.Lemmas.SkipExact
import Minicbor.Lemmas.TypesStart
import Minicbor.Lemmas.ItemStart

namespace Minicbor.C04
open Dec

/-- the encoding fits in a Rust slice (needed wherever `skip` is involved, see `C06.FitsSlice`). -/
abbrev Fits (w : WItem) : Prop := (encW w).length < 2 ^ 64

def Spec (m : Dec α) (f : WItem → Option α) : Prop :=
  ∀ w rest, w.Valid → Fits w → Is (m (encW w ++ rest)) (f w) rest

theorem NotOk.err {e : Err} {r : Bytes} : NotOk (.err e r : Res α) := by intro v r' h; cases h

theorem NotOk.bind_left {m : Dec α} {k : α → Dec β} {bs : Bytes} (h : NotOk (m bs)) : NotOk ((m >>= k) bs) :=
  fun _ _ hc => let ⟨a, r', h1, _⟩ := bind_ok_inv hc; h a r' h1

theorem NotOk.bind_fail {m : Dec α} {e : Err} {bs : Bytes} : NotOk ((m >>= fun _ => (Dec.fail e : Dec β)) bs) :=
  fun _ _ hc => let ⟨_, _, _, h2⟩ := bind_ok_inv hc; nomatch h2

theorem Is.bind {m : Dec α} {k : α → Dec β} {bs mid rest : Bytes} {o : Option α} {g : α → Option β}
    (hm : Is (m bs) o mid) (hk : ∀ a, o = some a → Is (k a mid) (g a) rest) :
    Is ((m >>= k) bs) (o.bind g) rest := by
  cases o with
  | none => exact NotOk.bind_left hm
  | some a =>
    simp only [Is] at hm
    simp only [Option.bind_some]
    rw [Dec.bind_run, hm]
    exact hk a rfl

theorem Is.map {m : Dec α} {bs rest : Bytes} {o : Option α} (g : α → β) (hm : Is (m bs) o rest) :
    Is ((m >>= fun a => Pure.pure (g a)) bs) (o.map g) rest := by
  cases o with
  | none => exact NotOk.bind_left hm
  | some a =>
    simp only [Is] at hm
    simp only [Option.map_some, Is]
    rw [Dec.bind_run, hm]; rfl

theorem Is.congr {x : Res α} {o o' : Option α} {rest : Bytes} (h : Is x o rest) (e : o = o') : Is x o' rest := e ▸ h

theorem Is.cons {m : Dec α} {l : Dec (List α)} {bs mid rest : Bytes} {o : Option α} {os : Option (List α)}
    (hm : Is (m bs) o mid) (hl : Is (l mid) os rest) :
    Is ((do let x ← m; let xs ← l; pure (x :: xs)) bs) (o.bind fun v => os.bind fun vs => some (v :: vs)) rest :=
  Is.bind hm fun v _ => Is.bind hl fun vs _ => by simp [Is]

theorem Is.bind_notOk {m : Dec α} {k : α → Dec β} {bs mid : Bytes} {o : Option α}
    (hm : Is (m bs) o mid) (hk : ∀ a, o = some a → NotOk (k a mid)) : NotOk ((m >>= k) bs) := by
  have := Is.bind (g := fun _ => none) (rest := mid) hm hk
  cases o <;> exact this

theorem Spec.map {m : Dec α} {f : WItem → Option α} (g : α → β) (hs : Spec m f) :
    Spec (m >>= fun a => Pure.pure (g a)) (fun w => (f w).map g) :=
  fun w rest hv hf => Is.map g (hs w rest hv hf)

theorem Spec.bindPure {m : Dec α} {f : WItem → Option α} {k : α → Dec β} {g : α → Option β} (hs : Spec m f)
    (hk : ∀ a bs, Is (k a bs) (g a) bs) : Spec (m >>= k) (fun w => (f w).bind g) :=
  fun w rest hv hf => Is.bind (hs w rest hv hf) (fun a _ => hk a rest)

theorem Spec.congr {α : Type} {m : Dec α} {f f' : WItem → Option α} (h : Spec m f) (e : ∀ w, f w = f' w) : Spec m f' :=
  fun w rest hv hf => (h w rest hv hf).congr (e w)

theorem Spec.acc (a : Acc) (ha : ∀ w, after a w = []) : Spec a.run (view a) := by
  intro w rest hv _
  have := acc_is a w hv rest
  rwa [ha w] at this

theorem Spec.int (t : IntTy) : Spec (intAcc t) (view (.int t)) := Spec.acc (.int t) (by intro w; cases w <;> rfl)
theorem Spec.bool : Spec Dec.bool (view .bool) := Spec.acc .bool (by intro w; cases w <;> rfl)
theorem Spec.char : Spec Dec.char (view .char) := Spec.acc .char (by intro w; cases w <;> rfl)
theorem Spec.f32 (h : Bool) : Spec (Dec.f32 h) (view (.f32 h)) := Spec.acc (.f32 h) (by intro w; cases w <;> rfl)
theorem Spec.f64 (h : Bool) : Spec (Dec.f64 h) (view (.f64 h)) := Spec.acc (.f64 h) (by intro w; cases w <;> rfl)
theorem Spec.str : Spec Dec.str (view .str) := Spec.acc .str (by intro w; cases w <;> rfl)
theorem Spec.bytes : Spec Dec.bytes (view .bytes) := Spec.acc .bytes (by intro w; cases w <;> rfl)

abbrev FitsL (xs : List WItem) : Prop := (encWs xs).length < 2 ^ 64

def GoodL (xs : List WItem) : Prop := validAll xs = true ∧ FitsL xs

theorem GoodL.cons {x : WItem} {xs : List WItem} (h : GoodL (x :: xs)) : x.Valid ∧ Fits x ∧ GoodL xs := by
  obtain ⟨hv, hf⟩ := h
  simp only [validAll, Bool.and_eq_true] at hv
  simp only [FitsL, encWs, List.length_append] at hf
  exact ⟨hv.1, by unfold Fits; omega, hv.2, by unfold FitsL; omega⟩

/-- the fuel the model gives a loop started on `encWs xs ++ 0xff :: rest` is enough. -/
theorem encWs_fuel (xs : List WItem) (rest : Bytes) : xs.length < (encWs xs ++ 0xff :: rest).length + 1 := by
  have := encWs_length_ge xs
  simp; omega

theorem fits_elems {w : WItem} {xs : List WItem} (h : elems w = some xs) (hf : Fits w) : FitsL xs := by
  cases w <;> cases h <;> simp [Fits, encW, headW] at hf <;> (unfold FitsL; omega)

theorem fits_entries {w : WItem} {xs : List WItem} (h : entries w = some xs) (hf : Fits w) : FitsL xs := by
  cases w <;> cases h <;> simp [Fits, encW, headW] at hf <;> (unfold FitsL; omega)

theorem valid_elems {w : WItem} {xs : List WItem} (h : elems w = some xs) (hv : w.Valid) : validAll xs = true := by
  cases w <;> cases h <;> simp [WItem.Valid, WItem.valid] at hv
  · exact hv.2
  · exact hv

theorem valid_entries {w : WItem} {xs : List WItem} (h : entries w = some xs) (hv : w.Valid) :
    validAll xs = true ∧ xs.length % 2 = 0 := by
  cases w <;> cases h <;> simp [WItem.Valid, WItem.valid] at hv
  · exact ⟨hv.2, hv.1.1⟩
  · exact ⟨hv.2, hv.1⟩

theorem untilBreak_cons {m : Dec α} (fuel : Nat) (b : UInt8) (tl : Bytes) (hb : b ≠ 0xff) :
    untilBreak m (fuel + 1) (b :: tl) =
      (m >>= fun x => untilBreak m fuel >>= fun xs => Pure.pure (x :: xs)) (b :: tl) := by
  simp [untilBreak, Dec.bind_run, hb]

theorem untilBreak_break {m : Dec α} (fuel : Nat) (rest : Bytes) :
    untilBreak m (fuel + 1) (0xff :: rest) = .ok [] rest := by
  simp [untilBreak, Dec.bind_run]

theorem repeatN_spec {m : Dec α} {f : WItem → Option α} (hs : Spec m f) :
    ∀ (xs : List WItem) (rest : Bytes), GoodL xs →
      Is (repeatN m xs.length (encWs xs ++ rest)) (interpAll f xs) rest
  | [], rest, _ => by simp [repeatN, interpAll, encWs, Is]
  | x :: xs, rest, h => by
    obtain ⟨hx, hfx, hxs⟩ := h.cons
    simp only [List.length_cons, repeatN, encWs, List.append_assoc, interpAll]
    exact Is.cons (hs x _ hx hfx) (repeatN_spec hs xs rest hxs)

theorem untilBreak_spec {m : Dec α} {f : WItem → Option α} (hs : Spec m f) :
    ∀ (xs : List WItem) (rest : Bytes) (fuel : Nat), GoodL xs → xs.length < fuel →
      Is (untilBreak m fuel (encWs xs ++ 0xff :: rest)) (interpAll f xs) rest
  | _, _, 0, _, hfu => by omega
  | [], rest, k + 1, _, _ => by simp [untilBreak_break, interpAll, encWs, Is]
  | x :: xs, rest, k + 1, h, hfu => by
    obtain ⟨hx, hfx, hxs⟩ := h.cons
    simp only [encWs, List.append_assoc, interpAll]
    obtain ⟨b, tl, he, hb⟩ := (encW_noBrk x hx).append (encWs xs ++ 0xff :: rest)
    rw [he, untilBreak_cons k b tl hb, ← he]
    exact Is.cons (hs x _ hx hfx) (untilBreak_spec hs xs rest k hxs (by simpa using hfu))

theorem Spec.ofArray {k : Option Nat → Dec β} {g gI : List WItem → Option β}
    (hdef : ∀ xs rest, GoodL xs → Is (k (some xs.length) (encWs xs ++ rest)) (g xs) rest)
    (hind : ∀ xs rest, GoodL xs → Is (k none (encWs xs ++ 0xff :: rest)) (gI xs) rest) :
    Spec (Dec.array >>= k) (fun w => match w with | .array _ xs => g xs | .arrayI xs => gI xs | _ => none) := by
  intro w rest hv hf
  have ha := acc_is .array w hv rest
  cases w
  case array wd xs =>
    simp only [view, after, Is] at ha
    rw [Dec.bind_run, show Dec.array _ = _ from ha]
    exact hdef xs rest ⟨valid_elems (w := .array wd xs) rfl hv, fits_elems (w := .array wd xs) rfl hf⟩
  case arrayI xs =>
    simp only [view, after, Is, List.append_assoc, List.singleton_append] at ha
    rw [Dec.bind_run, show Dec.array _ = _ from ha]
    exact hind xs rest ⟨valid_elems (w := .arrayI xs) rfl hv, fits_elems (w := .arrayI xs) rfl hf⟩
  all_goals exact NotOk.bind_left ha

/-- for `ArrayIter`, `[T; N]`, `decode_fields!`: definite and indefinite arrays alike. -/
theorem Spec.ofElems {kd : Nat → Dec β} {loop : Nat → Dec β} {g : List WItem → Option β}
    (hdef : ∀ xs rest, GoodL xs → Is (kd xs.length (encWs xs ++ rest)) (g xs) rest)
    (hind : ∀ xs rest fuel, GoodL xs → xs.length < fuel → Is (loop fuel (encWs xs ++ 0xff :: rest)) (g xs) rest) :
    Spec (do match (← Dec.array) with
             | some n => kd n
             | none => do let r ← remaining; loop (r.length + 1))
      (fun w => (elems w).bind g) :=
  (Spec.ofArray (g := g) (gI := g) hdef
    (fun xs rest h => by
      simp only [Dec.bind_run, Dec.remaining]
      exact hind xs rest _ h (encWs_fuel xs rest))).congr (fun w => by cases w <;> rfl)

/-- for tuples, enums, unit: a definite array only. -/
theorem Spec.ofElemsDef {k : Option Nat → Dec β} {g : List WItem → Option β}
    (hdef : ∀ xs rest, GoodL xs → Is (k (some xs.length) (encWs xs ++ rest)) (g xs) rest)
    (hind : ∀ bs, NotOk (k none bs)) :
    Spec (Dec.array >>= k) (fun w => (elemsDef w).bind g) :=
  (Spec.ofArray (g := g) (gI := fun _ => none) hdef (fun _ _ _ => hind _)).congr (fun w => by cases w <;> rfl)

/-- `array_iter_with`, drained. -/
theorem Spec.arrayIter {m : Dec α} {f : WItem → Option α} (hs : Spec m f) :
    Spec (Dec.arrayIter m) (fun w => (elems w).bind (interpAll f)) :=
  Spec.ofElems (repeatN_spec hs) (untilBreak_spec hs)

theorem startOk_encW (w : WItem) (hv : w.Valid) (hn : isNull w = false) : startOk (encW w) = true := by
  have hd := datatype_encW w hv []
  rw [List.append_nil] at hd
  refine startOk_of_datatype hd fun e => ?_
  rw [(wType_ne w).2 e] at hn; cases hn

theorem datatype_item (w : WItem) (hv : w.Valid) (rest : Bytes) :
    ∃ ty, datatype (encW w ++ rest) = .ok ty (encW w ++ rest) ∧ ty ≠ .break ∧
      (isNull w = false → ty ≠ .null) ∧ (isNull w = true → ty = .null) := by
  refine ⟨wType w, datatype_encW w hv rest, (wType_ne w).1, fun hn e => ?_, fun hn => ?_⟩
  · rw [(wType_ne w).2 e] at hn; cases hn
  · cases w <;> simp only [isNull, beq_iff_eq, Bool.false_eq_true] at hn
    rw [hn]; rfl

theorem datatype_break (rest : Bytes) : datatype (0xff :: rest) = .ok .break (0xff :: rest) := rfl

theorem skip_item (w : WItem) (hv : w.Valid) (hf : Fits w) (rest : Bytes) :
    Dec.skip true (encW w ++ rest) = .ok () rest :=
  Dec.skip_encW w rest hv (by unfold Fits at hf; unfold U64MAX; omega)

theorem Spec.skip : Spec (Dec.skip true) (fun _ => some ()) :=
  fun w rest hv hf => skip_item w hv hf rest

end Minicbor.C04
