/-
  What each accessor does on a head `headW maj w n ++ rest`; that `typeMismatch` always ends in an error
  (`typeMismatch_is_err`); the chunk loop on the chunks of an indefinite-length string (`readsList_chunks`,
  `chunkLoop_sound`) and the drained string iterators on a whole string, definite or indefinite, generic in
  bytes-vs-text (`stringIter_definite`, `stringIter_indefinite`, `joinChunks_eq_flatten`).
-/
import Minicbor.Lemmas.Head
import Minicbor.Lemmas.DecRules
import Minicbor.Lemmas.Reads

namespace Minicbor
open Dec

/-- `a ≤ 27`: not reserved, not the indefinite-length marker. -/
theorem initialByte (maj a : Nat) (hm : maj < 8) (ha : a ≤ 27) :
    (u8 (maj * 32 + a)).toNat = maj * 32 + a ∧ majorOf (u8 (maj * 32 + a)) = maj * 32 ∧
      infoOf (u8 (maj * 32 + a)) = u8 a ∧ infoOf (u8 (maj * 32 + a)) ≠ 31 := by
  have hb : (u8 (maj * 32 + a)).toNat = maj * 32 + a := by rw [u8_toNat_mod]; omega
  have hi : infoOf (u8 (maj * 32 + a)) = u8 a := by unfold infoOf; rw [hb]; congr 1; omega
  refine ⟨hb, by unfold majorOf; rw [hb]; omega, hi, ?_⟩
  rw [hi, ne_eq, u8_eq_iff]
  show ¬ a % 256 = 31
  omega

theorem headByte_toNat (maj : Nat) (w : Width) (n : Nat) (hm : maj < 8) (h : w.fits n = true) :
    (u8 (maj * 32 + w.ai n)).toNat = maj * 32 + w.ai n :=
  (initialByte maj _ hm (Width.ai_le w n h)).1

theorem majorOf_head (maj : Nat) (w : Width) (n : Nat) (hm : maj < 8) (h : w.fits n = true) :
    majorOf (u8 (maj * 32 + w.ai n)) = maj * 32 :=
  (initialByte maj _ hm (Width.ai_le w n h)).2.1

theorem headW_cons (maj : Nat) (w : Width) (n : Nat) (rest : Bytes) (hm : maj < 8)
    (h : w.fits n = true) :
    ∃ b, headW maj w n ++ rest = b :: (be w.bytes n ++ rest) ∧ b.toNat = maj * 32 + w.ai n ∧
      majorOf b = maj * 32 ∧ infoOf b ≠ 31 ∧
      unsigned (infoOf b) (be w.bytes n ++ rest) = .ok n rest :=
  have ⟨hb, hM, hi, h31⟩ := initialByte maj _ hm (Width.ai_le w n h)
  ⟨_, rfl, hb, hM, h31, by rw [hi]; exact unsigned_head w n rest h⟩

theorem u8_31 : u8 31 = 31 := rfl

theorem typeMismatch_is_err (b : UInt8) (bs : Bytes) :
    ∃ e r, (typeMismatch b : Dec α) bs = .err e r := by
  have hp := NoPanic.typeMismatch (α := α) b bs
  cases h : (typeMismatch b : Dec α) bs with
  | ok v r => exact absurd h (typeMismatch_not_ok b bs v r)
  | err e r => exact ⟨e, r, rfl⟩
  | panic => exact absurd h hp

theorem length_le_encChunks (maj : Nat) (cs : List (Width × Bytes)) :
    cs.length ≤ (encChunks maj cs).length := by
  induction cs with
  | nil => simp [encChunks]
  | cons c cs ih => obtain ⟨w, b⟩ := c; simp [encChunks, headW]; omega

theorem bytes_on_head (w : Width) (b rest : Bytes) (h : w.fits b.length = true) :
    Dec.bytes (headW 2 w b.length ++ (b ++ rest)) = .ok b rest := by
  have hl : b.length < 18446744073709551616 := Width.fits_lt w _ h
  obtain ⟨i, e, -, hM, h31, hu⟩ := headW_cons 2 w b.length (b ++ rest) (by decide) h
  simp [e, Dec.bytes, Dec.bind_run, hM, h31, hu, u64ToUsize, hl, Dec.readSlice_append]

theorem str_on_head (w : Width) (b rest : Bytes) (h : w.fits b.length = true) :
    Dec.str (headW 3 w b.length ++ (b ++ rest)) =
      if validUtf8 b then .ok b rest else .err .utf8 rest := by
  have hl : b.length < 18446744073709551616 := Width.fits_lt w _ h
  obtain ⟨i, e, -, hM, h31, hu⟩ := headW_cons 3 w b.length (b ++ rest) (by decide) h
  simp [e, Dec.str, Dec.bind_run, hM, h31, hu, u64ToUsize, hl, Dec.readSlice_append]
  split <;> simp [*]

theorem container_on_head (maj : Nat) (w : Width) (n : Nat) (rest : Bytes) (hm : maj < 8)
    (h : w.fits n = true) : Dec.container (maj * 32) (headW maj w n ++ rest) = .ok (some n) rest := by
  obtain ⟨i, e, -, hM, h31, hu⟩ := headW_cons maj w n rest hm h
  simp [e, Dec.container, Dec.bind_run, hM, h31, hu]

theorem chunk_sound (text : Bool) (w : Width) (b rest : Bytes) (h : w.fits b.length = true)
    (hu : (!text || validUtf8 b) = true) :
    (if text then Dec.str else Dec.bytes) (headW (if text then 3 else 2) w b.length ++ (b ++ rest)) =
      .ok b rest := by
  cases text
  · exact bytes_on_head w b rest h
  · simpa [show validUtf8 b = true by simpa using hu] using str_on_head w b rest h

theorem readsList_chunks (text : Bool) : ∀ (cs : List (Width × Bytes)), chunksValid text cs = true →
    ReadsList (if text then Dec.str else Dec.bytes) (encChunks (if text then 3 else 2) cs) (cs.map (·.2))
  | [], _ => .nil
  | (w, b) :: cs, hv => by
    simp only [chunksValid, Bool.and_eq_true] at hv
    obtain ⟨i, e, hi, -⟩ := headW_cons (if text then 3 else 2) w b.length b (by cases text <;> decide) hv.1.1
    have := Width.ai_le w _ hv.1.1
    exact .cons (fun rest => by rw [List.append_assoc]; exact chunk_sound text w b rest hv.1.1 hv.1.2)
      ⟨i, _, e, fun e' => by rw [e'] at hi; cases text <;> simp at hi <;> omega⟩ (readsList_chunks text cs hv.2)

/-- `chunkLoop text` is one more textual copy of the until-break loop (Lemmas/Reads.lean). -/
theorem chunkLoop_sound (text : Bool) (cs : List (Width × Bytes)) (rest : Bytes)
    (hv : chunksValid text cs = true) (fuel : Nat) (hf : cs.length < fuel) :
    chunkLoop text fuel (encChunks (if text then 3 else 2) cs ++ 0xff :: rest) = .ok (cs.map (·.2)) rest := by
  have := (readsList_chunks text cs hv).untilBreak (loop := chunkLoop text) (fun _ => rfl) fuel (by simpa using hf) rest
  rwa [List.append_assoc] at this


/-- `bytes_iter` / `str_iter`, drained, on a definite string: one chunk, or none when it is empty
    (`len == Some(0)`). -/
theorem stringIter_definite (text : Bool) (w : Width) (b rest : Bytes) (h : w.fits b.length = true)
    (hu : (!text || validUtf8 b) = true) :
    Dec.stringIter text (headW (if text then 3 else 2) w b.length ++ (b ++ rest)) =
      .ok (if b.length = 0 then [] else [b]) rest := by
  have hl : b.length < 18446744073709551616 := Width.fits_lt w _ h
  obtain ⟨i, e, -, hM, h31, hn⟩ := headW_cons (if text then 3 else 2) w b.length (b ++ rest)
    (by cases text <;> decide) h
  have hM' : (majorOf i != if text then 0x60 else 0x40) = false := by rw [hM]; cases text <;> rfl
  have hu' : (text && !validUtf8 b) = false := by revert hu; cases text <;> cases validUtf8 b <;> decide
  rw [e]
  simp only [Dec.stringIter, Dec.bind_run, Dec.read_cons, hM', Bool.false_eq_true, if_false, beq_iff_eq,
    h31, hn, u64ToUsize, hl, if_true, Dec.pure_run]
  by_cases hz : b.length = 0
  · cases List.eq_nil_of_length_eq_zero hz; rfl
  · simp only [hz, if_false, Dec.bind_run, Dec.readSlice_append, hu', Bool.false_eq_true, Dec.pure_run]

theorem stringIter_indefinite (text : Bool) (cs : List (Width × Bytes)) (rest : Bytes)
    (hv : chunksValid text cs = true) :
    Dec.stringIter text ((if text then 0x7f else 0x5f) :: (encChunks (if text then 3 else 2) cs ++ 0xff :: rest)) =
      .ok (cs.map (·.2)) rest := by
  have := chunkLoop_sound text cs rest hv ((encChunks (if text then 3 else 2) cs ++ 0xff :: rest).length + 1)
    (by have := length_le_encChunks (if text then 3 else 2) cs; simp; omega)
  cases text <;> simpa [Dec.stringIter, Dec.bind_run, majorOf, infoOf, u8_31, Dec.remaining] using this

theorem joinChunks_eq_flatten (cs : List (Width × Bytes)) : joinChunks cs = (cs.map (·.2)).flatten := by
  induction cs with
  | nil => rfl
  | cons c cs ih => obtain ⟨w, b⟩ := c; simp [joinChunks, ih]

end Minicbor
