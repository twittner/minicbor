/-
  The specification side of C11: the token list of a wire tree (`toks`), the canonical
  (preferred-head) tree (`canon`), the predicates `preferred` / `halfQuiet`, value equality of
  tokens and `Token.wf`.  The definitions are part of the statements in `Thm/C11.lean`.
-/
import Minicbor.Token
import Minicbor.Wire
import Minicbor.Lemmas.FloatHalf

namespace Minicbor.C11

/-- the kind is what `Decoder::type_of` derives from the initial byte
    (`0x00..=0x18` → `U8`, `0x19` → `U16`, `0x1a` → `U32`, `0x1b` → `U64`). -/
def uintTok : Width → Nat → Token
  | .w0, n | .w1, n => .u8 n
  | .w2, n => .u16 n
  | .w4, n => .u32 n
  | .w8, n => .u64 n

/-- argument `n` is the value `-1 - n`; the kind is chosen from the width and the top bit of the
    argument (`type_of` peeks at the next byte). -/
def nintTok : Width → Nat → Token
  | .w0, n => .i8 (-1 - (n : Int))
  | .w1, n => if n < 128 then .i8 (-1 - (n : Int)) else .i16 (-1 - (n : Int))
  | .w2, n => if n < 32768 then .i16 (-1 - (n : Int)) else .i32 (-1 - (n : Int))
  | .w4, n => if n < 2147483648 then .i32 (-1 - (n : Int)) else .i64 (-1 - (n : Int))
  | .w8, n => if n < 9223372036854775808 then .i64 (-1 - (n : Int)) else .int (-1 - (n : Int))

def simpleTok (n : Nat) : Token :=
  if n = 20 then .bool false else if n = 21 then .bool true
  else if n = 22 then .null else if n = 23 then .undefined else .simple n

theorem simpleTok_of_ne {n : Nat} (h : n < 20 ∨ 24 ≤ n) : simpleTok n = .simple n := by
  unfold simpleTok
  rw [if_neg (by omega), if_neg (by omega), if_neg (by omega), if_neg (by omega)]

def chunkToks (text : Bool) : List (Width × Bytes) → List Token
  | [] => []
  | (_, b) :: cs => (if text then Token.string b else Token.bytes b) :: chunkToks text cs

theorem chunkToks_eq (text : Bool) (cs : List (Width × Bytes)) :
    chunkToks text cs = (cs.map Prod.snd).map (if text then Token.string else Token.bytes) := by
  induction cs with
  | nil => rfl
  | cons c cs ih => obtain ⟨w, b⟩ := c; cases text <;> simp [chunkToks, ih]

mutual
/-- one token per head, in encoding order, carrying the data-model value of that head (the argument, the
    payload, the float bits); indefinite containers and chunked strings open with a `begin…` token and
    close with `break`. -/
def toks : WItem → List Token
  | .uint w n    => [uintTok w n]
  | .nint w n    => [nintTok w n]
  | .bytes _ b   => [.bytes b]
  | .bytesI cs   => .beginBytes :: (chunkToks false cs ++ [.brk])
  | .text _ b    => [.string b]
  | .textI cs    => .beginString :: (chunkToks true cs ++ [.brk])
  | .array _ xs  => .array xs.length :: toksL xs
  | .arrayI xs   => .beginArray :: (toksL xs ++ [.brk])
  | .map _ kvs   => .map (kvs.length / 2) :: toksL kvs
  | .mapI kvs    => .beginMap :: (toksL kvs ++ [.brk])
  | .tag _ n x   => .tag n :: toks x
  | .simple n    => [simpleTok n]
  | .f16 b       => [.f16 (f16ToF32 b)]
  | .f32 b       => [.f32 b]
  | .f64 b       => [.f64 b]
def toksL : List WItem → List Token
  | []      => []
  | x :: xs => toks x ++ toksL xs
end

theorem toksL_eq_flatMap (xs : List WItem) : toksL xs = xs.flatMap toks := by
  induction xs with
  | nil => rfl
  | cons x xs ih => simp [toksL, ih]

def canonChunks : List (Width × Bytes) → List (Width × Bytes)
  | [] => []
  | (_, b) :: cs => (prefWidth b.length, b) :: canonChunks cs

mutual
/-- every head at its preferred (shortest) width; indefinite-length items stay indefinite, chunk
    boundaries are kept, floats keep their width. -/
def canon : WItem → WItem
  | .uint _ n    => .uint (prefWidth n) n
  | .nint _ n    => .nint (prefWidth n) n
  | .bytes _ b   => .bytes (prefWidth b.length) b
  | .bytesI cs   => .bytesI (canonChunks cs)
  | .text _ b    => .text (prefWidth b.length) b
  | .textI cs    => .textI (canonChunks cs)
  | .array _ xs  => .array (prefWidth xs.length) (canonL xs)
  | .arrayI xs   => .arrayI (canonL xs)
  | .map _ kvs   => .map (prefWidth (kvs.length / 2)) (canonL kvs)
  | .mapI kvs    => .mapI (canonL kvs)
  | .tag _ n x   => .tag (prefWidth n) n (canon x)
  | .simple n    => .simple n
  | .f16 b       => .f16 (quiet16 b)
  | .f32 b       => .f32 b
  | .f64 b       => .f64 b
def canonL : List WItem → List WItem
  | []      => []
  | x :: xs => canon x :: canonL xs
end

theorem canonL_length (xs : List WItem) : (canonL xs).length = xs.length := by
  induction xs with
  | nil => rfl
  | cons x xs ih => simp [canonL, ih]

def chunksPreferred : List (Width × Bytes) → Bool
  | [] => true
  | (w, b) :: cs => (w == prefWidth b.length) && chunksPreferred cs

mutual
def preferred : WItem → Bool
  | .uint w n    => w == prefWidth n
  | .nint w n    => w == prefWidth n
  | .bytes w b   => w == prefWidth b.length
  | .bytesI cs   => chunksPreferred cs
  | .text w b    => w == prefWidth b.length
  | .textI cs    => chunksPreferred cs
  | .array w xs  => (w == prefWidth xs.length) && preferredL xs
  | .arrayI xs   => preferredL xs
  | .map w kvs   => (w == prefWidth (kvs.length / 2)) && preferredL kvs
  | .mapI kvs    => preferredL kvs
  | .tag w n x   => (w == prefWidth n) && preferred x
  | .simple _    => true
  | .f16 b       => quiet16 b == b
  | .f32 _       => true
  | .f64 _       => true
def preferredL : List WItem → Bool
  | []      => true
  | x :: xs => preferred x && preferredL xs
end

mutual
/-- no half float in the tree is a signalling NaN, the one pattern C11 excludes: the `f16 → f32 → f16`
    trip of a token quiets it. -/
def halfQuiet : WItem → Bool
  | .array _ xs | .arrayI xs | .map _ xs | .mapI xs => halfQuietL xs
  | .tag _ _ x   => halfQuiet x
  | .f16 b       => quiet16 b == b
  | _            => true
def halfQuietL : List WItem → Bool
  | []      => true
  | x :: xs => halfQuiet x && halfQuietL xs
end

def Token.intVal? : Token → Option Int
  | .u8 n | .u16 n | .u32 n | .u64 n => some (n : Int)
  | .i8 v | .i16 v | .i32 v | .i64 v | .int v => some v
  | _ => none

/-- integer tokens are equal when they denote the same number, whatever their kind; every other token
    only equals itself (floats bitwise). -/
def Token.valueEq (a b : Token) : Prop :=
  match Token.intVal? a, Token.intVal? b with
  | some x, some y => x = y
  | none, none => a = b
  | _, _ => False

inductive Token.valueEqL : List Token → List Token → Prop
  | nil : Token.valueEqL [] []
  | cons {a b : Token} {as bs : List Token} :
      Token.valueEq a b → Token.valueEqL as bs → Token.valueEqL (a :: as) (b :: bs)

/-- the looser relation of the property text also identifies `Simple(20..23)` with
    `Bool(false)`, `Bool(true)`, `Null`, `Undefined`. -/
def Token.alias : Token → Token
  | .simple 20 => .bool false
  | .simple 21 => .bool true
  | .simple 22 => .null
  | .simple 23 => .undefined
  | t => t

def Token.valueEqLoose (a b : Token) : Prop := Token.valueEq (Token.alias a) (Token.alias b)

/-- payload bounds that the Rust types enforce on top of `Token.ok`: slices are shorter than
    2^64 bytes, and (the property's assumption) an `F16` token holds a half-representable `f32`. -/
def Token.wf : Token → Prop
  | .bytes b => b.length < 18446744073709551616
  | .string b => b.length < 18446744073709551616 ∧ validUtf8 b = true
  | .f16 x => ∃ h, h < 65536 ∧ x = f16ToF32 h
  | t => t.ok = true

end Minicbor.C11
