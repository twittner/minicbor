/-
  C10, general case: the reader's body decoder on a body written by any compatible version
  (`body_compat`, an instance of `fieldsDec_compat`, DeriveCompat.lean).  Given, for every shared non-nil
  field, that the reader's field decoder delivers the projection of the writer's value (`ItemC`,
  supplied by the induction in Thm/C10.lean), the slot loops and the initialiser deliver
  `assemble gs (projFields fs gs vs)`.
  Items the reader does not know, or whose unknown variant it swallows, are crossed by `skip()`: a
  derived encoding is the bytes of a valid tree (`C08.denotes`), so `C06.skip_exact` applies if it fits
  a slice (`skip_encTy`), and an item inside a body is at most as long as the body.
-/
import Minicbor.Lemmas.DeriveCompat
import Minicbor.Thm.C06

namespace Minicbor.Derive

theorem skip_encPref (i : Item) (rest : Bytes) (hv : PV i) (hl : (encPref i).length < 2 ^ 64) :
    Dec.skip true (encPref i ++ rest) = .ok () rest :=
  C06.skip_exact (prefTree i) rest hv hl

theorem skip_encTy (t : FTy) (v : Val) (rest : Bytes) (ha : accepted t = true) (hv : hasTy t v = true)
    (hl : (encTy t v).length < 2 ^ 64) : Dec.skip true (encTy t v ++ rest) = .ok () rest := by
  obtain ⟨he, hp⟩ := C08.denotes (accField_of_accepted ha) hv
  rw [he] at hl ⊢
  exact skip_encPref _ rest hp hl

theorem flatten_mem_length {α : Type} (l : List (List α)) (x : List α) (h : x ∈ l) : x.length ≤ l.flatten.length :=
  (List.sublist_flatten_of_mem h).length_le

theorem encPrefs_mem_length : ∀ (xs : List Item) (x : Item), x ∈ xs → (encPref x).length ≤ (encPrefs xs).length :=
  fun xs x h => encPrefs_eq_flatten xs ▸ flatten_mem_length _ _ (List.mem_map_of_mem h)

theorem mapStmts_piece_le : ∀ (S : List (Piece Bytes)) (p : Piece Bytes), p ∈ S → p.nil = false →
    (tagBytes p.tag ++ p.body).length ≤ (mapStmts S).length
  | [], _, h, _ => by simp at h
  | q :: S, p, h, hn => by
    simp only [mapStmts, List.length_append]
    rcases List.mem_cons.1 h with rfl | h
    · simp only [hn, Bool.not_false, if_true, List.length_append]; omega
    · have := mapStmts_piece_le S p h hn
      simp only [List.length_append] at this
      omega

theorem cell_le_frame (qs : List (Piece Item)) (nd : (idxs qs).Nodup) (m i : Nat) (hm : maxPresent qs = some m) (hi : i ≤ m) :
    (encPref (cellAt qs i)).length ≤ (frame .array (qs.map toBytes)).length := by
  rw [frame_array qs nd]
  simp only [specArray_eq, hm]
  rw [encPref_array, List.length_append]
  have := encPrefs_mem_length ((List.range (m + 1)).map (cellAt qs)) (cellAt qs i)
    (List.mem_map.2 ⟨i, by simp; omega, rfl⟩)
  omega

theorem entry_le_frame (ps : List (Piece Bytes)) (p : Piece Bytes) (hp : p ∈ ps) (hn : p.nil = false) :
    (tagBytes p.tag ++ p.body).length ≤ (frame .map ps).length := by
  have := mapStmts_piece_le (sortP ps) p ((sortP_perm ps).mem_iff.2 hp) hn
  simp only [frame, frameMap, List.length_append] at this ⊢
  omega

open Minicbor.Dec

theorem encWith_nil (a : FAttr) (t : FTy) (v : Val) (hc : codecOk a.codec t = true) (hv : hasTy t v = true)
    (hn : isNilField a t v = true) : encWith a.codec (encTy t) v = Enc.null := by
  unfold isNilField at hn
  cases hcd : a.codec <;> rw [hcd] at hn hc
  case nilu =>
    obtain ⟨rfl, i, rfl, _⟩ := nilu_inv hc hv
    rw [show i = 0 by simpa [Val.isZero] using hn]; rfl
  all_goals
    obtain ⟨⟨t', rfl⟩, rfl⟩ := option_none_of hn
    rfl

theorem isOption_of_compat {l : Bool} {t u : FTy} (h : compatTy l t u = true) : u.isOption = t.isOption := by
  cases t <;> cases u <;> first | rfl | cases h

theorem nil_partner_optional (a : FAttr) (t : FTy) (v : Val) (b : FAttr) (u : FTy) (l : Bool)
    (hn : isNilField a t v = true) (hcod : (a.codec == .nilu) = (b.codec == .nilu))
    (hct : compatTy l t u = true) : optionalField b u = true := by
  have hu := isOption_of_compat hct
  unfold isNilField at hn
  unfold optionalField nilOf
  cases ha : a.codec <;> cases hb : b.codec <;> simp_all

theorem nilOrBad_ok (b : FAttr) (u : FTy) (x : Val) (h : nilOrBad b u = .ok x) : nilOf b u = some x := by
  unfold nilOrBad at h
  cases hn : nilOf b u with
  | none => rw [hn] at h; cases h
  | some z => rw [hn] at h; cases h; rfl

/-! ### the projection, field by field -/

/-- the `let p` of `projFields` (Compat.lean), for the reader's field `(b, u)` with partner `(a, t)`, `v`. -/
def pOf (a : FAttr) (t : FTy) (v : Val) (b : FAttr) (u : FTy) : PRes :=
  if isNilField a t v then nilOrBad b u
  else match projTy t u v with
    | .unknown => if swallows b u then nilOrBad b u else .unknown
    | x => x

theorem projFields_find : ∀ (fs gs : Fields) (vs : List Val) (i : Nat),
    (projFields fs gs vs).find? (fun p => p.1 == i) =
      (match lookupVal fs vs i with
       | some (a, t, v) => (match findField gs i with
          | some (b, u) => some (i, pOf a t v b u)
          | none => none)
       | none => none)
  | [], gs, vs, i => by cases vs <;> simp [projFields, lookupVal]
  | (a, t) :: fs, gs, [], i => by simp [projFields, lookupVal]
  | (a, t) :: fs, gs, v :: vs, i => by
    have ih := projFields_find fs gs vs i
    cases hs : a.skip
    · by_cases hi : a.idx = i
      · subst hi
        cases hf : findField gs a.idx with
        | none =>
          -- the writer's field has no partner: nor has any later field with the same index
          simp only [projFields, hs, Bool.false_eq_true, if_false, hf, ih, lookupVal, Bool.not_false, Bool.true_and,
            beq_self_eq_true, if_true]
          cases lookupVal fs vs a.idx <;> rfl
        | some g =>
          simp only [projFields, hs, Bool.false_eq_true, if_false, hf, lookupVal, Bool.not_false, Bool.true_and,
            beq_self_eq_true, if_true, List.find?_cons_of_pos]
          rfl
      · have hb : (a.idx == i) = false := by simpa using hi
        cases hf : findField gs a.idx <;>
          simp only [projFields, hs, Bool.false_eq_true, if_false, hf, lookupVal, Bool.not_false, Bool.true_and, hb,
            List.find?_cons] <;> exact ih
    · simp only [projFields, hs, if_true, lookupVal, Bool.not_true, Bool.false_and, Bool.false_eq_true, if_false]
      exact ih

/-- the `let here` of `assemble` (Compat.lean), for the reader's field `(b, u)`. -/
def hereOf (ps : List (Nat × PRes)) (b : FAttr) (u : FTy) : PRes :=
  if b.skip then .ok (defaultOf u)
  else match ps.find? (fun p => p.1 == b.idx) with
    | some p => p.2
    | none => nilOrBad b u

theorem hereOf_shared (fs : Fields) (vs : List Val) (gs : Fields) (hndR : (liveIdxs gs).Nodup)
    (b : FAttr) (u : FTy) (hbu : (b, u) ∈ gs) (hbs : b.skip = false) (a : FAttr) (t : FTy) (v : Val)
    (hl : lookupVal fs vs b.idx = some (a, t, v)) :
    hereOf (projFields fs gs vs) b u = pOf a t v b u := by
  simp only [hereOf, hbs, Bool.false_eq_true, if_false, projFields_find, hl, findField_of_mem gs b u hndR hbu hbs]

theorem hereOf_ronly (fs : Fields) (vs : List Val) (gs : Fields)
    (b : FAttr) (u : FTy) (hbs : b.skip = false) (hl : lookupVal fs vs b.idx = none) :
    hereOf (projFields fs gs vs) b u = nilOrBad b u := by
  simp only [hereOf, hbs, Bool.false_eq_true, if_false, projFields_find, hl]

theorem assemble_cons (b : FAttr) (u : FTy) (gs : Fields) (ps : List (Nat × PRes)) :
    assemble ((b, u) :: gs) ps =
      (match hereOf ps b u, assemble gs ps with
       | .ok v, .ok (.struct vs) => .ok (.struct (v :: vs))
       | .unknown, .ok _ => .unknown
       | .ok _, .unknown => .unknown
       | .unknown, .unknown => .unknown
       | _, _ => .bad) := rfl

/-- two lists of the same length related elementwise (`Derive.all2`, Reframe.lean, is the Boolean
    test of the re-framing relation and unrelated). -/
inductive All2 {α β : Type} (R : α → β → Prop) : List α → List β → Prop
  | nil : All2 R [] []
  | cons {a : α} {b : β} {l₁ : List α} {l₂ : List β} : R a b → All2 R l₁ l₂ → All2 R (a :: l₁) (b :: l₂)

theorem All2.mem_left {α β : Type} {R : α → β → Prop} : ∀ {l₁ : List α} {l₂ : List β}, All2 R l₁ l₂ →
    ∀ a ∈ l₁, ∃ b, R a b
  | _, _, .nil, a, h => by simp at h
  | _, _, .cons hr hrest, a, h => by
    rcases List.mem_cons.1 h with rfl | h
    · exact ⟨_, hr⟩
    · exact hrest.mem_left a h

theorem assemble_ok : ∀ (gs : Fields) (ps : List (Nat × PRes)) (y : Val), assemble gs ps = .ok y →
    ∃ xs, y = .struct xs ∧ All2 (fun (g : FAttr × FTy) x => hereOf ps g.1 g.2 = .ok x) gs xs
  | [], ps, y, h => by
    cases h
    exact ⟨[], rfl, All2.nil⟩
  | (b, u) :: gs, ps, y, h => by
    rw [assemble_cons] at h
    cases hh : hereOf ps b u <;> cases ha : assemble gs ps <;> rw [hh, ha] at h <;> try (simp at h; done)
    obtain ⟨vs, rfl, hF⟩ := assemble_ok gs ps _ ha
    cases h
    exact ⟨_ :: vs, rfl, All2.cons hh hF⟩

theorem assemble_ne_unknown : ∀ (gs : Fields) (ps : List (Nat × PRes)),
    (∀ g ∈ gs, hereOf ps g.1 g.2 ≠ .unknown) → assemble gs ps ≠ .unknown
  | [], ps, _ => by simp [assemble]
  | (b, u) :: gs, ps, h => by
    have ih := assemble_ne_unknown gs ps (fun g hg => h g (by simp [hg]))
    have h0 := h (b, u) (by simp)
    rw [assemble_cons]
    cases hh : hereOf ps b u with
    | ok v =>
      cases ha : assemble gs ps with
      | ok z => cases z <;> simp
      | unknown => exact absurd ha ih
      | bad => simp
    | unknown => exact absurd hh h0
    | bad => cases ha : assemble gs ps <;> simp

theorem compatFields_lookup (fs : Fields) (vs : List Val) (gs : Fields) (i : Nat) (a : FAttr) (t : FTy) (v : Val)
    (b : FAttr) (u : FTy) (hc : compatFields fs gs = true) (h : lookupVal fs vs i = some (a, t, v))
    (hf : findField gs i = some (b, u)) :
    a.tag = b.tag ∧ (a.codec == .nilu) = (b.codec == .nilu) ∧ compatTy (optionalField b u) t u = true := by
  fun_induction lookupVal fs vs i with
  | case1 a' t' fs v' vs i hcond =>
    simp only [Bool.and_eq_true, Bool.not_eq_true', beq_iff_eq] at hcond
    cases h
    simp only [compatFields, hcond.1, hcond.2, hf, Bool.false_eq_true, if_false, Bool.and_eq_true, beq_iff_eq] at hc
    exact ⟨hc.1.1.1, by simpa using hc.1.1.2, hc.1.2⟩
  | case2 _ _ _ _ _ _ _ ih =>
    simp only [compatFields, Bool.and_eq_true] at hc
    exact ih hc.2 h hf
  | case3 => cases h

theorem onlyOptional_iff (gs fs : Fields) :
    onlyOptional gs fs = true ↔ ∀ b u, (b, u) ∈ gs → b.skip = false → b.idx ∉ liveIdxs fs → optionalField b u = true := by
  simp only [onlyOptional, List.all_eq_true, Bool.or_eq_true, Prod.forall, ← findField_none, ← Option.not_isSome_iff_eq_none]
  refine forall_congr' fun b => forall_congr' fun u => forall_congr' fun _ => ?_
  cases b.skip <;> cases (findField fs b.idx).isSome <;> simp

/-! ### per-item statements supplied by the induction over the schema -/

/-- the reader's field decoder on the writer's encoding of a non-nil shared field delivers the
    projection; where that is "unknown variant", `l = true` and the decoder reports an unknown-variant
    error.  `l` is the `lenient` argument of `compatTy`: `true` exactly at the declared type of an
    optional field, which swallows that error (`FieldsC` puts `optionalField b u` there). -/
def ItemC (l : Bool) (a : FAttr) (t : FTy) (v : Val) (b : FAttr) (u : FTy) : Prop :=
  (∀ x, projTy t u v = .ok x → ∀ r, decWith b.codec (decTy u) (encWith a.codec (encTy t) v ++ r) = .ok x r) ∧
  (projTy t u v = .unknown → l = true ∧
    ∀ r, ∃ r', decWith b.codec (decTy u) (encWith a.codec (encTy t) v ++ r) = .err .variant r')

def FieldsC (gs : Fields) : Fields → List Val → Prop
  | (a, t) :: fs, v :: vs =>
      (a.skip = false → isNilField a t v = false → ∀ b u, findField gs a.idx = some (b, u) →
        ItemC (optionalField b u) a t v b u) ∧ FieldsC gs fs vs
  | _, _ => True

theorem FieldsC_lookup (gs fs : Fields) (vs : List Val) (i : Nat) (a : FAttr) (t : FTy) (v : Val)
    (b : FAttr) (u : FTy) (hC : FieldsC gs fs vs) (h : lookupVal fs vs i = some (a, t, v)) (hn : isNilField a t v = false)
    (hf : findField gs i = some (b, u)) : ItemC (optionalField b u) a t v b u := by
  obtain ⟨_, hai, _⟩ := lookupVal_mem fs vs i a t v h
  exact lookupVal_elim (F := FieldsC gs) (fun _ _ _ _ _ h => h) fs vs i a t v hC h hn b u (hai ▸ hf)

/-! ### the reader's actions on the items of the writer's body -/

theorem action_swallow (b : FAttr) (u : FTy) (X r r' : Bytes)
    (htag : tagOk b.tag = true) (hsw : swallows b u = true)
    (hdec : decWith b.codec (decTy u) (X ++ r) = .err .variant r')
    (hskip : Dec.skip true (tagBytes b.tag ++ (X ++ r)) = .ok () r) :
    action (fdOf b u) (tagBytes b.tag ++ (X ++ r)) = .ok none r := by
  have hb : bareNull (fdOf b u) (tagBytes b.tag ++ (X ++ r)) = .ok false (tagBytes b.tag ++ (X ++ r)) :=
    bareNull_tagBytes (fdOf b u) (X ++ r) htag
  rw [action_of_not_bare _ _ hb]
  simp only [fdOf]
  rw [Dec.bind_run, tagCheck_rt _ _ htag]
  simp only [catchVariant, hdec, hsw, f5Fixed, Bool.and_self, beq_self_eq_true, if_true]
  rw [Dec.bind_run, hskip]
  rfl

theorem skip_piece (fs : Fields) (vs : List Val) (hacc : acceptedFields fs = true) (hty : hasFields fs vs = true)
    (p : Piece Bytes) (hp : p ∈ encFields fs vs) (hl : (tagBytes p.tag ++ p.body).length < 2 ^ 64) (r : Bytes) :
    Dec.skip true (tagBytes p.tag ++ (p.body ++ r)) = .ok () r := by
  rw [C08.fields_spec fs vs hacc hty] at hp
  obtain ⟨q, hq, rfl⟩ := List.mem_map.1 hp
  have hv := specFields_valid fs vs hacc hty q hq
  simp only [toBytes_tag, toBytes_body] at hl ⊢
  rw [← List.append_assoc, ← encPref_tagI] at *
  exact skip_encPref _ r (pv_tagI _ _ hv.2.1 hv.2.2) hl

/-- what the reader's action at index `i` delivers: the projection of the writer's value (`none`: an
    unknown variant was swallowed), or, where the writer has a gap or a nil value, the nil value of
    the reader's field. -/
def rhoC (fs : Fields) (vs : List Val) (gs : Fields) (i : Nat) : Option Val :=
  match lookupVal fs vs i with
  | some (a, t, v) =>
      (match findField gs i with
       | some (b, u) =>
           if isNilField a t v then some (nilVal b u)
           else (match projTy t u v with
             | .ok x => some x
             | _ => none)
       | none => none)
  | none => rhoGap gs i

structure BodyHyp (enc : Encoding) (fs : Fields) (vs : List Val) (gs : Fields) : Prop where
  accW : acceptedFields fs = true
  ndW  : (liveIdxs fs).Nodup
  ty   : hasFields fs vs = true
  accR : acceptedFields gs = true
  ndR  : (liveIdxs gs).Nodup
  cf   : compatFields fs gs = true
  oo   : onlyOptional gs fs = true
  len  : (frame enc (encFields fs vs)).length < 2 ^ 64
  items : FieldsC gs fs vs

/-- `hhere` (the projection is a value at every reader field; `body_compat` has it from
    `assemble … = .ok _`) excludes `projTy t u v = .bad` for the shared field, where nothing is promised
    and `ItemC` says nothing about the decoder. -/
theorem stepC_piece (enc : Encoding) (fs : Fields) (vs : List Val) (gs : Fields) (H : BodyHyp enc fs vs gs)
    (hhere : ∀ b u, (b, u) ∈ gs → ∃ x, hereOf (projFields fs gs vs) b u = .ok x)
    (i : Nat) (a : FAttr) (t : FTy) (v : Val) (hl : lookupVal fs vs i = some (a, t, v))
    (hskip : ∀ r, Dec.skip true (tagBytes a.tag ++ (encWith a.codec (encTy t) v ++ r)) = .ok () r) :
    StepH gs (rhoC fs vs gs i) i (tagBytes a.tag ++ encWith a.codec (encTy t) v) := by
  intro r
  refine ⟨fun _ => by simpa [List.append_assoc] using hskip r, fun b u hbu hbs hbi => ?_⟩
  have hff : findField gs i = some (b, u) := by rw [← hbi]; exact findField_of_mem gs b u H.ndR hbu hbs
  obtain ⟨htag, hcod, hct⟩ := compatFields_lookup fs vs gs i a t v b u H.cf hl hff
  have hok := fieldOk_of_mem gs b u H.accR hbu hbs
  obtain ⟨hcW, hvW, _⟩ := lookupVal_typed fs vs i a t v H.accW H.ty hl
  simp only [rhoC, hl, hff, List.append_assoc]
  rw [htag]
  by_cases hnil : isNilField a t v = true
  · -- a nil value inside the writer's array is a `null`, which the reader's optional field decodes
    rw [encWith_nil a t v hcW hvW hnil, if_pos hnil]
    exact action_rt (fdOf b u) (nilVal b u) Enc.null r hok.1
      (dec_null_nil b u r (nil_partner_optional a t v b u _ hnil hcod hct) hok.2)
  · have hnil' : isNilField a t v = false := by simpa using hnil
    have hI := FieldsC_lookup gs fs vs i a t v b u H.items hl hnil' hff
    obtain ⟨x, hx⟩ := hhere b u hbu
    rw [hereOf_shared fs vs gs H.ndR b u hbu hbs a t v (by rw [hbi]; exact hl)] at hx
    simp only [pOf, hnil', Bool.false_eq_true, if_false] at hx ⊢
    cases hp : projTy t u v with
    | ok y => exact action_rt (fdOf b u) y _ r hok.1 (hI.1 y hp r)
    | unknown =>
      obtain ⟨hlen, herr⟩ := hI.2 hp
      obtain ⟨r', hr'⟩ := herr r
      exact action_swallow b u _ r r' hok.1 (by rw [swallows_eq]; exact hlen) hr' (htag ▸ hskip r)
    | bad => rw [hp] at hx; cases hx

theorem stepC_gap (enc : Encoding) (fs : Fields) (vs : List Val) (gs : Fields) (H : BodyHyp enc fs vs gs)
    (i : Nat) (hl : lookupVal fs vs i = none) :
    StepH gs (rhoC fs vs gs i) i Enc.null := by
  simp only [rhoC, hl]
  exact stepH_gap gs i H.accR H.ndR fun b u hbu hbs hbi =>
    (onlyOptional_iff gs fs).1 H.oo b u hbu hbs (hbi ▸ (lookupVal_none fs vs i H.ty).1 hl)

theorem reader_val_eq (enc : Encoding) (fs : Fields) (vs : List Val) (gs : Fields) (H : BodyHyp enc fs vs gs)
    (b : FAttr) (u : FTy) (hbu : (b, u) ∈ gs) (hbs : b.skip = false) (x : Val)
    (hx : hereOf (projFields fs gs vs) b u = .ok x) :
    (match sigmaF enc fs vs (rhoC fs vs gs) b.idx with
     | some y => y
     | none => nilVal b u) = x ∧
    (sigmaF enc fs vs (rhoC fs vs gs) b.idx = none → (nilOf b u).isSome = true) := by
  have hok := fieldOk_of_mem gs b u H.accR hbu hbs
  have hf := findField_of_mem gs b u H.ndR hbu hbs
  -- wherever the projection is the reader's nil value, so is whatever the reader has seen of it
  have hnilv : nilOrBad b u = .ok x → nilVal b u = x ∧ (nilOf b u).isSome = true := fun h =>
    ⟨nilVal_eq b u x hok.2 (nilOrBad_ok b u x h), by rw [nilOrBad_ok b u x h]; rfl⟩
  have hσ := sigmaF_cases enc fs vs (rhoC fs vs gs) H.accW H.ty b.idx
  cases hl : lookupVal fs vs b.idx with
  | none =>
    rw [hereOf_ronly fs vs gs b u hbs hl] at hx
    refine ⟨?_, fun _ => (hnilv hx).2⟩
    rw [← (hnilv hx).1]
    refine readerVal_gap gs b u hf _ (hσ.symm.imp And.left fun h => ?_)
    simpa only [rhoC, hl] using h
  | some y =>
    obtain ⟨a, t, v⟩ := y
    rw [hereOf_shared fs vs gs H.ndR b u hbu hbs a t v hl] at hx
    cases hnil : isNilField a t v
    · have hσ' : sigmaF enc fs vs (rhoC fs vs gs) b.idx = rhoC fs vs gs b.idx :=
        hσ.resolve_right fun h => by rw [h.2 a t v hl] at hnil; cases hnil
      rw [hσ']
      simp only [pOf, hnil, Bool.false_eq_true, if_false] at hx
      simp only [rhoC, hl, hf, hnil, Bool.false_eq_true, if_false]
      cases hp : projTy t u v with
      | ok y =>
        rw [hp] at hx
        cases hx
        exact ⟨rfl, fun h => by cases h⟩
      | unknown =>
        rw [hp] at hx
        cases hsw : swallows b u <;> rw [hsw] at hx <;> simp only [Bool.false_eq_true, if_false, if_true] at hx
        · cases hx
        · exact ⟨(hnilv hx).1, fun _ => (hnilv hx).2⟩
      | bad => rw [hp] at hx; cases hx
    · simp only [pOf, hnil, if_true] at hx
      refine ⟨?_, fun _ => (hnilv hx).2⟩
      rcases hσ with h | ⟨h, _⟩ <;> rw [h]
      · simpa [rhoC, hl, hf, hnil] using (hnilv hx).1
      · exact (hnilv hx).1

theorem readerVals_eq (σ : Nat → Option Val) : ∀ (gs : Fields) (xs : List Val) (ps : List (Nat × PRes)),
    All2 (fun (g : FAttr × FTy) x => hereOf ps g.1 g.2 = .ok x) gs xs →
    (∀ b u, (b, u) ∈ gs → b.skip = false → ∀ x, hereOf ps b u = .ok x →
      (match σ b.idx with | some y => y | none => nilVal b u) = x) →
    readerVals σ gs = xs
  | [], _, _, .nil, _ => rfl
  | (b, u) :: gs, x :: xs, ps, .cons hh hrest, hval => by
    have ih := readerVals_eq σ gs xs ps hrest (fun b' u' hm => hval b' u' (by simp [hm]))
    simp only [readerVals, ih]
    congr 1
    cases hbs : b.skip
    · rw [← hval b u (by simp) hbs x hh]
      cases σ b.idx <;> rfl
    · simp only [hereOf, hbs, if_true] at hh
      cases hh; rfl

theorem body_compat (enc : Encoding) (fs : Fields) (vs : List Val) (gs : Fields) (rest : Bytes) (xs : List Val)
    (H : BodyHyp enc fs vs gs) (hproj : assemble gs (projFields fs gs vs) = .ok (.struct xs)) :
    fieldsDec enc (decFields gs) (frame enc (encFields fs vs) ++ rest) = .ok xs rest := by
  obtain ⟨xs', hxs, hF⟩ := assemble_ok gs _ _ hproj
  cases hxs
  have hhere : ∀ b u, (b, u) ∈ gs → ∃ x, hereOf (projFields fs gs vs) b u = .ok x :=
    fun b u hbu => hF.mem_left (b, u) hbu
  have hlen := H.len
  rw [fieldsDec_compat enc fs vs gs rest (rhoC fs vs gs) H.accW H.ndW H.ty H.ndR ?cell ?entry
    (fun b u hbu hbs hσ _ => by
      obtain ⟨x, hx⟩ := hhere b u hbu
      exact (reader_val_eq enc fs vs gs H b u hbu hbs x hx).2 hσ)]
  · congr 1
    exact readerVals_eq _ gs xs _ hF (fun b u hbu hbs x hx => (reader_val_eq enc fs vs gs H b u hbu hbs x hx).1)
  case cell =>
    intro he m hm i hi
    subst he
    -- every cell of the array fits a slice, so `skip()` gets across it
    have nd := C08.specFields_nodup H.ty H.ndW
    have hcl := cell_le_frame (specFields fs vs) nd m i hm hi
    rw [← C08.fields_spec fs vs H.accW H.ty] at hcl
    have hsk : ∀ r, Dec.skip true (encPref (cellAt (specFields fs vs) i) ++ r) = .ok () r := fun r =>
      skip_encPref _ r (pv_cellAt (specFields fs vs) (fun p hp => (specFields_valid fs vs H.accW H.ty p hp).2) i) (by omega)
    cases hl : lookupVal fs vs i with
    | some x =>
      rw [cellAt_some fs vs i x.1 x.2.1 x.2.2 H.accW H.ty hl] at hsk ⊢
      exact stepC_piece .array fs vs gs H hhere i _ _ _ hl (fun r => by simpa [List.append_assoc] using hsk r)
    | none =>
      rw [cellAt_none fs vs i H.ty hl]
      exact stepC_gap .array fs vs gs H i hl
  case entry =>
    intro he p hp hn
    subst he
    have hle := entry_le_frame (encFields fs vs) p hp hn
    have hsk := skip_piece fs vs H.accW H.ty p hp (by omega)
    obtain ⟨a, t, v, hl, rfl⟩ := lookupVal_of_mem fs vs p H.ndW hp
    exact stepC_piece .map fs vs gs H hhere _ a t v hl hsk

end Minicbor.Derive
