/-
  The widening conversions `f16ToF32` (`half::f16::to_f32`) and `f32ToF64` (`f64::from(f32)`) compute
  `widenBits` on finite patterns, which is exact and is undone by `rneBits` (`widenBits_spec`);
  `f32ToF64` is exact for every one of the 2^32 patterns.
-/
import Minicbor.Lemmas.FloatFields

namespace Minicbor

theorem normalise_bounds (m l p : Nat) (hlo : 2 ^ l ≤ m) (hhi : m < 2 ^ (l + 1)) (hl : l ≤ p) :
    2 ^ p ≤ m * 2 ^ (p - l) ∧ m * 2 ^ (p - l) < 2 ^ (p + 1) := by
  have hp : 2 ^ l * 2 ^ (p - l) = 2 ^ p := by rw [← Nat.pow_add, Nat.add_sub_cancel' hl]
  have hp1 : 2 ^ (l + 1) * 2 ^ (p - l) = 2 ^ (p + 1) := by
    rw [← Nat.pow_add, show l + 1 + (p - l) = p + 1 by omega]
  exact ⟨hp ▸ Nat.mul_le_mul_right _ hlo, hp1 ▸ Nat.mul_lt_mul_of_pos_right hhi (Nat.two_pow_pos _)⟩

/-- The pattern both widening conversions compute from exponent field `e` and mantissa `m` of a finite pattern
    (`p` mantissa bits, to `q`; `ebias` the difference of the exponent biases); the leading bit `Nat.log2 m` of a
    subnormal becomes the implicit one. -/
def widenBits (p q ebias e m : Nat) : Nat :=
  if e = 0 then
    if m = 0 then 0 else (ebias + 1 - p + Nat.log2 m) * 2 ^ q + (m * 2 ^ (q - Nat.log2 m) - 2 ^ q)
  else (e + ebias) * 2 ^ q + m * 2 ^ (q - p)

theorem widenBits_spec (p q ebias eInf U U' e m : Nat) (hm : m < 2 ^ p) (hpq : p ≤ q) (hpe : p < ebias)
    (hU : U = q - p + ebias + U') (he : e + ebias ≤ eInf) :
    ∃ e' M', widenBits p q ebias e m = e' * 2 ^ q + M' ∧ M' < 2 * 2 ^ q ∧ (e' ≠ 0 → 2 ^ q ≤ M') ∧ e' < e + ebias ∧
      grid (2 ^ q) U' (e' * 2 ^ q + M') = grid (2 ^ p) U (e * 2 ^ p + m) ∧
      rneBits (2 ^ p) (q - p) ebias eInf e' M' = e * 2 ^ p + m := by
  have hQ : 0 < 2 ^ q := Nat.two_pow_pos q
  have hP : 0 < 2 ^ p := Nat.two_pow_pos p
  have hpd : 2 ^ p * 2 ^ (q - p) = 2 ^ q := by rw [← Nat.pow_add, Nat.add_sub_cancel' hpq]
  unfold widenBits
  by_cases he0 : e = 0
  · subst he0
    have hsrc := grid_sig (2 ^ p) U 0 m hP (by omega) (fun c => absurd rfl c)
    rw [Nat.zero_mul, Nat.zero_add, Nat.zero_add] at hsrc
    rw [if_pos rfl, Nat.zero_mul, Nat.zero_add, Nat.zero_add, hsrc]
    by_cases hm0 : m = 0
    · subst hm0
      refine ⟨0, 0, by rw [if_pos rfl, Nat.zero_mul], by omega, fun c => absurd rfl c, by omega, ?_, ?_⟩
      · rw [Nat.zero_mul, grid_zero, Nat.zero_mul]
      · have := rneBits_sub_exact (2 ^ p) (q - p) ebias eInf 0 0 (by omega) (by omega)
        rwa [Nat.zero_mul] at this
    · -- leading bit `l` moves to bit `q`
      have hlo := Nat.log2_self_le hm0
      have hhi := Nat.lt_log2_self (n := m)
      have hl : Nat.log2 m < p := (Nat.log2_lt hm0).mpr hm
      generalize Nat.log2 m = l at *
      obtain ⟨hge, hlt⟩ := normalise_bounds m l q hlo hhi (by omega)
      rw [Nat.pow_succ, Nat.mul_comm (2 ^ q)] at hlt
      refine ⟨ebias - p + l, m * 2 ^ (q - l), ?_, hlt, fun _ => hge, by omega, ?_, ?_⟩
      · rw [if_neg hm0, show ebias + 1 - p + l = ebias - p + l + 1 by omega, Nat.succ_mul]
        omega
      · rw [grid_sig (2 ^ q) U' _ _ hQ (Nat.le_of_lt hlt) (fun _ => hge), Nat.mul_assoc, ← Nat.pow_add]
        congr 2; omega
      · rw [show q - l = ebias + (q - p) - (ebias - p + l) by omega]
        exact rneBits_sub_exact _ _ _ _ _ m (by omega) (by omega)
  · have hM : 2 ^ q + m * 2 ^ (q - p) = (2 ^ p + m) * 2 ^ (q - p) := by rw [Nat.add_mul, hpd]
    have hlt : (2 ^ p + m) * 2 ^ (q - p) < 2 * 2 ^ q := by
      rw [← hpd, ← Nat.mul_assoc]
      exact Nat.mul_lt_mul_of_pos_right (by omega) (Nat.two_pow_pos _)
    have hge : 2 ^ q ≤ (2 ^ p + m) * 2 ^ (q - p) := by rw [← hM]; omega
    obtain ⟨k, hk⟩ : ∃ k, e + ebias = k + 1 := ⟨e + ebias - 1, by omega⟩
    have hsrc : e * 2 ^ p + m = (e - 1) * 2 ^ p + (2 ^ p + m) := by
      rw [← Nat.add_assoc, ← Nat.succ_mul, Nat.succ_eq_add_one, Nat.sub_add_cancel (Nat.pos_of_ne_zero he0)]
    refine ⟨k, (2 ^ p + m) * 2 ^ (q - p), ?_, hlt, fun _ => hge, by omega, ?_, ?_⟩
    · rw [if_neg he0, ← hM, hk, Nat.succ_mul, Nat.add_assoc]
    · rw [grid_sig (2 ^ q) U' _ _ hQ (Nat.le_of_lt hlt) (fun _ => hge), hsrc,
        grid_sig (2 ^ p) U _ _ hP (by omega) (fun _ => Nat.le_add_right _ _), Nat.mul_assoc, ← Nat.pow_add]
      congr 2; omega
    · rw [rneBits_normal_exact _ _ _ _ _ _ (by omega) (by omega), hsrc, show k - ebias = e - 1 by omega]

theorem f32ToF64_mk (s e m : Nat) (he : e < 256) (hm : m < 8388608) :
    f32ToF64 (s * 2147483648 + e * 8388608 + m) =
      if e = 255 then
        (if m = 0 then s * 9223372036854775808 + 0x7FF0000000000000
         else s * 9223372036854775808 + 0x7FF0000000000000 +
           (if m ≥ 4194304 then m * 536870912 else m * 536870912 + 2251799813685248))
      else s * 9223372036854775808 + widenBits 23 52 896 e m := by
  obtain ⟨h1, h2, h3⟩ := fields_of (S := 2147483648) (by decide) s e m he hm
  unfold f32ToF64 widenBits
  simp only [h1, h2, h3, beq_iff_eq, Nat.reducePow, Nat.reduceAdd, Nat.reduceSub]
  by_cases h255 : e = 255
  · rw [if_pos h255, if_pos h255]
  · rw [if_neg h255, if_neg h255]
    by_cases h0 : e = 0
    · rw [if_pos h0, if_pos h0]
      by_cases hm0 : m = 0
      · rw [if_pos hm0, if_pos hm0, Nat.add_zero]
      · rw [if_neg hm0, if_neg hm0, Nat.add_assoc, Nat.add_comm 874]
    · rw [if_neg h0, if_neg h0, Nat.add_assoc]

theorem f32ToF64_fin (e m : Nat) (he : e < 255) (hm : m < 8388608) :
    ∃ e' M', widenBits 23 52 896 e m = e' * 4503599627370496 + M' ∧ M' < 9007199254740992 ∧
      (e' ≠ 0 → 4503599627370496 ≤ M') ∧ e' < e + 896 ∧
      grid 4503599627370496 0 (e' * 4503599627370496 + M') = grid 8388608 925 (e * 8388608 + m) ∧
      rneBits 8388608 29 896 1150 e' M' = e * 8388608 + m := by
  obtain ⟨e', M', h⟩ := widenBits_spec 23 52 896 1150 925 0 e m hm (by decide) (by decide) rfl (by omega)
  exact ⟨e', M', by simpa using h⟩

theorem widen_exact_all (x : Nat) (hx : x < 2 ^ 32) : val64 (f32ToF64 x) = val32 x := by
  obtain ⟨h, hs, he, hm⟩ := split32 x (by simpa using hx)
  clear hx  -- with the bound on the whole pattern in sight the `omega`s below do not get through
  generalize x / 2147483648 = s, x / 8388608 % 256 = e, x % 8388608 = m at h hs he hm
  subst h
  rw [f32ToF64_mk s e m he hm]
  by_cases he255 : e = 255
  · rw [if_pos he255, val32_mk s e m hs he hm, if_pos he255]
    by_cases hm0 : m = 0
    · subst hm0
      simpa using val64_mk s 2047 0 hs (by omega) (by omega)
    · -- a NaN stays a NaN: the payload moves up, the quiet bit is set
      have hnan : ∀ M, M < 4503599627370496 → M ≠ 0 →
          val64 (s * 9223372036854775808 + 0x7FF0000000000000 + M) = .nan := by
        intro M hM hM0
        have := val64_mk s 2047 M hs (by omega) hM
        simpa [hM0] using this
      rw [if_neg hm0, if_neg hm0]
      split <;> exact hnan _ (by omega) (by omega)
  · obtain ⟨e', M', hw, hM', -, he', hg, -⟩ := f32ToF64_fin e m (by omega) hm
    rw [if_neg he255, hw, val64_fin s _ hs (by omega), hg, Nat.add_assoc, format32.fin s _ hs (by omega)]

end Minicbor
