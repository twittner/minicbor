/-
  Further facts about balanced call sequences: every definite head of the denotation is shortest;
  without `begin_*` calls the denotation is the preferred tree of its value; and every valid wire
  tree is the denotation of its own token list.
-/
import Minicbor.Lemmas.BalancedEnc
import Minicbor.Lemmas.TokenSpec

namespace Minicbor
open C11

theorem chunksShortest_pref (cs : List Bytes) : chunksShortest (prefChunks cs) = true := by
  induction cs with
  | nil => rfl
  | cons c cs ih => simpa [prefChunks, chunksShortest] using ih

theorem intW_shortest (v : Int) : shortest (intW v) = true := by
  unfold intW; split <;> simp [shortest]

theorem scalar_shortest {t : Token} {w : WItem} (hs : scalarW t = some w) : shortest w = true := by
  cases t <;> simp only [scalarW, Option.some.injEq, reduceCtorEq] at hs <;> subst hs <;>
    first | exact intW_shortest _ | simp [shortest]

theorem Balanced.shortest {ts : List Token} {ws : List WItem} (h : Balanced ts ws) :
    shortestL ws = true := by
  induction h with
  | nil => rfl
  | scalar hs _ ih => simp [shortestL, scalar_shortest hs, ih]
  | array _ hl _ ihx ih => subst hl; simp [shortestL, Minicbor.shortest, ihx, ih]
  | @map n _ _ kvs _ _ hl _ ihx ih =>
    have : kvs.length / 2 = n := by omega
    simp [shortestL, Minicbor.shortest, ihx, ih, this]
  | tag _ _ ihx ih =>
    simp only [shortestL, Bool.and_true] at ihx
    simp [shortestL, Minicbor.shortest, ihx, ih]
  | arrayI _ _ ihx ih | mapI _ _ _ ihx ih => simp [shortestL, Minicbor.shortest, ihx, ih]
  | bytesI _ ih | textI _ ih => simp [shortestL, Minicbor.shortest, chunksShortest_pref, ih]

/-- C11 and C03 each define "every chunk head is shortest"; it is one predicate. -/
theorem chunksPreferred_eq (cs : List (Width × Bytes)) : chunksPreferred cs = chunksShortest cs := by
  induction cs with
  | nil => rfl
  | cons c cs ih => simp only [chunksPreferred, chunksShortest, ih]

theorem intW_preferred (v : Int) : preferred (intW v) = true := by
  unfold intW; split <;> simp [preferred]

theorem scalar_preferred {t : Token} {w : WItem} (hs : scalarW t = some w) (hok : t.callOk) :
    preferred w = true := by
  cases t <;> simp only [scalarW, Option.some.injEq, reduceCtorEq] at hs <;> subst hs
  case f16 x =>
    have h : x < 4294967296 := by simpa [Token.callOk, Token.ok] using hok
    simp [preferred, f32ToF16_quiet x h]
  all_goals first | exact intW_preferred _ | simp [preferred]

/-- `C11.Token.wf` (the hypothesis of the C11 theorems) is `callOk` plus "an `F16` token holds a
    half-representable `f32`". -/
theorem callOk_of_wf (t : Token) (h : Token.wf t) : t.callOk := by
  cases t <;> try exact h
  case f16 x =>
    obtain ⟨hh, hlt, rfl⟩ := h
    exact decide_eq_true (f16ToF32_lt hh hlt)

theorem Balanced.preferred {ts : List Token} {ws : List WItem} (h : Balanced ts ws)
    (hok : ∀ t ∈ ts, t.callOk) : preferredL ws = true := by
  induction h with
  | nil => rfl
  | scalar hs _ ih =>
    rw [List.forall_mem_cons] at hok
    simp [preferredL, scalar_preferred hs hok.1, ih hok.2]
  | array _ hl _ ihx ih =>
    simp only [List.forall_mem_cons, List.forall_mem_append] at hok
    subst hl; simp [preferredL, C11.preferred, ihx hok.2.1, ih hok.2.2]
  | @map n _ _ kvs _ _ hl _ ihx ih =>
    simp only [List.forall_mem_cons, List.forall_mem_append] at hok
    have : kvs.length / 2 = n := by omega
    simp [preferredL, C11.preferred, ihx hok.2.1, ih hok.2.2, this]
  | tag _ _ ihx ih =>
    simp only [List.forall_mem_cons, List.forall_mem_append] at hok
    have := ihx hok.2.1
    simp only [preferredL, Bool.and_true] at this
    simp [preferredL, C11.preferred, this, ih hok.2.2]
  | arrayI _ _ ihx ih | mapI _ _ _ ihx ih =>
    simp only [List.forall_mem_cons, List.forall_mem_append] at hok
    simp [preferredL, C11.preferred, ihx hok.2.1, ih hok.2.2.2]
  | bytesI _ ih | textI _ ih =>
    simp only [List.forall_mem_cons, List.forall_mem_append] at hok
    simp [preferredL, C11.preferred, chunksPreferred_eq, chunksShortest_pref, ih hok.2.2.2]

theorem intW_definite (v : Int) : definite (intW v) = true := by
  unfold intW; split <;> rfl

theorem scalar_definite {t : Token} {w : WItem} (hs : scalarW t = some w) : definite w = true := by
  cases t <;> simp only [scalarW, Option.some.injEq, reduceCtorEq] at hs <;> subst hs <;>
    first | exact intW_definite _ | rfl

theorem Balanced.definite {ts : List Token} {ws : List WItem} (h : Balanced ts ws)
    (hb : ∀ t ∈ ts, t.isBegin = false) : definiteL ws = true := by
  induction h with
  | nil => rfl
  | scalar hs _ ih => simp [definiteL, scalar_definite hs, ih (List.forall_mem_cons.1 hb).2]
  | array _ _ _ ihx ih | map _ _ _ ihx ih =>
    simp only [List.forall_mem_cons, List.forall_mem_append] at hb
    simp [definiteL, Minicbor.definite, ihx hb.2.1, ih hb.2.2]
  | tag _ _ ihx ih =>
    simp only [List.forall_mem_cons, List.forall_mem_append] at hb
    have := ihx hb.2.1
    simp only [definiteL, Bool.and_true] at this
    simp [definiteL, Minicbor.definite, this, ih hb.2.2]
  | arrayI | mapI | bytesI | textI => exact absurd (hb _ (List.mem_cons_self ..)) (by simp [Token.isBegin])

mutual
theorem prefTree_value (w : WItem) (hd : definite w = true) (hs : shortest w = true) :
    prefTree (value w) = w := by
  cases w with
  | uint w n | nint w n | bytes w b | text w b =>
    simp only [shortest, beq_iff_eq] at hs; simp only [value, prefTree, hs]
  | bytesI cs | textI cs | arrayI xs | mapI xs => simp [definite] at hd
  | array w xs | map w xs =>
    simp only [shortest, Bool.and_eq_true, beq_iff_eq] at hs
    simp only [definite] at hd
    simp only [value, prefTree, values_length, prefTrees_values xs hd hs.2, ← hs.1]
  | tag w n x =>
    simp only [shortest, Bool.and_eq_true, beq_iff_eq] at hs
    simp only [definite] at hd
    simp only [value, prefTree, prefTree_value x hd hs.2, ← hs.1]
  | simple n | f16 b | f32 b | f64 b => rfl
theorem prefTrees_values (ws : List WItem) (hd : definiteL ws = true) (hs : shortestL ws = true) :
    prefTrees (values ws) = ws := by
  cases ws with
  | nil => rfl
  | cons x xs =>
    simp only [definiteL, Bool.and_eq_true] at hd
    simp only [shortestL, Bool.and_eq_true] at hs
    simp only [values, prefTrees, prefTree_value x hd.1 hs.1, prefTrees_values xs hd.2 hs.2]
end

theorem canonChunks_eq_pref (cs : List (Width × Bytes)) : canonChunks cs = prefChunks (cs.map Prod.snd) := by
  induction cs with
  | nil => rfl
  | cons c cs ih => obtain ⟨w, b⟩ := c; simp only [canonChunks, ih, prefChunks, List.map_cons]

theorem scalarW_uintTok (w : Width) (n : Nat) : scalarW (uintTok w n) = some (.uint (prefWidth n) n) := by
  cases w <;> rfl

theorem intW_neg (n : Nat) : intW (-1 - (n : Int)) = .nint (prefWidth n) n := by
  unfold intW
  rw [if_neg (by omega)]
  have : (-1 - (-1 - (n : Int))).toNat = n := by omega
  rw [this]

theorem scalarW_nintTok (w : Width) (n : Nat) : scalarW (nintTok w n) = some (.nint (prefWidth n) n) := by
  cases w <;> simp only [nintTok] <;> (try split) <;> simp only [scalarW, intW_neg]

theorem scalarW_simpleTok (n : Nat) : scalarW (simpleTok n) = some (.simple n) := by
  unfold simpleTok
  (repeat' split) <;> simp_all [scalarW]

mutual
theorem toks_balanced (w : WItem) (hv : w.valid = true) : Balanced (toks w) [canon w] := by
  cases w with
  | uint w n => exact .scalar (scalarW_uintTok w n) .nil
  | nint w n => exact .scalar (scalarW_nintTok w n) .nil
  | bytes w b | text w b | f32 b | f64 b => exact .scalar rfl .nil
  | bytesI cs =>
    simp only [toks, canon, chunkToks_eq, canonChunks_eq_pref]
    exact .bytesI .nil
  | textI cs =>
    simp only [toks, canon, chunkToks_eq, canonChunks_eq_pref]
    exact .textI .nil
  | array w xs =>
    simp only [WItem.valid, Bool.and_eq_true] at hv
    have := Balanced.array (toksL_balanced xs hv.2) (canonL_length xs) .nil
    simpa [toks, canon] using this
  | arrayI xs =>
    simp only [WItem.valid] at hv
    exact .arrayI (toksL_balanced xs hv) .nil
  | map w kvs =>
    simp only [WItem.valid, Bool.and_eq_true, beq_iff_eq] at hv
    have hl : (canonL kvs).length = 2 * (kvs.length / 2) := by rw [canonL_length]; omega
    have := Balanced.map (toksL_balanced kvs hv.2) hl .nil
    simpa [toks, canon] using this
  | mapI kvs =>
    simp only [WItem.valid, Bool.and_eq_true, beq_iff_eq] at hv
    exact .mapI (toksL_balanced kvs hv.2) (by rw [canonL_length]; exact hv.1) .nil
  | tag w n x =>
    simp only [WItem.valid, Bool.and_eq_true] at hv
    have := Balanced.tag (n := n) (toks_balanced x hv.2) .nil
    simpa [toks, canon] using this
  | simple n => exact .scalar (scalarW_simpleTok n) .nil
  | f16 b =>
    simp only [WItem.valid, decide_eq_true_eq] at hv
    exact .scalar (by simp only [scalarW, half_roundtrip b hv, canon]) .nil
theorem toksL_balanced (ws : List WItem) (hv : validAll ws = true) : Balanced (toksL ws) (canonL ws) := by
  cases ws with
  | nil => exact .nil
  | cons x xs =>
    simp only [validAll, Bool.and_eq_true] at hv
    exact (toks_balanced x hv.1).cons_item (toksL_balanced xs hv.2)
end

end Minicbor
