/-
  "Each token carries the data-model value of its head", made precise: `itemOfTokens` rebuilds a
  data-model value (`Item`, RFC 8949 §2) from a token list using nothing but the payloads of the
  tokens — integers by their numeric value, strings by their bytes, containers by their declared
  length or up to the matching `break`, chunks concatenated.  Wherever the balance checker
  (Balanced.lean) reads an item, this reader reads the value of that item (`bal_parse`); so on the
  tokens of a valid wire tree `w` it returns exactly the value of `canon w`.
-/
import Minicbor.Lemmas.BalancedProps

namespace Minicbor.C11

def parseChunks (text : Bool) : List Token → Option (Bytes × List Token)
  | .brk :: ts => some ([], ts)
  | .bytes b :: ts => if text then none else (parseChunks text ts).map fun (r : Bytes × List Token) => (b ++ r.1, r.2)
  | .string b :: ts => if text then (parseChunks text ts).map fun (r : Bytes × List Token) => (b ++ r.1, r.2) else none
  | _ => none

mutual
/-- fuel: nesting + length, as for `balItem` (Balanced.lean). -/
def parseItem : Nat → List Token → Option (Item × List Token)
  | 0, _ => none
  | _ + 1, [] => none
  | f + 1, t :: ts =>
    match t with
    | .u8 n | .u16 n | .u32 n | .u64 n => some (.uint n, ts)
    | .i8 v | .i16 v | .i32 v | .i64 v | .int v => some (C03.intItem v, ts)
    | .bytes b => some (.bytes b, ts)
    | .string b => some (.text b, ts)
    | .beginBytes => (parseChunks false ts).map fun r => (.bytes r.1, r.2)
    | .beginString => (parseChunks true ts).map fun r => (.text r.1, r.2)
    | .array n => (parseN f n ts).map fun r => (.array r.1, r.2)
    | .map n => (parseN f (2 * n) ts).map fun r => (.map r.1, r.2)
    | .beginArray => (parseUntil f ts).map fun r => (.array r.1, r.2)
    | .beginMap => (parseUntil f ts).map fun r => (.map r.1, r.2)
    | .tag n => (parseItem f ts).map fun r => (.tag n r.1, r.2)
    | .bool b => some (.simple (if b then 21 else 20), ts)
    | .null => some (.simple 22, ts)
    | .undefined => some (.simple 23, ts)
    | .simple n => some (.simple n, ts)
    | .f16 x => some (.f16 (f32ToF16 x), ts)      -- the half that the `f32` payload denotes
    | .f32 x => some (.f32 x, ts)
    | .f64 x => some (.f64 x, ts)
    | .brk => none
def parseN : Nat → Nat → List Token → Option (List Item × List Token)
  | _, 0, ts => some ([], ts)
  | 0, _ + 1, _ => none
  | f + 1, n + 1, ts =>
    match parseItem f ts with
    | none => none
    | some (x, r) => (parseN f n r).map fun p => (x :: p.1, p.2)
def parseUntil : Nat → List Token → Option (List Item × List Token)
  | 0, _ => none
  | _ + 1, .brk :: ts => some ([], ts)
  | f + 1, ts =>
    match parseItem f ts with
    | none => none
    | some (x, r) => (parseUntil f r).map fun p => (x :: p.1, p.2)
end

def itemOfTokens (ts : List Token) : Option Item :=
  match parseItem (2 * ts.length) ts with
  | some (x, []) => some x
  | _ => none

end Minicbor.C11

namespace Minicbor
open C11

theorem parseN_succ (f n : Nat) (ts : List Token) :
    parseN (f + 1) (n + 1) ts =
      (parseItem f ts).bind fun p => (parseN f n p.2).map fun q => (p.1 :: q.1, q.2) := by
  simp only [parseN]
  rcases parseItem f ts with _ | ⟨x, r⟩ <;> rfl

theorem parseUntil_brk (f : Nat) (ts : List Token) : parseUntil (f + 1) (.brk :: ts) = some ([], ts) := by
  simp only [parseUntil]

theorem parseUntil_step (f : Nat) (ts : List Token) (h : ∀ r, ts ≠ .brk :: r) :
    parseUntil (f + 1) ts =
      (parseItem f ts).bind fun p => (parseUntil f p.2).map fun q => (p.1 :: q.1, q.2) := by
  cases ts with
  | nil =>
    simp only [parseUntil]
    rcases parseItem f [] with _ | ⟨x, r⟩ <;> rfl
  | cons t ts =>
    cases t
    case brk => exact absurd rfl (h ts)
    all_goals
      simp only [parseUntil]
      rcases parseItem f _ with _ | ⟨x, r⟩ <;> rfl

theorem joinChunks_pref (cs : List Bytes) : joinChunks (prefChunks cs) = cs.flatten := by
  induction cs with
  | nil => rfl
  | cons c cs ih => simpa [prefChunks, joinChunks] using ih

theorem balChunks_parse (text : Bool) (ts : List Token) (cs : List Bytes) (r : List Token)
    (h : balChunks text ts = some (cs, r)) :
    parseChunks text ts = some (joinChunks (prefChunks cs), r) := by
  induction ts generalizing cs with
  | nil => simp [balChunks] at h
  | cons t ts ih =>
    cases t <;> cases text <;>
      simp only [balChunks, Bool.false_eq_true, if_false, if_true, Option.map_eq_some_iff,
        Option.some.injEq, Prod.mk.injEq, reduceCtorEq] at h
    case bytes.false b | string.true b =>
      obtain ⟨⟨cs', r'⟩, h1, rfl, rfl⟩ := h
      simp [parseChunks, ih cs' h1, prefChunks, joinChunks]
    case brk.false | brk.true => obtain ⟨rfl, rfl⟩ := h; rfl

theorem value_intW (v : Int) : value (intW v) = C03.intItem v := by
  unfold intW C03.intItem; split <;> rfl

theorem bal_parse (f : Nat) :
    (∀ ts w r, balItem f ts = some (w, r) → parseItem f ts = some (value w, r)) ∧
    (∀ n ts ws r, balN f n ts = some (ws, r) → parseN f n ts = some (values ws, r)) ∧
    (∀ ts ws r, balUntil f ts = some (ws, r) → parseUntil f ts = some (values ws, r)) := by
  induction f with
  | zero =>
    refine ⟨fun ts w r h => by simp [balItem] at h, fun n ts ws r h => ?_, fun ts ws r h => by simp [balUntil] at h⟩
    cases n with
    | zero => obtain ⟨rfl, rfl⟩ := balN_zero h; rfl
    | succ n => simp [balN] at h
  | succ f ih =>
    obtain ⟨ihI, ihN, ihU⟩ := ih
    refine ⟨fun ts w r h => ?_, fun n ts ws r h => ?_, fun ts ws r h => ?_⟩
    · cases ts with
      | nil => simp [balItem] at h
      | cons t ts =>
        rcases balItem_some h with ⟨hs, rfl⟩ | ⟨n, xs, rfl, h1, rfl⟩ | ⟨n, xs, rfl, h1, rfl⟩ |
          ⟨n, x, rfl, h1, rfl⟩ | ⟨xs, rfl, h1, rfl⟩ | ⟨xs, rfl, h1, _, rfl⟩ | ⟨cs, rfl, h1, rfl⟩ |
          ⟨cs, rfl, h1, rfl⟩
        · cases t <;> simp only [scalarW, Option.some.injEq, reduceCtorEq] at hs <;> subst hs <;>
            simp only [parseItem, value, value_intW]
        · simp only [parseItem, ihN _ _ _ _ h1, value, Option.map_some]
        · simp only [parseItem, ihN _ _ _ _ h1, value, Option.map_some]
        · simp only [parseItem, ihI _ _ _ h1, value, Option.map_some]
        · simp only [parseItem, ihU _ _ _ h1, value, Option.map_some]
        · simp only [parseItem, ihU _ _ _ h1, value, Option.map_some]
        · simp only [parseItem, balChunks_parse _ _ _ _ h1, value, Option.map_some]
        · simp only [parseItem, balChunks_parse _ _ _ _ h1, value, Option.map_some]
    · cases n with
      | zero => obtain ⟨rfl, rfl⟩ := balN_zero h; rfl
      | succ n =>
        obtain ⟨x, r1, xs, hi, h1, rfl⟩ := balN_some h
        simp [parseN_succ, ihI _ _ _ hi, ihN _ _ _ _ h1, values]
    · rcases balUntil_some h with ⟨rfl, rfl⟩ | ⟨hb, x, r1, xs, hi, h1, rfl⟩
      · rfl
      · simp [parseUntil_step f ts hb, ihI _ _ _ hi, ihU _ _ _ h1, values]

theorem balanced_single_value (ts : List Token) (w : WItem) (h : balanced ts = some [w]) :
    itemOfTokens ts = some (value w) := by
  have := ((balanced_iff ts [w]).1 h).complete.item [] (2 * ts.length) (Nat.le_refl _)
  rw [List.append_nil] at this
  simp only [itemOfTokens, (bal_parse _).1 _ _ _ this]

end Minicbor

namespace Minicbor.C11

/-- the value of `canon w`, not of `w`: a signalling half NaN has been quieted by the token's `f32` payload. -/
theorem parse_toks (w : WItem) (hv : w.valid = true) (f : Nat) (rest : List Token)
    (hf : 2 * (toks w).length ≤ f) :
    parseItem f (toks w ++ rest) = some (value (canon w), rest) :=
  (bal_parse f).1 _ _ _ ((toks_balanced w hv).complete.item rest f hf)

theorem parse_toksN (ws : List WItem) (hv : validAll ws = true) (f : Nat) (rest : List Token)
    (hf : 2 * (toksL ws).length + 1 ≤ f) :
    parseN f ws.length (toksL ws ++ rest) = some (values (canonL ws), rest) := by
  have := ((toksL_balanced ws hv).complete f hf).1 rest
  rw [canonL_length] at this
  exact (bal_parse f).2.1 _ _ _ _ this

theorem parse_toksU (ws : List WItem) (hv : validAll ws = true) (f : Nat) (rest : List Token)
    (hf : 2 * (toksL ws).length + 1 ≤ f) :
    parseUntil f (toksL ws ++ .brk :: rest) = some (values (canonL ws), rest) :=
  (bal_parse f).2.2 _ _ _ (((toksL_balanced ws hv).complete f hf).2.1 rest)

end Minicbor.C11
