/-
  The reader's slots while it decodes a body it did not write itself (C09's re-framed input, C10's
  other version).  `σ : Nat → Option Val` records, per field index, what the reader has decoded so
  far; `ρ` what the action at an index delivers (`none` = an unknown variant was swallowed, the slot
  keeps its content).  One item of the body is described by `StepH`; the loops over such items are
  in DeriveSlotLoops.lean.
-/
import Minicbor.Lemmas.DeriveDec

namespace Minicbor.Derive
open Minicbor.Dec

/-- the slots of the reader agree with `σ`. -/
def InvR (σ : Nat → Option Val) : Fields → Slots → Prop
  | (b, u) :: gs, s :: ss =>
      (b.skip = false → s = (match σ b.idx with | some x => some x | none => slotInit u)) ∧ InvR σ gs ss
  | [], [] => True
  | _, _ => False

theorem invR_init : ∀ (gs : Fields), InvR (fun _ => none) gs ((decFields gs).map (·.init))
  | [] => trivial
  | (b, u) :: gs => ⟨fun _ => by simp, invR_init gs⟩

theorem invR_congr {σ σ' : Nat → Option Val} : ∀ (gs : Fields) (ss : Slots),
    (∀ i ∈ liveIdxs gs, σ i = σ' i) → InvR σ gs ss → InvR σ' gs ss
  | [], [], _, _ => trivial
  | (b, u) :: gs, s :: ss, h, hi => by
    refine ⟨fun hs => ?_, invR_congr gs ss (fun i hm => h i (mem_liveIdxs_cons.2 (Or.inr hm))) hi.2⟩
    rw [← h b.idx (mem_liveIdxs_cons.2 (Or.inl ⟨hs, rfl⟩))]
    exact hi.1 hs
  | [], _ :: _, _, hi => by simp [InvR] at hi
  | _ :: _, [], _, hi => by simp [InvR] at hi

/-- `σ` after the action at index `c` has delivered `res`; `none` (the field swallowed an unknown
    variant) leaves the slot unchanged. -/
def updR (σ : Nat → Option Val) (c : Nat) (res : Option Val) : Nat → Option Val :=
  fun i => if i == c then (match res with | some pv => some pv | none => σ i) else σ i

theorem updR_ne (σ : Nat → Option Val) {c i : Nat} (res : Option Val) (h : i ≠ c) : updR σ c res i = σ i := by
  simp [updR, h]

theorem runAtR_hit (σ : Nat → Option Val) (c : Nat) (X r : Bytes) (res : Option Val) :
    ∀ (gs : Fields) (ss : Slots), (liveIdxs gs).Nodup → InvR σ gs ss → c ∈ liveIdxs gs →
    (∀ b u, (b, u) ∈ gs → b.skip = false → b.idx = c → action (fdOf b u) (X ++ r) = .ok res r) →
    ∃ ss', runAt (decFields gs) ss c (X ++ r) = .ok ss' r ∧ InvR (updR σ c res) gs ss'
  | [], _, _, _, hc, _ => by simp [liveIdxs] at hc
  | (b, u) :: gs, [], _, hi, _, _ => by simp [InvR] at hi
  | (b, u) :: gs, s :: ss, hnd, hi, hc, hact => by
    have hnd' := nodup_liveIdxs_cons hnd
    by_cases hcond : b.skip = false ∧ b.idx = c
    · -- this field; none of the others has the index `c`
      obtain ⟨hs, rfl⟩ := hcond
      have ha := hact b u (by simp) hs rfl
      simp only [fdOf] at ha
      refine ⟨(match (generalizing := false) res with | some v => some v | none => s) :: ss, ?_, fun _ => ?_,
        invR_congr gs ss (fun i hm => (updR_ne σ res (by intro e; exact hnd'.1 hs (e ▸ hm))).symm) hi.2⟩
      · simp only [decFields_cons, runAt, fdOf, hs, Bool.not_false, Bool.true_and, beq_self_eq_true, if_true]
        rw [Dec.bind_run, ha]
        rfl
      · simp only [updR, beq_self_eq_true, if_true]
        cases res
        · exact hi.1 hs
        · rfl
    · obtain ⟨ss', h1, h2⟩ := runAtR_hit σ c X r res gs ss hnd'.2 hi.2 ((mem_liveIdxs_cons.1 hc).resolve_left hcond)
        (fun b' u' hm => hact b' u' (by simp [hm]))
      refine ⟨s :: ss', ?_, fun hs => ?_, h2⟩
      · rw [runAt_ne b u gs s ss c _ fun hs e => hcond ⟨hs, e⟩, Dec.bind_ok _ _ _ _ _ h1]; rfl
      · rw [updR_ne σ res (fun e => hcond ⟨hs, e⟩)]
        exact hi.1 hs

/-- what one index of the writer's body does to the reader: either the reader has no such field
    and skips the item, or its field's action delivers `ρ`.  `Dec.skip true` is `Decoder::skip` built with
    feature `alloc`, the one the model of the generated code calls (lib.rs:467-471). -/
def StepH (gs : Fields) (ρ : Option Val) (c : Nat) (X : Bytes) : Prop :=
  ∀ r, (c ∉ liveIdxs gs → Dec.skip true (X ++ r) = .ok () r) ∧
       (∀ b u, (b, u) ∈ gs → b.skip = false → b.idx = c → action (fdOf b u) (X ++ r) = .ok ρ r)

theorem runAtR_step (σ : Nat → Option Val) (c : Nat) (X r : Bytes) (ρ : Option Val) (gs : Fields) (ss : Slots)
    (hnd : (liveIdxs gs).Nodup) (hi : InvR σ gs ss) (h : StepH gs ρ c X) :
    ∃ ss', runAt (decFields gs) ss c (X ++ r) = .ok ss' r ∧ InvR (updR σ c ρ) gs ss' := by
  by_cases hc : c ∈ liveIdxs gs
  · exact runAtR_hit σ c X r ρ gs ss hnd hi hc (h r).2
  · exact ⟨ss, runAt_miss c X r ((h r).1 hc) gs ss hc,
      invR_congr gs ss (fun i hm => (updR_ne σ ρ (by intro e; exact hc (e ▸ hm))).symm) hi⟩

/-- `σ` after the cells `c .. c+n-1` of an array body. -/
def ovr (σ : Nat → Option Val) (ρ : Nat → Option Val) (c n : Nat) : Nat → Option Val :=
  fun i => if decide (c ≤ i) && decide (i < c + n) then (match ρ i with | some pv => some pv | none => σ i) else σ i

/-- what `resolve` returns from slots in state `σ` (`resolveR`).  The last fallback, `(nilOf b u).getD .none`,
    is a junk value where the field has neither a slot content, an initial value nor a nil: there `resolve`
    fails with `.missing`, the case that `resolveR`'s `hopt` excludes. -/
def readerVals (σ : Nat → Option Val) : Fields → List Val
  | [] => []
  | (b, u) :: gs =>
      (if b.skip then defaultOf u
       else match σ b.idx with
         | some x => x
         | none => match slotInit u with
           | some y => y
           | none => (nilOf b u).getD .none) :: readerVals σ gs

theorem resolveR (σ : Nat → Option Val) : ∀ (gs : Fields) (ss : Slots), InvR σ gs ss →
    (∀ b u, (b, u) ∈ gs → b.skip = false → σ b.idx = none → slotInit u = none → (nilOf b u).isSome = true) →
    ∀ r, resolve (decFields gs) ss r = .ok (readerVals σ gs) r
  | [], [], _, _, r => by simp [decFields, resolve, readerVals]
  | (b, u) :: gs, s :: ss, hi, hopt, r => by
    have ih := resolveR σ gs ss hi.2 (fun b' u' hm => hopt b' u' (by simp [hm])) r
    simp only [decFields_cons, resolve, readerVals]
    rw [Dec.bind_run]
    cases hs : b.skip
    · have hslot := hi.1 hs
      cases hσ : σ b.idx with
      | some x => simp [slotValue, fdOf, hs, hslot, hσ, Dec.bind_run, ih]
      | none =>
        cases hsi : slotInit u with
        | some y => simp [slotValue, fdOf, hs, hslot, hσ, hsi, Dec.bind_run, ih]
        | none =>
          have := hopt b u (by simp) hs hσ hsi
          cases hn : nilOf b u with
          | some z => simp [slotValue, fdOf, hs, hslot, hσ, hsi, hn, Dec.bind_run, ih]
          | none => rw [hn] at this; cases this
    · simp [slotValue, fdOf, hs, Dec.bind_run, ih]
  | [], _ :: _, hi, _, _ => by simp [InvR] at hi
  | _ :: _, [], hi, _, _ => by simp [InvR] at hi

end Minicbor.Derive
