/-
  `try_insert` commutes on two values of different kinds (outside the two order-sensitive pairs):
  on the codec cluster by the pairs of `AttrsSwapCl`, on the eight independent kinds because each
  of them reads and writes its own slot only.  Hence inserting pairwise independent values gives
  the same map in any order (`insertAll_perm`).
-/
import Minicbor.Lemmas.AttrsSwapCl

namespace Minicbor.Attrs

theorem swapCl (c : Cl) (v w : Val) (hv : isCluster v.kind = true) (hw : isCluster w.kind = true) (hk : v.kind ≠ w.kind)
    (hb : ¬ Bad v w) : Eqv (twoCl c v w) (twoCl c w v) := by
  cases v <;> simp [isCluster, Val.kind] at hv <;> cases w <;> simp [isCluster, Val.kind] at hw hk
  case codec.nil cc z => exact swap_codec_nil c cc z fun d m h => hb (h ▸ trivial)
  case nil.codec z cc => exact (swap_codec_nil c cc z fun d m h => hb (h ▸ trivial)).symm
  case codec.isNil cc z => exact swap_codec_isNil c cc z fun e n h => hb (h ▸ trivial)
  case isNil.codec z cc => exact (swap_codec_isNil c cc z fun e n h => hb (h ▸ trivial)).symm
  case codec.hasNil => exact swap_codec_hasNil c _
  case hasNil.codec => exact (swap_codec_hasNil c _).symm
  case codec.cborLen => exact swap_codec_cborLen c _ _
  case cborLen.codec => exact (swap_codec_cborLen c _ _).symm
  case isNil.nil => exact swap_isNil_nil c _ _
  case nil.isNil => exact (swap_isNil_nil c _ _).symm
  case isNil.hasNil => exact swap_isNil_hasNil c _
  case hasNil.isNil => exact (swap_isNil_hasNil c _).symm
  case isNil.cborLen => exact swap_isNil_cborLen c _ _
  case cborLen.isNil => exact (swap_isNil_cborLen c _ _).symm
  case nil.hasNil => exact swap_nil_hasNil c _
  case hasNil.nil => exact (swap_nil_hasNil c _).symm
  case nil.cborLen => exact swap_nil_cborLen c _ _
  case cborLen.nil => exact (swap_nil_cborLen c _ _).symm
  case hasNil.cborLen => exact swap_hasNil_cborLen c _
  case cborLen.hasNil => exact (swap_hasNil_cborLen c _).symm

def twoRs (r : Rs) (v w : Val) : Except Err Rs :=
  match insertRs r v with
  | .error e => .error e
  | .ok r' => insertRs r' w

theorem twoRs_toOption (r : Rs) (v w : Val) :
    (twoRs r v w).toOption = (insertRs r v).toOption.bind fun r' => (insertRs r' w).toOption := by
  unfold twoRs; cases insertRs r v <;> rfl

/-! Each independent kind reads and writes its own slot only: up to the error value, `insertRs r v`
    is a partial function of that slot, put back into `r`. -/

theorem insertRs_encoding (r : Rs) (e : Enc) : (insertRs r (.encoding e)).toOption =
    (bif r.encoding.isSome then none else some (some e)).map fun x => { r with encoding := x } := by
  cases h : r.encoding <;> simp only [insertRs, h] <;> rfl

theorem insertRs_index (r : Rs) (b : Bool) (i : Nat) : (insertRs r (.index b i)).toOption =
    (bif r.index.isSome then none else some (some (b, i))).map fun x => { r with index := x } := by
  cases h : r.index <;> simp only [insertRs, h] <;> rfl

theorem insertRs_indexOnly (r : Rs) : (insertRs r .indexOnly).toOption =
    (bif r.indexOnly then none else some true).map fun x => { r with indexOnly := x } := by
  cases h : r.indexOnly <;> simp only [insertRs, h] <;> rfl

theorem insertRs_transparent (r : Rs) : (insertRs r .transparent).toOption =
    (bif r.transparent then none else some true).map fun x => { r with transparent := x } := by
  cases h : r.transparent <;> simp only [insertRs, h] <;> rfl

theorem insertRs_typeParam (r : Rs) (p : TP) : (insertRs r (.typeParam p)).toOption =
    (match r.typeParam with
     | some cb => (cb.merge p).toOption.map some
     | none => some (some p)).map fun x => { r with typeParam := x } := by
  cases h : r.typeParam with
  | none => simp only [insertRs, h]; rfl
  | some cb => simp only [insertRs, h]; cases cb.merge p <;> rfl

theorem insertRs_contextBound (r : Rs) (x : List String) : (insertRs r (.contextBound x)).toOption =
    (some (some (match r.contextBound with | some cb => cb ++ x | none => x))).map fun x => { r with contextBound := x } := by
  cases h : r.contextBound <;> simp only [insertRs, h] <;> rfl

theorem insertRs_tag (r : Rs) (t : Nat) : (insertRs r (.tag t)).toOption =
    (bif r.tag.isSome then none else some (some t)).map fun x => { r with tag := x } := by
  cases h : r.tag <;> simp only [insertRs, h] <;> rfl

theorem insertRs_skip (r : Rs) : (insertRs r .skip).toOption =
    (bif r.skip then none else some true).map fun x => { r with skip := x } := by
  cases h : r.skip <;> simp only [insertRs, h] <;> rfl

theorem bind_map_comm {α β γ : Type} (a : Option α) (b : Option β) (f : α → β → γ) :
    (a.bind fun x => b.map (f x)) = b.bind fun y => a.map fun x => f x y := by
  cases a <;> cases b <;> rfl

theorem swapRs (r : Rs) (v w : Val) (hv : isCluster v.kind = false) (hw : isCluster w.kind = false) (hk : v.kind ≠ w.kind) :
    Eqv (twoRs r v w) (twoRs r w v) := by
  refine eqv_iff_toOption.2 ?_
  cases v <;> simp [isCluster, Val.kind] at hv <;> cases w <;> simp [isCluster, Val.kind] at hw hk
  -- the second update reads a slot the first has not written: `Option.bind_map` exposes that
  all_goals
    simp only [twoRs_toOption, insertRs_encoding, insertRs_index, insertRs_indexOnly, insertRs_transparent, insertRs_typeParam,
      insertRs_contextBound, insertRs_tag, insertRs_skip, Option.bind_map, Function.comp_def]
    exact bind_map_comm _ _ _

def two (l : Level) (a : A) (v w : Val) : Except Err A :=
  match tryInsert l a v with
  | .error e => .error e
  | .ok a' => tryInsert l a' w

theorem two_toOption (l : Level) (a : A) (v w : Val) :
    (two l a v w).toOption = (tryInsert l a v).toOption.bind fun a' => (tryInsert l a' w).toOption := by
  unfold two; cases tryInsert l a v <;> rfl

theorem Bad.symm {v w : Val} (h : Bad v w) : Bad w v := by
  unfold Bad at h
  split at h <;> first | exact trivial | exact h.elim

def Indep (v w : Val) : Prop := v.kind ≠ w.kind ∧ ¬ Bad v w

theorem Indep.symm {v w : Val} (h : Indep v w) : Indep w v := ⟨fun e => h.1 e.symm, fun b => h.2 b.symm⟩

theorem tryInsert_toOption (l : Level) (a : A) (v : Val) : (tryInsert l a v).toOption =
    bif allowed l v.kind then
      bif isCluster v.kind then (insertCl a.cl v).toOption.map fun c => { a with cl := c }
      else (insertRs a.rs v).toOption.map fun r => { a with rs := r }
    else none := by
  unfold tryInsert
  cases allowed l v.kind <;> cases isCluster v.kind
  · rfl
  · rfl
  · cases insertRs a.rs v <;> rfl
  · cases insertCl a.cl v <;> rfl

theorem swap (l : Level) (a : A) (v w : Val) (h : Indep v w) : Eqv (two l a v w) (two l a w v) := by
  refine eqv_iff_toOption.2 ?_
  simp only [two_toOption, tryInsert_toOption]
  -- a value refused on this level makes both orders fail
  cases allowed l v.kind <;> cases allowed l w.kind <;>
    simp only [cond_true, cond_false, Option.bind_none, Option.bind_fun_none]
  cases hv : isCluster v.kind <;> cases hw : isCluster w.kind <;>
    simp only [cond_true, cond_false, Option.bind_map, Function.comp_def]
  · have := eqv_iff_toOption.1 (swapRs a.rs v w hv hw h.1)
    simp only [twoRs_toOption] at this
    simpa only [Option.map_bind, Function.comp_def] using congrArg (Option.map fun r => ({ a with rs := r } : A)) this
  · exact bind_map_comm _ _ _
  · exact (bind_map_comm _ _ _).symm
  · have := eqv_iff_toOption.1 (swapCl a.cl v w hv hw h.1 h.2)
    simp only [twoCl_toOption] at this
    simpa only [Option.map_bind, Function.comp_def] using congrArg (Option.map fun c => ({ a with cl := c } : A)) this

theorem insertAll_cons (l : Level) (a : A) (v : Val) (L : List Val) :
    insertAll l a (v :: L) = (match tryInsert l a v with | .error e => .error e | .ok a' => insertAll l a' L) := rfl

theorem insertAll_two (l : Level) (a : A) (v w : Val) (L : List Val) :
    insertAll l a (v :: w :: L) = (match two l a v w with | .error e => .error e | .ok a' => insertAll l a' L) := by
  simp only [insertAll_cons, two]
  cases tryInsert l a v <;> rfl

theorem insertAll_perm (l : Level) {L L' : List Val} (hp : L.Perm L') :
    L.Pairwise Indep → ∀ a, Eqv (insertAll l a L) (insertAll l a L') := by
  induction hp with
  | nil => intro _ a; exact Eqv.refl _
  | cons x _ ih =>
    intro hpw a
    simp only [insertAll_cons]
    cases tryInsert l a x with
    | error e => exact Eqv.err _ _
    | ok a' => exact ih (List.pairwise_cons.1 hpw).2 a'
  | swap x y L =>
    intro hpw a
    rw [insertAll_two, insertAll_two]
    exact Eqv.elim (fun _ _ => Eqv.err _ _) (fun _ => Eqv.refl _) (swap l a y x ((List.pairwise_cons.1 hpw).1 x (by simp)))
  | trans h1 _ ih1 ih2 =>
    intro hpw a
    exact (ih1 hpw a).trans (ih2 ((h1.pairwise_iff Indep.symm).1 hpw) a)

end Minicbor.Attrs
