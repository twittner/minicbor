/-
  The decision procedure `balanced` decides the specification `Balanced`:
  `balanced ts = some ws ↔ Balanced ts ws` (soundness by induction on the fuel, completeness by
  induction on the derivation; the fuel `2 * length + 1` is always enough).
-/
import Minicbor.Balanced

namespace Minicbor

theorem Balanced.append {a b : List Token} {xs ys : List WItem}
    (h1 : Balanced a xs) (h2 : Balanced b ys) : Balanced (a ++ b) (xs ++ ys) := by
  induction h1 with
  | nil => simpa using h2
  | scalar hs _ ih => exact .scalar hs ih
  | array hx hl _ _ ih => simpa using Balanced.array hx hl ih
  | map hx hl _ _ ih => simpa using Balanced.map hx hl ih
  | tag hx _ _ ih => simpa using Balanced.tag hx ih
  | arrayI hx _ _ ih => simpa using Balanced.arrayI hx ih
  | mapI hx hl _ _ ih => simpa using Balanced.mapI hx hl ih
  | bytesI _ ih => simpa using Balanced.bytesI ih
  | textI _ ih => simpa using Balanced.textI ih

theorem Balanced.cons_item {a b : List Token} {x : WItem} {ys : List WItem}
    (h1 : Balanced a [x]) (h2 : Balanced b ys) : Balanced (a ++ b) (x :: ys) := by
  simpa using h1.append h2

/-! ### one-step unfoldings (in `Option.bind` form, so that no matcher appears in a statement) -/

theorem balN_succ (f n : Nat) (ts : List Token) :
    balN (f + 1) (n + 1) ts =
      (balItem f ts).bind fun p => (balN f n p.2).map fun q => (p.1 :: q.1, q.2) := by
  simp only [balN]
  rcases balItem f ts with _ | ⟨x, r⟩ <;> rfl

theorem balUntil_brk (f : Nat) (ts : List Token) : balUntil (f + 1) (.brk :: ts) = some ([], ts) := by
  simp only [balUntil]

theorem balUntil_step (f : Nat) (ts : List Token) (h : ∀ r, ts ≠ .brk :: r) :
    balUntil (f + 1) ts =
      (balItem f ts).bind fun p => (balUntil f p.2).map fun q => (p.1 :: q.1, q.2) := by
  cases ts with
  | nil =>
    simp only [balUntil]
    rcases balItem f [] with _ | ⟨x, r⟩ <;> rfl
  | cons t ts =>
    cases t
    case brk => exact absurd rfl (h ts)
    all_goals
      simp only [balUntil]
      rcases balItem f _ with _ | ⟨x, r⟩ <;> rfl

theorem balTop_step (f : Nat) (t : Token) (ts : List Token) :
    balTop (f + 1) (t :: ts) = (balItem f (t :: ts)).bind fun p => (balTop f p.2).map fun q => p.1 :: q := by
  simp only [balTop]
  rcases balItem f (t :: ts) with _ | ⟨x, r⟩ <;> rfl

theorem balChunks_sound (text : Bool) (ts : List Token) (cs : List Bytes) (r : List Token)
    (h : balChunks text ts = some (cs, r)) :
    ts = cs.map (if text then Token.string else Token.bytes) ++ .brk :: r := by
  induction ts generalizing cs with
  | nil => simp [balChunks] at h
  | cons t ts ih =>
    cases t <;> cases text <;>
      simp only [balChunks, Bool.false_eq_true, if_false, if_true, Option.map_eq_some_iff,
        Option.some.injEq, Prod.mk.injEq, reduceCtorEq] at h
    case bytes.false b | string.true b =>
      obtain ⟨⟨cs', r'⟩, h1, rfl, rfl⟩ := h
      simp [ih cs' h1]
    case brk.false | brk.true =>
      obtain ⟨rfl, rfl⟩ := h; rfl

theorem balItem_some {f : Nat} {t : Token} {ts : List Token} {w : WItem} {r : List Token}
    (h : balItem (f + 1) (t :: ts) = some (w, r)) :
    (scalarW t = some w ∧ r = ts) ∨
    (∃ n xs, t = .array n ∧ balN f n ts = some (xs, r) ∧ w = .array (prefWidth n) xs) ∨
    (∃ n xs, t = .map n ∧ balN f (2 * n) ts = some (xs, r) ∧ w = .map (prefWidth n) xs) ∨
    (∃ n x, t = .tag n ∧ balItem f ts = some (x, r) ∧ w = .tag (prefWidth n) n x) ∨
    (∃ xs, t = .beginArray ∧ balUntil f ts = some (xs, r) ∧ w = .arrayI xs) ∨
    (∃ xs, t = .beginMap ∧ balUntil f ts = some (xs, r) ∧ xs.length % 2 = 0 ∧ w = .mapI xs) ∨
    (∃ cs, t = .beginBytes ∧ balChunks false ts = some (cs, r) ∧ w = .bytesI (prefChunks cs)) ∨
    (∃ cs, t = .beginString ∧ balChunks true ts = some (cs, r) ∧ w = .textI (prefChunks cs)) := by
  simp only [balItem] at h
  cases hs : scalarW t with
  | some w' =>
    simp only [hs, Option.some.injEq, Prod.mk.injEq] at h
    exact .inl ⟨by rw [h.1], h.2.symm⟩
  | none =>
    simp only [hs] at h
    cases t <;> simp only [reduceCtorEq, Option.map_eq_some_iff, Prod.mk.injEq] at h
    case beginMap =>
      cases hu : balUntil f ts with
      | none => simp [hu] at h
      | some p => obtain ⟨kvs, r'⟩ := p; simp only [hu] at h; split at h <;> simp_all
    all_goals
      obtain ⟨⟨xs, r'⟩, h1, rfl, rfl⟩ := h
      simp [h1]

theorem balN_some {f n : Nat} {ts : List Token} {ws : List WItem} {r : List Token}
    (h : balN (f + 1) (n + 1) ts = some (ws, r)) :
    ∃ x r1 xs, balItem f ts = some (x, r1) ∧ balN f n r1 = some (xs, r) ∧ ws = x :: xs := by
  rw [balN_succ] at h
  simp only [Option.bind_eq_some_iff, Option.map_eq_some_iff, Prod.mk.injEq] at h
  obtain ⟨⟨x, r1⟩, hi, ⟨xs, r2⟩, h1, rfl, rfl⟩ := h
  exact ⟨x, r1, xs, hi, h1, rfl⟩

theorem balUntil_some {f : Nat} {ts : List Token} {ws : List WItem} {r : List Token}
    (h : balUntil (f + 1) ts = some (ws, r)) :
    (ts = .brk :: r ∧ ws = []) ∨ ((∀ r', ts ≠ .brk :: r') ∧
      ∃ x r1 xs, balItem f ts = some (x, r1) ∧ balUntil f r1 = some (xs, r) ∧ ws = x :: xs) := by
  by_cases hb : ∃ r', ts = .brk :: r'
  · obtain ⟨r', rfl⟩ := hb
    simp only [balUntil_brk, Option.some.injEq, Prod.mk.injEq] at h
    exact .inl ⟨by rw [h.2], h.1.symm⟩
  · have hb' : ∀ r', ts ≠ .brk :: r' := fun r' e => hb ⟨r', e⟩
    rw [balUntil_step f ts hb'] at h
    simp only [Option.bind_eq_some_iff, Option.map_eq_some_iff, Prod.mk.injEq] at h
    obtain ⟨⟨x, r1⟩, hi, ⟨xs, r2⟩, h1, rfl, rfl⟩ := h
    exact .inr ⟨hb', x, r1, xs, hi, h1, rfl⟩

theorem balN_zero {f : Nat} {ts : List Token} {ws : List WItem} {r : List Token}
    (h : balN f 0 ts = some (ws, r)) : ws = [] ∧ r = ts := by
  cases f <;> simp only [balN, Option.some.injEq, Prod.mk.injEq] at h <;> exact ⟨h.1.symm, h.2.symm⟩

theorem bal_sound (f : Nat) :
    (∀ ts w r, balItem f ts = some (w, r) → ∃ pre, ts = pre ++ r ∧ Balanced pre [w]) ∧
    (∀ n ts ws r, balN f n ts = some (ws, r) →
      ∃ pre, ts = pre ++ r ∧ Balanced pre ws ∧ ws.length = n) ∧
    (∀ ts ws r, balUntil f ts = some (ws, r) → ∃ pre, ts = pre ++ .brk :: r ∧ Balanced pre ws) := by
  induction f with
  | zero =>
    refine ⟨fun ts w r h => by simp [balItem] at h, fun n ts ws r h => ?_, fun ts ws r h => by simp [balUntil] at h⟩
    cases n with
    | zero => obtain ⟨rfl, rfl⟩ := balN_zero h; exact ⟨[], rfl, .nil, rfl⟩
    | succ n => simp [balN] at h
  | succ f ih =>
    obtain ⟨ihI, ihN, ihU⟩ := ih
    refine ⟨fun ts w r h => ?_, fun n ts ws r h => ?_, fun ts ws r h => ?_⟩
    · cases ts with
      | nil => simp [balItem] at h
      | cons t ts =>
        rcases balItem_some h with ⟨hs, rfl⟩ | ⟨n, xs, rfl, h1, rfl⟩ | ⟨n, xs, rfl, h1, rfl⟩ |
          ⟨n, x, rfl, h1, rfl⟩ | ⟨xs, rfl, h1, rfl⟩ | ⟨xs, rfl, h1, he, rfl⟩ | ⟨cs, rfl, h1, rfl⟩ |
          ⟨cs, rfl, h1, rfl⟩
        · exact ⟨[t], rfl, .scalar hs .nil⟩
        · obtain ⟨pre, rfl, hb, hl⟩ := ihN _ _ _ _ h1
          exact ⟨.array n :: pre, rfl, by simpa using Balanced.array hb hl .nil⟩
        · obtain ⟨pre, rfl, hb, hl⟩ := ihN _ _ _ _ h1
          exact ⟨.map n :: pre, rfl, by simpa using Balanced.map hb hl .nil⟩
        · obtain ⟨pre, rfl, hb⟩ := ihI _ _ _ h1
          exact ⟨.tag n :: pre, rfl, by simpa using Balanced.tag hb .nil⟩
        · obtain ⟨pre, rfl, hb⟩ := ihU _ _ _ h1
          exact ⟨.beginArray :: (pre ++ [.brk]), by simp, by simpa using Balanced.arrayI hb .nil⟩
        · obtain ⟨pre, rfl, hb⟩ := ihU _ _ _ h1
          exact ⟨.beginMap :: (pre ++ [.brk]), by simp, by simpa using Balanced.mapI hb he .nil⟩
        · have := balChunks_sound false _ _ _ h1
          subst this
          exact ⟨.beginBytes :: (cs.map Token.bytes ++ [.brk]), by simp,
            by simpa using Balanced.bytesI (cs := cs) .nil⟩
        · have := balChunks_sound true _ _ _ h1
          subst this
          exact ⟨.beginString :: (cs.map Token.string ++ [.brk]), by simp,
            by simpa using Balanced.textI (cs := cs) .nil⟩
    · cases n with
      | zero => obtain ⟨rfl, rfl⟩ := balN_zero h; exact ⟨[], rfl, .nil, rfl⟩
      | succ n =>
        obtain ⟨x, r1, xs, hi, h1, rfl⟩ := balN_some h
        obtain ⟨pre1, rfl, hb1⟩ := ihI _ _ _ hi
        obtain ⟨pre2, rfl, hb2, hl⟩ := ihN _ _ _ _ h1
        exact ⟨pre1 ++ pre2, by simp, hb1.cons_item hb2, by simp [hl]⟩
    · rcases balUntil_some h with ⟨rfl, rfl⟩ | ⟨_, x, r1, xs, hi, h1, rfl⟩
      · exact ⟨[], rfl, .nil⟩
      · obtain ⟨pre1, rfl, hb1⟩ := ihI _ _ _ hi
        obtain ⟨pre2, rfl, hb2⟩ := ihU _ _ _ h1
        exact ⟨pre1 ++ pre2, by simp, hb1.cons_item hb2⟩

theorem balTop_sound (f : Nat) (ts : List Token) (ws : List WItem) (h : balTop f ts = some ws) :
    Balanced ts ws := by
  induction f generalizing ts ws with
  | zero =>
    cases ts with
    | nil => simp only [balTop, Option.some.injEq] at h; subst h; exact .nil
    | cons t ts => simp [balTop] at h
  | succ f ih =>
    cases ts with
    | nil => simp only [balTop, Option.some.injEq] at h; subst h; exact .nil
    | cons t ts =>
      rw [balTop_step] at h
      simp only [Option.bind_eq_some_iff, Option.map_eq_some_iff] at h
      obtain ⟨⟨x, r⟩, hi, xs, h1, rfl⟩ := h
      obtain ⟨pre, hpre, hb⟩ := (bal_sound f).1 _ _ _ hi
      rw [hpre]
      exact hb.cons_item (ih _ _ h1)

theorem balChunks_complete (text : Bool) (cs : List Bytes) (rest : List Token) :
    balChunks text (cs.map (if text then Token.string else Token.bytes) ++ .brk :: rest) = some (cs, rest) := by
  induction cs with
  | nil => rfl
  | cons c cs ih => cases text <;> simp_all [balChunks]

/-- every loop of the checker recognises `ts` as `ws` on every fuel from `2 * ts.length + 1` on: two units per
    token (the step of the sequence loop that reaches it, the `balItem` that reads it) and one for the end of
    the sequence.  The fuel `2 * ts.length + 1` that `balanced` (Balanced.lean) passes rests on this
    (`Balanced.complete`, `balanced_iff`). -/
def Complete (ts : List Token) (ws : List WItem) : Prop :=
  ∀ f, 2 * ts.length + 1 ≤ f →
    (∀ rest, balN f ws.length (ts ++ rest) = some (ws, rest)) ∧
    (∀ rest, balUntil f (ts ++ .brk :: rest) = some (ws, rest)) ∧
    balTop f ts = some ws

theorem complete_cons {t : Token} {p tl : List Token} {w : WItem} {ws : List WItem} (hbrk : t ≠ .brk)
    (hitem : ∀ rest g, 2 * p.length + 1 ≤ g → balItem (g + 1) (t :: p ++ rest) = some (w, rest))
    (htl : Complete tl ws) : Complete (t :: p ++ tl) (w :: ws) := by
  intro f hf
  simp only [List.length_append, List.length_cons] at hf
  obtain ⟨g, rfl⟩ : ∃ g, f = g + 2 := ⟨f - 2, by omega⟩
  obtain ⟨hN, hU, hT⟩ := htl (g + 1) (by omega)
  refine ⟨fun rest => ?_, fun rest => ?_, ?_⟩
  · rw [List.length_cons, balN_succ, List.append_assoc, hitem (tl ++ rest) g (by omega)]
    simp [hN rest]
  · rw [balUntil_step _ _ (by intro r e; exact hbrk (List.cons.inj e).1), List.append_assoc,
      hitem (tl ++ .brk :: rest) g (by omega)]
    simp [hU rest]
  · rw [List.cons_append, balTop_step, ← List.cons_append, hitem tl g (by omega)]
    simp [hT]

theorem Complete.item {xt : List Token} {x : WItem} (h : Complete xt [x]) (rest : List Token) (g : Nat)
    (hg : 2 * xt.length ≤ g) : balItem g (xt ++ rest) = some (x, rest) := by
  have := (h (g + 1) (by omega)).1 rest
  rw [List.length_singleton, balN_succ] at this
  simp only [Option.bind_eq_some_iff, Option.map_eq_some_iff, Prod.mk.injEq] at this
  obtain ⟨⟨y, r1⟩, hi, ⟨ys, r2⟩, h1, h2, h3⟩ := this
  cases g with
  | zero => simp [balItem] at hi
  | succ g =>
    simp only [balN, Option.some.injEq, Prod.mk.injEq] at h1
    obtain ⟨rfl, rfl⟩ := h1
    simp only [List.cons.injEq, and_true] at h2
    subst h2; subst h3
    exact hi

theorem Balanced.complete {ts : List Token} {ws : List WItem} (h : Balanced ts ws) : Complete ts ws := by
  induction h with
  | nil =>
    intro f hf
    cases f with
    | zero => omega
    | succ g => exact ⟨fun _ => rfl, fun _ => by simp [balUntil_brk], rfl⟩
  | @scalar t w ts ws hs _ ih =>
    refine complete_cons (p := []) (by rintro rfl; simp [scalarW] at hs) (fun rest g _ => ?_) ih
    simp [balItem, hs]
  | @array n xt ts xs ws _ hl _ ihx ih =>
    refine complete_cons (by simp) (fun rest g hg => ?_) ih
    simp [balItem, scalarW, ← hl, (ihx g hg).1 rest]
  | @map n xt ts kvs ws _ hl _ ihx ih =>
    refine complete_cons (by simp) (fun rest g hg => ?_) ih
    simp [balItem, scalarW, ← hl, (ihx g hg).1 rest]
  | @tag n xt ts x ws _ _ ihx ih =>
    refine complete_cons (by simp) (fun rest g hg => ?_) ih
    simp [balItem, scalarW, ihx.item rest g (by omega)]
  | @arrayI xt ts xs ws _ _ ihx ih =>
    rw [List.append_cons]
    refine complete_cons (by simp) (fun rest g hg => ?_) ih
    simp only [List.length_append, List.length_singleton] at hg
    simp [balItem, scalarW, (ihx g (by omega)).2.1 rest]
  | @mapI xt ts kvs ws _ he _ ihx ih =>
    rw [List.append_cons]
    refine complete_cons (by simp) (fun rest g hg => ?_) ih
    simp only [List.length_append, List.length_singleton] at hg
    simp [balItem, scalarW, (ihx g (by omega)).2.1 rest, he]
  | @bytesI cs ts ws _ ih =>
    rw [List.append_cons]
    refine complete_cons (by simp) (fun rest g _ => ?_) ih
    have := balChunks_complete false cs rest
    simp only [Bool.false_eq_true, if_false] at this
    simp [balItem, scalarW, this]
  | @textI cs ts ws _ ih =>
    rw [List.append_cons]
    refine complete_cons (by simp) (fun rest g _ => ?_) ih
    have := balChunks_complete true cs rest
    simp only [if_true] at this
    simp [balItem, scalarW, this]

theorem balanced_iff (ts : List Token) (ws : List WItem) : balanced ts = some ws ↔ Balanced ts ws :=
  ⟨balTop_sound _ ts ws, fun h => (h.complete _ (Nat.le_refl _)).2.2⟩

theorem Balanced.unique {ts : List Token} {ws ws' : List WItem}
    (h : Balanced ts ws) (h' : Balanced ts ws') : ws = ws' := by
  have a := (balanced_iff ts ws).2 h
  have b := (balanced_iff ts ws').2 h'
  rw [a] at b
  exact Option.some.inj b

end Minicbor
