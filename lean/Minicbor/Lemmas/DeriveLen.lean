/-
  Byte counts of the encoder's heads and of the statements generated by `encode_fields`, against
  the counters generated by cbor_len.rs (the derived part of C07).
-/
import Minicbor.Lemmas.DeriveFrame
import Minicbor.Lemmas.HeadLen

namespace Minicbor.Derive

/-- an encoded piece with its body measured: what `lenFields` computes for it (`C07Derive.fields_len`). -/
def toLen (p : Piece Bytes) : Piece Nat := ⟨p.idx, p.tag, p.nil, p.body.length⟩

theorem nulls_length (n : Nat) : (nulls n).length = n := by
  induction n with
  | zero => rfl
  | succ n ih =>
    rw [nulls, List.replicate_succ, List.flatten_cons, List.length_append, ← nulls, ih]
    exact Nat.add_comm 1 n

theorem listSum_map_length (bss : List Bytes) : bss.flatten.length = listSum (bss.map List.length) := by
  induction bss with
  | nil => rfl
  | cons b bs ih => simp [listSum, ih]

/-- the step of the fold in `lenArray` (Derive.lean): what one field does to
    `(__num777, __len777, __nil777)`. -/
def lenStep (s : Nat × Nat × Nat) (p : Piece Nat) : Nat × Nat × Nat :=
  if !p.nil then (p.idx + 1, s.2.1 + ((p.idx - s.1) + s.2.2 + tagLen p.tag + p.body), 0)
  else (s.1, s.2.1, s.2.2 + (tagLen p.tag + p.body - 1))

theorem lenArray_eq (ps : List (Piece Nat)) :
    lenArray ps = u64Len (ps.foldl lenStep (0, 0, 0)).1 + (ps.foldl lenStep (0, 0, 0)).2.1 := rfl

/-- nil fields only move `__nil777`. -/
theorem foldl_allNil (S : List (Piece Bytes)) (s : Nat × Nat × Nat) (h : ∀ p ∈ S, p.nil = true) :
    ((S.map toLen).foldl lenStep s).1 = s.1 ∧ ((S.map toLen).foldl lenStep s).2.1 = s.2.1 := by
  induction S generalizing s with
  | nil => exact ⟨rfl, rfl⟩
  | cons p ps ih =>
    simp only [List.map_cons, List.foldl_cons, lenStep, toLen, h p (by simp), Bool.not_true, Bool.false_eq_true, if_false]
    exact ih _ (fun q hq => h q (by simp [hq]))

/-- `__num777` ends at `m + 1` (`m`: the last non-nil field), and `__len777` has grown by the pending
    `__nil777`, the positions `num ..< c` already passed, and what is written.  A nil field below `m`
    is one position whose `null` is replaced by tag and nil encoding: `tag + len - 1` more, which
    needs the nil encoding to be at least one byte. -/
theorem lenArray_fold (m : Nat) : ∀ (S : List (Piece Bytes)) (c num acc nl : Nat),
    num ≤ c → Asc S → (∀ p ∈ S, c ≤ p.idx) → lastNonNil S = some m →
    (∀ p ∈ S, p.nil = true → 1 ≤ p.body.length) →
    ((S.map toLen).foldl lenStep (num, acc, nl)).1 = m + 1 ∧
    ((S.map toLen).foldl lenStep (num, acc, nl)).2.1 = acc + nl + (c - num) + (arrFrom m c S).length
  | [], _, _, _, _, _, _, _, hl, _ => by cases hl
  | p :: ps, c, num, acc, nl, hn, hasc, hlo, hl, hnb => by
    have hp := List.pairwise_cons.1 hasc
    have hcp := hlo p (by simp)
    have htl := tagBytes_length p.tag
    unfold lastNonNil at hl
    cases hps : lastNonNil ps with
    | none =>
      -- `p` is the last non-nil field: the fields after it are nil and beyond `m`
      rw [hps] at hl
      cases hnil : p.nil <;> rw [hnil] at hl
      · have hpm : p.idx = m := Option.some.inj hl
        have hle : p.idx ≤ m := hpm ▸ Nat.le_refl _
        have hall := maxPresent_none ((lastNonNil_eq_maxPresent hp.2).symm.trans hps)
        have hf := foldl_allNil ps (p.idx + 1, acc + ((p.idx - num) + nl + tagLen p.tag + p.body.length), 0) hall
        have hgt := arrFrom_gt m ps (p.idx + 1) (fun q hq => hpm ▸ hp.1 q hq)
        simp only [List.map_cons, List.foldl_cons, lenStep, toLen, hnil, Bool.not_false, if_true, arrFrom, hgt, hle,
          List.length_append, nulls_length, htl, List.append_nil]
        exact ⟨hf.1.trans (by dsimp only; omega), hf.2.trans (by dsimp only; omega)⟩
      · cases hl
    | some x =>
      rw [hps] at hl
      obtain ⟨q, hq, hqm, _⟩ := lastNonNil_mem (hps.trans hl)
      have hpm : p.idx ≤ m := by have := hp.1 q hq; omega
      have ih := fun num' acc' nl' hn' => lenArray_fold m ps (p.idx + 1) num' acc' nl' hn' hp.2
        (fun r hr => hp.1 r hr) (hps.trans hl) (fun r hr => hnb r (by simp [hr]))
      cases hnil : p.nil
      · have := ih (p.idx + 1) (acc + ((p.idx - num) + nl + tagLen p.tag + p.body.length)) 0 (Nat.le_refl _)
        simp only [List.map_cons, List.foldl_cons, lenStep, toLen, hnil, Bool.not_false, if_true, arrFrom, hpm,
          List.length_append, nulls_length, htl]
        exact ⟨this.1, by rw [this.2]; omega⟩
      · have h1 := hnb p (by simp) hnil
        have := ih num acc (nl + (tagLen p.tag + p.body.length - 1)) (by omega)
        simp only [List.map_cons, List.foldl_cons, lenStep, toLen, hnil, Bool.not_true, Bool.false_eq_true, if_false,
          arrFrom, hpm, if_true, List.length_append, nulls_length, htl]
        exact ⟨this.1, by rw [this.2]; omega⟩

theorem lenArray_sorted (S : List (Piece Bytes)) (hasc : Asc S)
    (hnb : ∀ p ∈ S, p.nil = true → 1 ≤ p.body.length) :
    lenArray (S.map toLen) = (frameArray S).length := by
  rw [lenArray_eq, frameArray_eq]
  cases hl : lastNonNil S with
  | none =>
    have hf := foldl_allNil S (0, 0, 0) (maxPresent_none ((lastNonNil_eq_maxPresent hasc).symm.trans hl))
    rw [hf.1, hf.2]
    rfl
  | some m =>
    have hf := lenArray_fold m S 0 0 0 0 (Nat.le_refl 0) hasc (fun _ _ => Nat.zero_le _) hl hnb
    simp only [hf.1, hf.2, List.length_append, array_length, Nat.zero_add, Nat.sub_zero]

theorem lenMapEntries_eq (S : List (Piece Bytes)) : lenMapEntries (S.map toLen) = (mapStmts S).length := by
  induction S with
  | nil => rfl
  | cons p ps ih =>
    cases hn : p.nil <;>
      simp [lenMapEntries, toLen, hn, mapStmts, ih, u32_length, tagBytes_length, idxLen, Nat.add_assoc]

theorem lenMapCount_eq (S : List (Piece Bytes)) : lenMapCount (S.map toLen) = countPresent S := by
  induction S with
  | nil => rfl
  | cons p ps ih => simp only [List.map_cons, lenMapCount, countPresent, toLen, ih]

theorem lenMap_sorted (S : List (Piece Bytes)) : lenMap (S.map toLen) = (frameMap S).length := by
  simp only [lenMap, frameMap, List.length_append, maxFields_eq, lenMapCount_eq, map_length, lenMapEntries_eq]

theorem sortP_toLen (ps : List (Piece Bytes)) : sortP (ps.map toLen) = (sortP ps).map toLen :=
  sortP_map toLen (fun _ => rfl) ps

end Minicbor.Derive
