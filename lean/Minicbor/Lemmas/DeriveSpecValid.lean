/-
  Validity of the documented items (`PV i`: the preferred tree of `i` is valid): the documented
  array / map of a field list is valid when the pieces are (indices below 2^32, tags below 2^64,
  valid bodies).  The schema-level statement (`spec_valid`) is half of `C08.denotes`, which uses
  these; what it means for `skip()` is in DeriveCompatBody.lean (`skip_encTy`).
-/
import Minicbor.Lemmas.DeriveFrame
import Minicbor.Lemmas.Pref

namespace Minicbor.Derive

abbrev PV (i : Item) : Prop := (prefTree i).valid = true

theorem pv_array (xs : List Item) (hl : xs.length < U64) (h : ∀ x ∈ xs, PV x) : PV (.array xs) :=
  (Pref.array hl (.of_valid h)).2

theorem pv_map (kvs : List Item) (hev : kvs.length % 2 = 0) (hl : kvs.length / 2 < U64) (h : ∀ x ∈ kvs, PV x) :
    PV (.map kvs) :=
  (Pref.map hev hl (.of_valid h)).2

theorem pref_tagI {t : Option Nat} {bs : Bytes} {i : Item} (h : tagOk t = true) (hi : Pref bs i) :
    Pref (tagBytes t ++ bs) (tagI t i) := by
  cases t with
  | none => exact hi
  | some n => exact .tag (of_decide_eq_true h) hi

theorem pv_tagI (t : Option Nat) (x : Item) (ht : tagOk t = true) (hx : PV x) : PV (tagI t x) :=
  (pref_tagI ht ⟨rfl, hx⟩).2

theorem pv_uint (n : Nat) (h : n < 18446744073709551616) : PV (.uint n) := prefWidth_fits n h

theorem pv_null : PV nullI := by decide

theorem pv_intItem (k : IntK) (i : Int) (h : k.inRange i = true) : PV (intItem i) := by
  simp only [IntK.inRange, Bool.and_eq_true, decide_eq_true_eq] at h
  have hb : -9223372036854775808 ≤ i ∧ i ≤ 18446744073709551615 := by
    cases k <;> simp [IntK.ty, Dec.IntTy.lo, Dec.IntTy.hi, Dec.IntTy.u8, Dec.IntTy.u16, Dec.IntTy.u32, Dec.IntTy.u64,
      Dec.IntTy.i8, Dec.IntTy.i16, Dec.IntTy.i32, Dec.IntTy.i64] at h <;> omega
  unfold intItem
  split <;> exact prefWidth_fits _ (by omega)

theorem pv_cellAt (S : List (Piece Item)) (h : ∀ p ∈ S, tagOk p.tag = true ∧ PV p.body) (i : Nat) : PV (cellAt S i) := by
  unfold cellAt
  cases hf : S.find? (fun p => p.idx == i) with
  | none => exact pv_null
  | some p =>
    have hp := h p (List.mem_of_find?_eq_some hf)
    exact pv_tagI _ _ hp.1 hp.2

theorem pv_specArray (S : List (Piece Item)) (h : ∀ p ∈ S, p.idx < U32 ∧ tagOk p.tag = true ∧ PV p.body) :
    PV (specArray S) := by
  rw [specArray_eq]
  cases hm : maxPresent S with
  | none => show PV (Item.array []); decide
  | some m =>
    apply pv_array
    · simpa using succ_lt_U64 (maxPresent_lt hm fun p hp => (h p hp).1)
    · intro x hx
      obtain ⟨i, _, rfl⟩ := List.mem_map.1 hx
      exact pv_cellAt S (fun p hp => (h p hp).2) i

theorem pv_entries : ∀ (S : List (Piece Item)), (∀ p ∈ S, p.idx < U32 ∧ tagOk p.tag = true ∧ PV p.body) →
    ∀ x ∈ entries S, PV x
  | [], _, _, hx => nomatch hx
  | p :: ps, h, x, hx => by
    have hp := h p List.mem_cons_self
    rw [entries, List.mem_append] at hx
    rcases hx with hx | hx
    · cases hn : p.nil
      · simp only [hn, Bool.false_eq_true, if_false, List.mem_cons, List.not_mem_nil, or_false] at hx
        rcases hx with rfl | rfl
        · exact pv_uint _ (Nat.lt_trans hp.1 (by decide))
        · exact pv_tagI _ _ hp.2.1 hp.2.2
      · rw [hn] at hx; cases hx
    · exact pv_entries ps (fun q hq => h q (List.mem_cons_of_mem _ hq)) x hx

/-- on the index-sorted list the documented map is the list of entries; at most 2^32 of them. -/
theorem pv_specMap (S : List (Piece Item)) (nd : (idxs S).Nodup)
    (h : ∀ p ∈ S, p.idx < U32 ∧ tagOk p.tag = true ∧ PV p.body) : PV (specMap S) := by
  have hmem := fun p => (sortP_perm S).mem_iff (a := p)
  have hasc := sortP_asc S nd
  have hlen := idx_lt_length_of_asc _ U32 hasc fun p hp => (h p ((hmem p).1 hp)).1
  have hcp := countPresent_le (sortP S)
  have hl := entries_length (sortP S)
  rw [specMap_of S _ hasc hmem nd]
  exact pv_map _ (by omega) (by simp only [U64, U32] at *; omega)
    (pv_entries _ fun p hp => h p ((hmem p).1 hp))

theorem pv_specBody (enc : Encoding) (S : List (Piece Item)) (nd : (idxs S).Nodup)
    (h : ∀ p ∈ S, p.idx < U32 ∧ tagOk p.tag = true ∧ PV p.body) : PV (specBody enc S) := by
  cases enc
  · exact pv_specArray S h
  · exact pv_specMap S nd h

end Minicbor.Derive
