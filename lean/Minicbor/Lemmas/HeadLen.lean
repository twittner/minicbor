/-
  The number of bytes each `Encoder` method writes for a head or an integer, against the width
  tables of the `CborLen` impls (encode.rs:476-515): `u8Len … u64Len` of Derive.lean.  The tables of
  the built-in impls (`IntKind.lenU8 …`, Types.lean) are the same terms, so Lemmas/TypesLen.lean reads
  its head lengths off these lemmas; this file imports the derive model only (the type universe of
  Types.lean must stay out of the derive chain: both have a `Val`).
-/
import Minicbor.Derive

namespace Minicbor.Derive

theorem length_ite {c : Prop} [Decidable c] {a b : Bytes} {m n : Nat} (ha : a.length = m) (hb : b.length = n) :
    (if c then a else b).length = if c then m else n := by
  split <;> assumption

theorem be_cons_length (b : UInt8) (k n : Nat) : (b :: be k n).length = k + 1 := by simp

theorem typeLen_length (t n : Nat) : (Enc.typeLen t n).length = u64Len n :=
  length_ite rfl (length_ite rfl (length_ite (be_cons_length ..) (length_ite (be_cons_length ..) (be_cons_length ..))))

theorem array_length (n : Nat) : (Enc.array n).length = u64Len n := typeLen_length _ n
theorem map_length (n : Nat) : (Enc.map n).length = u64Len n := typeLen_length _ n

theorem tagBytes_length (t : Option Nat) : (tagBytes t).length = tagLen t := by
  cases t with
  | none => rfl
  | some n => exact typeLen_length _ n

theorem u8_length (x : Nat) : (Enc.u8 x).length = u8Len x := length_ite rfl rfl
theorem u16_length (x : Nat) : (Enc.u16 x).length = u16Len x := length_ite rfl (length_ite rfl (be_cons_length ..))
theorem u32_length (x : Nat) : (Enc.u32 x).length = u32Len x :=
  length_ite rfl (length_ite rfl (length_ite (be_cons_length ..) (be_cons_length ..)))
theorem u64_length (x : Nat) : (Enc.u64 x).length = u64Len x :=
  length_ite rfl (length_ite rfl (length_ite (be_cons_length ..) (length_ite (be_cons_length ..) (be_cons_length ..))))

/-- the signed methods: the unsigned arms for `x ≥ 0`, the same arms on `-1 - x` otherwise. -/
theorem signed_length {i : Int} {a b : Bytes} {f : Nat → Nat} (ha : a.length = f i.toNat)
    (hb : b.length = f (-1 - i).toNat) : (if i ≥ 0 then a else b).length = f (absArg i) := by
  unfold absArg; split <;> assumption

theorem int_length (k : IntK) (i : Int) : (k.enc i).length = k.len i := by
  cases k
  case u8 => exact u8_length _
  case u16 => exact u16_length _
  case u32 => exact u32_length _
  case u64 => exact u64_length _
  case i8 => exact signed_length (f := u8Len) (u8_length _) (length_ite rfl rfl)
  case i16 => exact signed_length (f := u16Len) (u16_length _) (length_ite rfl (length_ite rfl (be_cons_length ..)))
  case i32 =>
    exact signed_length (f := u32Len) (u32_length _)
      (length_ite rfl (length_ite rfl (length_ite (be_cons_length ..) (be_cons_length ..))))
  case i64 =>
    exact signed_length (f := u64Len) (u64_length _) (typeLen_length _ _)

end Minicbor.Derive
