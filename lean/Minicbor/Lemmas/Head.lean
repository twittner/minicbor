/-
  Reading back a head written at any width; sizes of heads and items; `validAll` item by item.
-/
import Minicbor.Wire
import Minicbor.Decoder

namespace Minicbor

theorem Width.ai_le (w : Width) (n : Nat) (h : w.fits n = true) : w.ai n ≤ 27 := by
  cases w <;> simp [Width.fits, Width.ai] at * <;> omega

theorem Width.fits_lt (w : Width) (n : Nat) (h : w.fits n = true) : n < 256 ^ 8 := by
  cases w <;> simp [Width.fits] at * <;> omega

theorem Width.fits_lt_bytes (w : Width) (n : Nat) (h : w.fits n = true) (hw : w ≠ .w0) :
    n < 256 ^ w.bytes := by
  cases w <;> simp [Width.fits, Width.bytes] at * <;> omega

theorem headW_length (m : Nat) (w : Width) (n : Nat) : (headW m w n).length = 1 + w.bytes := by
  simp [headW]; omega

theorem encW_length_pos (w : WItem) : 1 ≤ (encW w).length := by
  cases w with
  | simple n => unfold encW; split <;> simp
  | _ => simp [encW, headW_length, Nat.add_assoc]

theorem validAll_mem : ∀ (xs : List WItem) (x : WItem), validAll xs = true → x ∈ xs → x.valid = true
  | [], x, _, h => by simp at h
  | y :: ys, x, hv, h => by
    simp only [validAll, Bool.and_eq_true] at hv
    rcases List.mem_cons.1 h with rfl | h
    · exact hv.1
    · exact validAll_mem ys x hv.2 h

theorem Dec.readSlice_be (k n : Nat) (rest : Bytes) :
    Dec.readSlice k (be k n ++ rest) = .ok (be k n) rest := by
  have := Dec.readSlice_append (be k n) rest
  rwa [be_length] at this

theorem Dec.unsigned_head (w : Width) (n : Nat) (rest : Bytes) (h : w.fits n = true) :
    Dec.unsigned (u8 (w.ai n)) (be w.bytes n ++ rest) = .ok n rest := by
  cases w
  · simp [Width.fits] at h
    have h1 : n % 256 = n := by omega
    have h2 : n ≤ 23 := by omega
    simp [Dec.unsigned, Width.ai, Width.bytes, be, h1, h2]
  · simp [Width.fits] at h
    have h1 : n % 256 = n := by omega
    simp [Dec.unsigned, Width.ai, Width.bytes, be, Dec.bind_run, h1]
  all_goals
    simp [Width.ai, Width.bytes, Dec.unsigned, Dec.bind_run, Dec.readSlice_be]
    apply fromBe_be
    simp [Width.fits] at h
    omega

end Minicbor
