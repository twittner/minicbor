/-
  Lemmas for the minicbor-io model (`Minicbor/Frame.lean`): the frame grammar, well-behaved scripts, and the
  blocking `fill` / `drain` loops, by functional induction (one case per arm of the `match` on the next event).
-/
import Minicbor.Frame

namespace Minicbor.Frame

@[simp] theorem zeros_length (n : Nat) : (zeros n).length = n := by simp [zeros]

@[simp] theorem frame_length (p : Bytes) : (frame p).length = 4 + p.length := by
  simp [frame]

theorem fromBe_be4 (n : Nat) (h : n < 4294967296) : fromBe (be 4 n) = n :=
  fromBe_be 4 n (by simpa using h)

theorem frames_append (ps qs : List Bytes) : frames (ps ++ qs) = frames ps ++ frames qs := by
  induction ps with
  | nil => rfl
  | cons p ps ih => simp [frames, ih]

theorem be4_inj (a b : Nat) (r s : Bytes) (ha : a < 4294967296) (hb : b < 4294967296)
    (h : be 4 a ++ r = be 4 b ++ s) : a = b ∧ r = s := by
  have h1 := List.append_inj h (by simp)
  have := congrArg fromBe h1.1
  rw [fromBe_be4 _ ha, fromBe_be4 _ hb] at this
  exact ⟨this, h1.2⟩

theorem frame_inj (p q r s : Bytes) (hp : p.length < 4294967296) (hq : q.length < 4294967296)
    (h : frame p ++ r = frame q ++ s) : p = q ∧ r = s := by
  simp only [frame, List.append_assoc] at h
  exact List.append_inj (be4_inj _ _ _ _ hp hq h).2 (be4_inj _ _ _ _ hp hq h).1

theorem frame_prefix_cases {t p : Bytes} (ht : t <+: frame p) (hcut : t ≠ frame p) :
    t.length < 4 ∨ ∃ q, t = be 4 p.length ++ q ∧ q.length < p.length := by
  have hlt : t.length < (frame p).length :=
    Nat.lt_of_le_of_ne ht.length_le fun h => hcut (ht.eq_of_length h)
  by_cases h4 : t.length < 4
  · exact .inl h4
  · refine .inr ⟨p.take (t.length - 4), ?_, by simp at hlt ⊢; omega⟩
    have e := List.prefix_iff_eq_take.mp ht
    rwa [frame, List.take_append, List.take_of_length_le (by simp; omega), be_length] at e

/-- the shape shared by what a waiting `AsyncReader` has stored and by a stream cut inside its last
    frame (payload at most `ml`). -/
def Partial (ml : Nat) (t : Bytes) : Prop :=
  t.length < 4 ∨ ∃ n q, t = be 4 n ++ q ∧ q.length < n ∧ n ≤ ml ∧ n < 4294967296

theorem Partial.of_prefix {ml : Nat} {t p : Bytes} (ht : t <+: frame p) (hcut : t ≠ frame p)
    (hml : p.length ≤ ml) (h32 : p.length < 4294967296) : Partial ml t :=
  (frame_prefix_cases ht hcut).imp_right fun ⟨q, e, hq⟩ => ⟨_, q, e, hq, hml, h32⟩

theorem Partial.head {ml : Nat} {t : Bytes} (ht : Partial ml t) {n : Nat} {X : Bytes}
    (h : t = be 4 n ++ X) (h32 : n < 4294967296) : n ≤ ml ∧ X.length < n := by
  rcases ht with h4 | ⟨m, q, e, hq, hm, hm32⟩
  · simp [h] at h4; omega
  · obtain ⟨rfl, rfl⟩ := be4_inj _ _ _ _ hm32 h32 (e ▸ h)
    exact ⟨hm, hq⟩

theorem Partial.not_frame {ml : Nat} {t : Bytes} (ht : Partial ml t) {p rest : Bytes}
    (h32 : p.length < 4294967296) : t ≠ frame p ++ rest := by
  intro h
  have := (ht.head (by rw [h, frame, List.append_assoc]) h32).2
  simp at this; omega

theorem Partial.not_oversize {ml : Nat} {t : Bytes} (ht : Partial ml t) {len : Nat} {rest : Bytes}
    (hbig : len > ml) (h32 : len < 4294967296) : t ≠ be 4 len ++ rest :=
  fun h => absurd (ht.head h h32).1 (Nat.not_le.mpr hbig)

/-- well-behaved answers of a stream that neither fails nor ends: positive transfers and,
    for blocking streams, `Interrupted`. -/
def Benign : List Ev → Prop
  | [] => True
  | .io k :: sc => 0 < k ∧ Benign sc
  | .intr :: sc => Benign sc
  | _ :: _ => False

theorem Benign.nil : Benign [] := trivial

/-- std `read_exact` (and `Reader`'s own loop for the length prefix) under any fragmentation and
    any placement of `Interrupted`. -/
theorem fill_benign : ∀ (sc : List Ev), Benign sc → ∀ (need : Nat) (acc bytes : Bytes),
    ∃ sc', Benign sc' ∧
      fill need acc bytes sc =
        if need ≤ bytes.length then (.done (acc ++ bytes.take need), ⟨bytes.drop need, sc'⟩)
        else (.short (acc ++ bytes), ⟨[], sc'⟩) := by
  intro sc hb need acc bytes
  -- script exhausted (1, 2), nothing needed (3), `io k` without (4) and with (5) a transfer, `zero`, `intr` (7),
  -- `fail`, `pend`
  fun_induction fill need acc bytes sc
  case case1 h => exact ⟨[], trivial, by simp [h]⟩
  case case2 h => exact ⟨[], trivial, by simp [h]⟩
  case case3 => exact ⟨_, hb, by simp⟩
  case case4 need acc bytes sc h0 k n hn =>
    -- a positive request answered with nothing: the stream is exhausted
    have : bytes = [] := List.eq_nil_of_length_eq_zero (by have := hb.1; omega)
    subst this
    exact ⟨sc, hb.2, by simp [h0]⟩
  case case5 need acc bytes sc h0 k n hn ih =>
    obtain ⟨sc', hb', e⟩ := ih hb.2
    refine ⟨sc', hb', ?_⟩
    have h1 : n + (need - n) = need := by omega
    have h2 : (need - n ≤ bytes.length - n) = (need ≤ bytes.length) := by
      simp only [eq_iff_iff]; omega
    simp only [e, List.append_assoc, ← List.take_add, List.drop_drop, List.length_drop, h1, h2,
      List.take_append_drop]
  case case7 ih => exact ih hb
  all_goals exact hb.elim

theorem fill_done {sc : List Ev} (hb : Benign sc) {need : Nat} {pre : Bytes} (hn : pre.length = need)
    (rest : Bytes) : ∃ sc', Benign sc' ∧ fill need [] (pre ++ rest) sc = (.done pre, ⟨rest, sc'⟩) := by
  obtain ⟨sc', hb', e⟩ := fill_benign sc hb need [] (pre ++ rest)
  refine ⟨sc', hb', ?_⟩
  rw [e, if_pos (by simp; omega), List.take_left' hn, List.drop_left' hn, List.nil_append]

theorem fill_short {sc : List Ev} (hb : Benign sc) {need : Nat} {bytes : Bytes} (h : bytes.length < need) :
    ∃ sc', Benign sc' ∧ fill need [] bytes sc = (.short bytes, ⟨[], sc'⟩) := by
  obtain ⟨sc', hb', e⟩ := fill_benign sc hb need [] bytes
  exact ⟨sc', hb', by rw [e, if_neg (by omega), List.nil_append]⟩

def Fill.got : Fill → Bytes
  | .done g => g
  | .short g => g
  | .fail _ g => g

theorem fill_got_length (sc : List Ev) (need : Nat) (acc bytes : Bytes) :
    (fill need acc bytes sc).1.got.length ≤ acc.length + need := by
  fun_induction fill need acc bytes sc <;>
    simp only [Fill.got, List.length_append, List.length_take] at * <;> omega

/-- std `write_all` under any short writes and any placement of `Interrupted`. -/
theorem drain_benign : ∀ (sc : List Ev), Benign sc → ∀ (data out : Bytes),
    ∃ sc', Benign sc' ∧ drain data out sc = (.done, ⟨out ++ data, sc'⟩) := by
  intro sc hb data out
  -- script exhausted (1), nothing left to write (2), `io k` without (3) and with (4) a transfer, `zero`,
  -- `intr` (6), `fail`, `pend`
  fun_induction drain data out sc
  case case1 => exact ⟨[], trivial, rfl⟩
  case case2 h => exact ⟨_, hb, by rw [List.eq_nil_of_length_eq_zero h, List.append_nil]⟩
  case case3 hn => have := hb.1; omega
  case case4 ih =>
    obtain ⟨sc', hb', e⟩ := ih hb.2
    exact ⟨sc', hb', by rw [e, List.append_assoc, List.take_append_drop]⟩
  case case6 ih => exact ih hb
  all_goals exact hb.elim

theorem drain_prefix (sc : List Ev) (data out : Bytes) :
    ∃ t, (drain data out sc).2.out = out ++ t ∧ t <+: data := by
  fun_induction drain data out sc
  case case1 => exact ⟨_, rfl, List.prefix_refl _⟩
  case case4 data out sc _ k n _ ih =>
    obtain ⟨t, ht, hp⟩ := ih
    exact ⟨data.take n ++ t, by rw [ht, List.append_assoc],
      by simpa using (List.prefix_append_right_inj (data.take n)).mpr hp⟩
  case case6 ih => exact ih
  all_goals exact ⟨[], (List.append_nil _).symm, List.nil_prefix⟩

end Minicbor.Frame
