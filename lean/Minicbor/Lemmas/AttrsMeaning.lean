/-
  The meaning of a field (`fieldSem`) is a function of the set of facts the map knows, provided
  nothing is pending (which `try_from_iter`'s final checks guarantee for accepted definitions).
-/
import Minicbor.Lemmas.AttrsFacts

namespace Minicbor.Attrs

/-- nothing pending: what the final checks leave. -/
def Settled (a : A) : Prop := a.isNil = none ∧ a.nil = none ∧ a.hasNil = false

theorem of_ite_error_eq_ok {α : Type} {c : Prop} [Decidable c] {e : Err} {x : Except Err α} {y : α}
    (h : (if c then .error e else x) = .ok y) : ¬ c ∧ x = .ok y := by
  split at h
  · cases h
  · exact ⟨‹_›, h⟩

theorem finalChecks_settled (a a' : A) (h : finalChecks a = .ok a') : a' = a ∧ Settled a := by
  obtain ⟨hi, h⟩ := of_ite_error_eq_ok h
  obtain ⟨hn, h⟩ := of_ite_error_eq_ok h
  obtain ⟨hh, h⟩ := of_ite_error_eq_ok h
  obtain ⟨-, h⟩ := of_ite_error_eq_ok h
  obtain ⟨-, h⟩ := of_ite_error_eq_ok h
  obtain ⟨-, h⟩ := of_ite_error_eq_ok h
  cases h
  exact ⟨rfl, by simpa using hi, by simpa using hn, by simpa using hh⟩

theorem CC.encodePath_eq_some (cc : CC) (p : Path) : cc.encodePath = some p ↔
    (Fact.enc p ∈ cc.facts ∨ ∃ m, Fact.modu m ∈ cc.facts ∧ p = m ++ ["encode"]) := by
  cases cc <;> simp [CC.facts, CC.encodePath, eq_comm]

theorem CC.decodePath_eq_some (cc : CC) (p : Path) : cc.decodePath = some p ↔
    (Fact.dec p ∈ cc.facts ∨ ∃ m, Fact.modu m ∈ cc.facts ∧ p = m ++ ["decode"]) := by
  cases cc <;> simp [CC.facts, CC.decodePath, eq_comm]

theorem CC.isNilPath_eq_some (cc : CC) (p : Path) : cc.isNilPath = some p ↔
    (Fact.isNil p ∈ cc.facts ∨ ∃ m, Fact.modu m ∈ cc.facts ∧ Fact.hasNil ∈ cc.facts ∧ p = m ++ ["is_nil"]) := by
  rcases cc with ⟨e, n⟩ | ⟨d, m⟩ | ⟨e, n, d, m⟩ | ⟨q, _ | _⟩ <;> simp [CC.facts, CC.isNilPath, eq_comm]

theorem CC.nilPath_eq_some (cc : CC) (p : Path) : cc.nilPath = some p ↔
    (Fact.nil p ∈ cc.facts ∨ ∃ m, Fact.modu m ∈ cc.facts ∧ Fact.hasNil ∈ cc.facts ∧ p = m ++ ["nil"]) := by
  rcases cc with ⟨e, n⟩ | ⟨d, m⟩ | ⟨e, n, d, m⟩ | ⟨q, _ | _⟩ <;> simp [CC.facts, CC.nilPath, eq_comm]

theorem CC.cborLenPath_eq_some (cc : CC) (p : Path) : cc.cborLenPath = some p ↔
    ∃ m, Fact.modu m ∈ cc.facts ∧ p = m ++ ["cbor_len"] := by
  cases cc <;> simp [CC.facts, CC.cborLenPath, eq_comm]


theorem encode_char (a : A) (p : Path) : a.codec.bind CC.encodePath = some p ↔
    (Fact.enc p ∈ a.facts ∨ ∃ m, Fact.modu m ∈ a.facts ∧ p = m ++ ["encode"]) := by
  cases hc : a.cl.codec <;> simp [mem_facts, A.codec, hc, CC.encodePath_eq_some]

theorem decode_char (a : A) (p : Path) : a.codec.bind CC.decodePath = some p ↔
    (Fact.dec p ∈ a.facts ∨ ∃ m, Fact.modu m ∈ a.facts ∧ p = m ++ ["decode"]) := by
  cases hc : a.cl.codec <;> simp [mem_facts, A.codec, hc, CC.decodePath_eq_some]

theorem isNil_char (a : A) (hs : Settled a) (p : Path) : a.codec.bind CC.isNilPath = some p ↔
    (Fact.isNil p ∈ a.facts ∨ ∃ m, Fact.modu m ∈ a.facts ∧ Fact.hasNil ∈ a.facts ∧ p = m ++ ["is_nil"]) := by
  obtain ⟨h1, -, h3⟩ := hs
  cases hc : a.cl.codec <;> simp [mem_facts, A.codec, hc, CC.isNilPath_eq_some, show a.cl.isNil = none from h1, show a.cl.hasNil = false from h3]

theorem nil_char (a : A) (hs : Settled a) (p : Path) : a.codec.bind CC.nilPath = some p ↔
    (Fact.nil p ∈ a.facts ∨ ∃ m, Fact.modu m ∈ a.facts ∧ Fact.hasNil ∈ a.facts ∧ p = m ++ ["nil"]) := by
  obtain ⟨-, h2, h3⟩ := hs
  cases hc : a.cl.codec <;> simp [mem_facts, A.codec, hc, CC.nilPath_eq_some, show a.cl.nil = none from h2, show a.cl.hasNil = false from h3]

theorem cborLen_char (a : A) (p : Path) : a.cborLenFn = some p ↔
    (Fact.cborLen p ∈ a.facts ∨ ((∀ q, Fact.cborLen q ∉ a.facts) ∧ ∃ m, Fact.modu m ∈ a.facts ∧ p = m ++ ["cbor_len"])) := by
  cases hl : a.cl.cborLen <;> cases hc : a.cl.codec <;>
    simp [mem_facts, A.cborLenFn, A.cborLen, A.codec, hl, hc, CC.cborLenPath_eq_some]

theorem fieldSem_of_facts (a1 a2 : A) (h1 : Settled a1) (h2 : Settled a2) (hf : ∀ f, f ∈ a1.facts ↔ f ∈ a2.facts) :
    fieldSem a1 = fieldSem a2 := by
  have hm := fun f => (mem_facts a1 f).symm.trans ((hf f).trans (mem_facts a2 f))
  have hskip : a1.skip = a2.skip := Bool.eq_iff_iff.2 (hm .skip)
  have hidx : a1.index = a2.index := Option.ext fun (b, i) => hm (.index b i)
  have htag : a1.tag = a2.tag := Option.ext fun t => hm (.tag t)
  have henc : a1.codec.bind CC.encodePath = a2.codec.bind CC.encodePath :=
    Option.ext fun p => by rw [encode_char, encode_char]; simp only [hf]
  have hdec : a1.codec.bind CC.decodePath = a2.codec.bind CC.decodePath :=
    Option.ext fun p => by rw [decode_char, decode_char]; simp only [hf]
  have hisn : a1.codec.bind CC.isNilPath = a2.codec.bind CC.isNilPath :=
    Option.ext fun p => by rw [isNil_char a1 h1, isNil_char a2 h2]; simp only [hf]
  have hnil : a1.codec.bind CC.nilPath = a2.codec.bind CC.nilPath :=
    Option.ext fun p => by rw [nil_char a1 h1, nil_char a2 h2]; simp only [hf]
  have hcl : a1.cborLenFn = a2.cborLenFn :=
    Option.ext fun p => by rw [cborLen_char, cborLen_char]; simp only [hf]
  simp only [fieldSem, hskip, hidx, htag, henc, hdec, hisn, hnil, hcl]

/-- what the generators read off the attributes of a struct, an enum or a variant, in this order:
    `#[cbor(array)]` / `#[cbor(map)]`, `#[cbor(tag(n))]`, `#[cbor(transparent)]`, `#[cbor(index_only)]`,
    and a variant's `#[n(i)]` / `#[b(i)]` (`true` = `b`, the borrowing form). -/
def topSem (a : A) : Option Enc × Option Nat × Bool × Bool × Option (Bool × Nat) :=
  (a.encoding, a.tag, a.transparent, a.indexOnly, a.index)

theorem topSem_of_facts (a1 a2 : A) (hf : ∀ f, f ∈ a1.facts ↔ f ∈ a2.facts) : topSem a1 = topSem a2 := by
  have hm := fun f => (mem_facts a1 f).symm.trans ((hf f).trans (mem_facts a2 f))
  have h1 : a1.encoding = a2.encoding := Option.ext fun e => hm (.encoding e)
  have h2 : a1.tag = a2.tag := Option.ext fun t => hm (.tag t)
  have h3 : a1.transparent = a2.transparent := Bool.eq_iff_iff.2 (hm .transparent)
  have h4 : a1.indexOnly = a2.indexOnly := Bool.eq_iff_iff.2 (hm .indexOnly)
  have h5 : a1.index = a2.index := Option.ext fun (b, i) => hm (.index b i)
  simp only [topSem, h1, h2, h3, h4, h5]

end Minicbor.Attrs
