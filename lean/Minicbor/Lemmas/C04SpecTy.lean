/-
  For `C04.typed_sound`: `decode_fields!`, enums, `Option`, tags, unit, `Duration` against the
  specification side of Lemmas/C04Interp.lean.
-/
import Minicbor.Lemmas.C04SpecLoops

namespace Minicbor.C04
open Dec

theorem interpAll_unit : ∀ xs : List WItem, ∃ us, interpAll (fun _ => some ()) xs = some us
  | [] => ⟨[], rfl⟩
  | _ :: xs => by
    obtain ⟨us, h⟩ := interpAll_unit xs
    exact ⟨() :: us, by simp [interpAll, h]⟩

theorem repeatN_skip (xs : List WItem) (rest : Bytes) (h : GoodL xs) :
    ∃ us, repeatN (Dec.skip true) xs.length (encWs xs ++ rest) = .ok us rest := by
  obtain ⟨us, hu⟩ := interpAll_unit xs
  have := repeatN_spec Spec.skip xs rest h
  rw [hu] at this
  exact ⟨us, this⟩

theorem fieldsDef_spec {ms : List (Dec α)} {fs : List (WItem → Option α)} (h : SpecL ms fs) :
    ∀ (xs : List WItem) (rest : Bytes), GoodL xs →
      Is (fieldsDef ms xs.length (encWs xs ++ rest)) (interpFields fs xs) rest := by
  induction h with
  | nil =>
    intro xs rest hg
    obtain ⟨us, hus⟩ := repeatN_skip xs rest hg
    simp [fieldsDef, interpFields, Dec.bind_run, hus, Is]
  | cons hmf _ ih =>
    intro xs rest hg
    cases xs with
    | nil => simp only [List.length_nil, fieldsDef, interpFields]; exact NotOk.err
    | cons x xs =>
      obtain ⟨hx, hfx, hxs⟩ := hg.cons
      simp only [List.length_cons, fieldsDef, interpFields, encWs, List.append_assoc]
      exact Is.cons (hmf x _ hx hfx) (ih xs rest hxs)

theorem skipUntilBreak_items : ∀ (xs : List WItem) (rest : Bytes) (fuel : Nat), GoodL xs →
    xs.length < fuel → skipUntilBreak fuel (encWs xs ++ 0xff :: rest) = .ok () rest
  | _, _, 0, _, hfu => by omega
  | [], rest, n + 1, _, _ => by simp [skipUntilBreak, encWs, Dec.bind_run, datatype_break, skip_break]
  | x :: xs, rest, n + 1, h, hfu => by
    obtain ⟨hx, hfx, hxs⟩ := h.cons
    simp only [encWs, List.append_assoc]
    obtain ⟨ty, hty, hnb, _⟩ := datatype_item x hx (encWs xs ++ 0xff :: rest)
    have hb : (ty == CType.break) = false := by simpa using hnb
    have hs := skip_item x hx hfx (encWs xs ++ 0xff :: rest)
    have ih := skipUntilBreak_items xs rest n hxs (by simpa using hfu)
    simp only [skipUntilBreak, Dec.bind_run, hty, hb, Bool.false_eq_true, if_false, hs, ih]

theorem fieldsIndef_spec {ms : List (Dec α)} {fs : List (WItem → Option α)} (h : SpecL ms fs) :
    ∀ (xs : List WItem) (rest : Bytes) (fuel : Nat), GoodL xs → xs.length < fuel →
      Is (fieldsIndef ms fuel (encWs xs ++ 0xff :: rest)) (interpFields fs xs) rest := by
  induction h with
  | nil =>
    intro xs rest fuel hg hfu
    simp [fieldsIndef, interpFields, Dec.bind_run, skipUntilBreak_items xs rest fuel hg hfu, Is]
  | cons hmf _ ih =>
    intro xs rest fuel hg hfu
    cases xs with
    | nil =>
      simp only [fieldsIndef, interpFields, encWs, List.nil_append]
      simp [Dec.bind_run, datatype_break, skip_break]
      exact NotOk.err
    | cons x xs =>
      obtain ⟨hx, hfx, hxs⟩ := hg.cons
      simp only [fieldsIndef, interpFields, encWs, List.append_assoc]
      obtain ⟨ty, hty, hnb, _⟩ := datatype_item x hx (encWs xs ++ 0xff :: rest)
      have hb : (ty == CType.break) = false := by simpa using hnb
      rw [Dec.bind_run, hty]
      simp only [hb, Bool.false_eq_true, if_false]
      exact Is.cons (hmf x _ hx hfx) (ih xs rest fuel hxs (by simp at hfu; omega))

/-- `decode_fields!`: definite or indefinite array, extra entries skipped. -/
theorem Spec.fieldsDec {ms : List (Dec α)} {fs : List (WItem → Option α)} (h : SpecL ms fs) :
    Spec (Dec.fieldsDec ms) (fun w => (elems w).bind (interpFields fs)) :=
  Spec.ofElems (fieldsDef_spec h) (fieldsIndef_spec h)

theorem SpecL.get {ms : List (Dec α)} {fs : List (WItem → Option α)} (h : SpecL ms fs) (j : Nat) :
    (∃ m f, ms[j]? = some m ∧ fs[j]? = some f ∧ Spec m f) ∨ (ms[j]? = none ∧ fs[j]? = none) := by
  induction h generalizing j with
  | nil => right; simp
  | cons hmf _ ih =>
    cases j with
    | zero => left; exact ⟨_, _, by simp, by simp, hmf⟩
    | succ j => simpa using ih j

theorem Spec.enum {ms : List (Dec Val)} {fs : List (WItem → Option Val)} (h : SpecL ms fs) :
    Spec (do let n ← Dec.array
             if n != some 2 then Dec.fail .message
             else do
               let i ← intAcc .u32
               pickVariant ms i.toNat)
      (fun w => (elemsDef w).bind fun xs =>
        match xs with
        | [i, x] => (view (.int .u32) i).bind fun n =>
            match fs[n.toNat]? with
            | some f => (f x).map (Val.variant n.toNat)
            | none => none
        | _ => none) := by
  refine Spec.ofElemsDef (fun xs rest hg => ?_) (fun bs => by simp; exact NotOk.err)
  match xs, hg with
  | [i, x], hg =>
    obtain ⟨hi, hfi, hg⟩ := hg.cons
    obtain ⟨hx, hfx, -⟩ := hg.cons
    have : (some [i, x].length != some 2) = false := by simp
    simp only [this, Bool.false_eq_true, if_false, encWs, List.append_nil, List.append_assoc]
    refine Is.bind (Spec.int .u32 i _ hi hfi) (fun n _ => ?_)
    unfold pickVariant
    rcases h.get n.toNat with ⟨m, f, hm, hff, hs⟩ | ⟨hm, hff⟩
    · simp only [hm, hff]
      exact Is.map _ (hs x rest hx hfx)
    · simp only [hm, hff]; exact NotOk.err
  | [], _ => simp [Is]; exact NotOk.err
  | [_], _ => simp [Is]; exact NotOk.err
  | _ :: _ :: _ :: _, _ => simp [Is]; exact NotOk.err

theorem Spec.opt {m : Dec Val} {f : WItem → Option Val} (hs : Spec m f) :
    Spec (do let ty ← datatype
             if ty == .null then do Dec.skip; pure Val.none
             else do let v ← m; pure (Val.some v))
      (fun w => if isNull w = true then some Val.none else (f w).map Val.some) := by
  intro w rest hv hf
  obtain ⟨ty, hty, _, h0, h1⟩ := datatype_item w hv rest
  dsimp only
  rw [Dec.bind_run, hty]
  cases hn : isNull w with
  | true =>
    have := h1 hn; subst this
    simp only [beq_self_eq_true, if_true]
    simp [Dec.bind_run, skip_item w hv hf rest, Is]
  | false =>
    have : (ty == CType.null) = false := by simpa using h0 hn
    simp only [this, Bool.false_eq_true, if_false]
    exact Is.map _ (hs w rest hv hf)

theorem Spec.tagged {m : Dec Val} {f : WItem → Option Val} (hs : Spec m f) (n : Nat) :
    Spec (do let g ← Dec.tag
             if g != n then Dec.fail .tag
             else do let v ← m; pure (Val.tagged v))
      (fun w => match w with
        | .tag _ g x => if g = n then (f x).map Val.tagged else none
        | _ => none) := by
  intro w rest hv hf
  have ha := acc_is .tag w hv rest
  cases w
  case tag wd g x =>
    simp only [WItem.Valid, WItem.valid, Bool.and_eq_true] at hv
    simp only [view, after, Is] at ha
    rw [Dec.bind_run, show Dec.tag _ = _ from ha]
    simp only []
    by_cases hg : g = n
    · subst hg
      have : (g != g) = false := by simp
      simp only [this, Bool.false_eq_true, if_false, if_true]
      refine Is.map _ (hs x rest hv.2 ?_)
      simp [Fits, encW, headW] at hf ⊢; omega
    · have : (g != n) = true := by simp [hg]
      simp only [this, if_true, hg, if_false]
      exact NotOk.err
  all_goals exact NotOk.bind_left ha

theorem Spec.unit :
    Spec (do let n ← Dec.array
             if n == some 0 then pure Val.unit else Dec.fail .message)
      (fun w => (elemsDef w).bind fun xs => if xs.length = 0 then some Val.unit else none) := by
  refine Spec.ofElemsDef (fun xs rest _ => ?_) (fun bs => by simp; exact NotOk.err)
  cases xs with
  | nil => simp [encWs, Is]
  | cons x xs => simp [Is]; exact NotOk.err

theorem Spec.skipUnit : Spec (do Dec.skip; pure Val.unit) (fun _ => some Val.unit) := by
  intro w rest hv hf
  simp [Dec.bind_run, skip_item w hv hf rest, Is]

theorem Spec.barr (n : Nat) :
    Spec (do let b ← Dec.bytes
             if b.length = n then pure (Val.bytes b) else Dec.fail .message)
      (fun w => (view .bytes w).bind fun b => if b.length = n then some (Val.bytes b) else none) := by
  refine Spec.bindPure Spec.bytes (fun b bs => ?_)
  split
  · simp [Is]
  · exact NotOk.err

theorem Spec.cstr :
    Spec (do let b ← Dec.bytes
             match b.reverse with
             | z :: revInit => if z == 0 && revInit.all (· != 0) then pure (Val.bytes revInit.reverse) else Dec.fail .message
             | [] => Dec.fail .message)
      (fun w => (view .bytes w).bind cstrVal) := by
  refine Spec.bindPure Spec.bytes (fun b bs => ?_)
  unfold cstrVal
  generalize b.reverse = l
  cases l with
  | nil => exact NotOk.err
  | cons z ri =>
    dsimp only
    split
    · simp [Is]
    · exact NotOk.err

theorem Spec.nz (t : IntTy) :
    Spec (do let v ← intAcc t
             if v == 0 then Dec.fail .message else pure (Val.int v))
      (fun w => (view (.int t) w).bind fun v => if v = 0 then none else some (Val.int v)) := by
  refine Spec.bindPure (Spec.int t) (fun v bs => ?_)
  by_cases h : v = 0
  · subst h; simp; exact NotOk.err
  · have : (v == 0) = false := by simpa using h
    simp [this, h, Is]

theorem specL_dur : SpecL [intAcc .u64, intAcc .u32] [view (.int .u64), view (.int .u32)] :=
  .cons (Spec.int _) (.cons (Spec.int _) .nil)

theorem Spec.duration (sys : Bool) :
    Spec (decodeDuration sys)
      (fun w => (elems w).bind fun xs => (interpFields [view (.int .u64), view (.int .u32)] xs).bind (durVal sys)) := by
  intro w rest hv hf
  have h := Spec.fieldsDec specL_dur w rest hv hf
  unfold decodeDuration
  dsimp only at h ⊢
  have e : ((elems w).bind fun xs => (interpFields [view (.int .u64), view (.int .u32)] xs).bind (durVal sys)) =
      ((elems w).bind (interpFields [view (.int .u64), view (.int .u32)])).bind (durVal sys) := by
    cases elems w <;> rfl
  rw [e]
  refine Is.bind h (fun l _ => ?_)
  match l with
  | [s, n] =>
    simp only [durVal]
    split
    · exact NotOk.err
    · split
      · exact NotOk.err
      · simp [Is]
  | [] => simp only [durVal]; intro v r hc; cases hc
  | [_] => simp only [durVal]; intro v r hc; cases hc
  | _ :: _ :: _ :: _ => simp only [durVal]; intro v r hc; cases hc

end Minicbor.C04
