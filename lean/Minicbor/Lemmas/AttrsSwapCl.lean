/-
  Commutation of `try_insert` on the codec cluster (`insertCl`): for two values of different kinds,
  other than the two order-sensitive pairs (`is_nil` with a bare `encode_with`, `nil` with a bare
  `decode_with`), inserting them in either order gives the same map or fails both times.

  `insertCl c v` reads the codec slot and the slot of `v` (a codec value: the slots it can absorb),
  so each pair is settled by splitting the codec slot and the pending slots the two values read;
  with those known both orders compute, and the results are compared by `rfl`.
-/
import Minicbor.Attrs

namespace Minicbor.Attrs

def Eqv {α : Type} (r1 r2 : Except Err α) : Prop :=
  (∃ e1 e2, r1 = .error e1 ∧ r2 = .error e2) ∨ (∃ a, r1 = .ok a ∧ r2 = .ok a)

theorem eqv_iff_toOption {α : Type} {r1 r2 : Except Err α} : Eqv r1 r2 ↔ r1.toOption = r2.toOption := by
  cases r1 <;> cases r2 <;> simp [Eqv, Except.toOption, eq_comm]

theorem Eqv.refl {α : Type} (r : Except Err α) : Eqv r r := eqv_iff_toOption.2 rfl

theorem Eqv.symm {α : Type} {r1 r2 : Except Err α} (h : Eqv r1 r2) : Eqv r2 r1 :=
  eqv_iff_toOption.2 (eqv_iff_toOption.1 h).symm

theorem Eqv.trans {α : Type} {r1 r2 r3 : Except Err α} (h : Eqv r1 r2) (h' : Eqv r2 r3) : Eqv r1 r3 :=
  eqv_iff_toOption.2 ((eqv_iff_toOption.1 h).trans (eqv_iff_toOption.1 h'))

theorem Eqv.err {α : Type} (e1 e2 : Err) : Eqv (.error e1 : Except Err α) (.error e2) := Or.inl ⟨e1, e2, rfl, rfl⟩

/-- An eliminator, because a congruence lemma stated with a `match` of its own would not do: it does not
    unify with the `match`es of the model while their discriminants are stuck. -/
@[elab_as_elim]
theorem Eqv.elim {α : Type} {motive : Except Err α → Except Err α → Prop}
    (error : ∀ e1 e2, motive (.error e1) (.error e2)) (ok : ∀ a, motive (.ok a) (.ok a))
    {r1 r2 : Except Err α} (h : Eqv r1 r2) : motive r1 r2 := by
  rcases h with ⟨e1, e2, rfl, rfl⟩ | ⟨a, rfl, rfl⟩
  · exact error e1 e2
  · exact ok a

def twoCl (c : Cl) (v w : Val) : Except Err Cl :=
  match insertCl c v with
  | .error e => .error e
  | .ok c' => insertCl c' w

theorem twoCl_toOption (c : Cl) (v w : Val) :
    (twoCl c v w).toOption = (insertCl c v).toOption.bind fun c' => (insertCl c' w).toOption := by
  unfold twoCl; cases insertCl c v <;> rfl

/-- the two order-sensitive pairs. -/
def Bad : Val → Val → Prop
  | .isNil _, .codec (.enc _ _) => True
  | .codec (.enc _ _), .isNil _ => True
  | .nil _, .codec (.dec _ _) => True
  | .codec (.dec _ _), .nil _ => True
  | _, _ => False

/- A satellite goes into its own place in the codec, if the codec present has one, else into its
  own pending slot, and is refused if either is taken; no satellite changes the constructor of the
  codec.  So it suffices to know that constructor and the places of the two satellites. -/

theorem swap_isNil_nil (c : Cl) (z y : Path) : Eqv (twoCl c (.isNil z) (.nil y)) (twoCl c (.nil y) (.isNil z)) := by
  obtain ⟨codec, nil, isNil, hasNil, cborLen⟩ := c
  rcases codec with _ | ⟨e, _ | n⟩ | ⟨d, _ | m⟩ | ⟨e, _ | n, d, _ | m⟩ | ⟨p, b⟩ <;> cases isNil <;> cases nil <;>
    exact eqv_iff_toOption.2 rfl

theorem swap_isNil_hasNil (c : Cl) (z : Path) : Eqv (twoCl c (.isNil z) .hasNil) (twoCl c .hasNil (.isNil z)) := by
  obtain ⟨codec, nil, isNil, hasNil, cborLen⟩ := c
  rcases codec with _ | ⟨e, _ | n⟩ | ⟨d, m⟩ | ⟨e, _ | n, d, m⟩ | ⟨p, _ | _⟩ <;> cases isNil <;> cases hasNil <;>
    exact eqv_iff_toOption.2 rfl

theorem swap_isNil_cborLen (c : Cl) (z q : Path) : Eqv (twoCl c (.isNil z) (.cborLen q)) (twoCl c (.cborLen q) (.isNil z)) := by
  obtain ⟨codec, nil, isNil, hasNil, cborLen⟩ := c
  rcases codec with _ | ⟨e, _ | n⟩ | ⟨d, m⟩ | ⟨e, _ | n, d, m⟩ | ⟨p, b⟩ <;> cases isNil <;> cases cborLen <;>
    exact eqv_iff_toOption.2 rfl

theorem swap_nil_hasNil (c : Cl) (z : Path) : Eqv (twoCl c (.nil z) .hasNil) (twoCl c .hasNil (.nil z)) := by
  obtain ⟨codec, nil, isNil, hasNil, cborLen⟩ := c
  rcases codec with _ | ⟨e, n⟩ | ⟨d, _ | m⟩ | ⟨e, n, d, _ | m⟩ | ⟨p, _ | _⟩ <;> cases nil <;> cases hasNil <;>
    exact eqv_iff_toOption.2 rfl

theorem swap_nil_cborLen (c : Cl) (z q : Path) : Eqv (twoCl c (.nil z) (.cborLen q)) (twoCl c (.cborLen q) (.nil z)) := by
  obtain ⟨codec, nil, isNil, hasNil, cborLen⟩ := c
  rcases codec with _ | ⟨e, n⟩ | ⟨d, _ | m⟩ | ⟨e, n, d, _ | m⟩ | ⟨p, b⟩ <;> cases nil <;> cases cborLen <;>
    exact eqv_iff_toOption.2 rfl

theorem swap_hasNil_cborLen (c : Cl) (q : Path) : Eqv (twoCl c .hasNil (.cborLen q)) (twoCl c (.cborLen q) .hasNil) := by
  obtain ⟨codec, nil, isNil, hasNil, cborLen⟩ := c
  rcases codec with _ | ⟨e, n⟩ | ⟨d, m⟩ | ⟨e, n, d, m⟩ | ⟨p, _ | _⟩ <;> cases hasNil <;> cases cborLen <;>
    exact eqv_iff_toOption.2 rfl

/- No codec in the map: the new codec absorbs what is pending of the satellites it has a place for,
  so the pending slots it reads are split besides that of the satellite.  A codec `cx` in the map:
  the new one is refused, or `encode_with` and `decode_with` combine; the satellite did not change
  which, having left the constructor of `cx` alone. -/

theorem swap_codec_isNil (c : Cl) (cc : CC) (z : Path) (h : ∀ e n, cc ≠ .enc e n) :
    Eqv (twoCl c (.codec cc) (.isNil z)) (twoCl c (.isNil z) (.codec cc)) := by
  obtain ⟨codec, nil, isNil, hasNil, cborLen⟩ := c
  cases codec with
  | none =>
    cases cc with
    | enc e n => exact absurd rfl (h e n)
    | dec d m => cases m <;> cases nil <;> cases isNil <;> exact eqv_iff_toOption.2 rfl
    | both e n d m => cases n <;> cases m <;> cases isNil <;> cases nil <;> exact eqv_iff_toOption.2 rfl
    | module p b => cases b <;> cases hasNil <;> cases cborLen <;> cases isNil <;> exact eqv_iff_toOption.2 rfl
  | some cx =>
    rcases cc with ⟨e, n⟩ | ⟨d, m⟩ | ⟨e, n, d, m⟩ | ⟨p, b⟩
    case enc => exact absurd rfl (h e n)
    all_goals rcases cx with ⟨e0, _ | n0⟩ | ⟨d0, m0⟩ | ⟨e0, _ | n0, d0, m0⟩ | ⟨p0, b0⟩ <;> cases isNil <;>
      exact eqv_iff_toOption.2 rfl

theorem swap_codec_nil (c : Cl) (cc : CC) (z : Path) (h : ∀ d m, cc ≠ .dec d m) :
    Eqv (twoCl c (.codec cc) (.nil z)) (twoCl c (.nil z) (.codec cc)) := by
  obtain ⟨codec, nil, isNil, hasNil, cborLen⟩ := c
  cases codec with
  | none =>
    cases cc with
    | enc e n => cases n <;> cases isNil <;> cases nil <;> exact eqv_iff_toOption.2 rfl
    | dec d m => exact absurd rfl (h d m)
    | both e n d m => cases n <;> cases m <;> cases isNil <;> cases nil <;> exact eqv_iff_toOption.2 rfl
    | module p b => cases b <;> cases hasNil <;> cases cborLen <;> cases nil <;> exact eqv_iff_toOption.2 rfl
  | some cx =>
    rcases cc with ⟨e, n⟩ | ⟨d, m⟩ | ⟨e, n, d, m⟩ | ⟨p, b⟩
    case dec => exact absurd rfl (h d m)
    all_goals rcases cx with ⟨e0, n0⟩ | ⟨d0, _ | m0⟩ | ⟨e0, n0, d0, _ | m0⟩ | ⟨p0, b0⟩ <;> cases nil <;>
      exact eqv_iff_toOption.2 rfl

theorem swap_codec_hasNil (c : Cl) (cc : CC) :
    Eqv (twoCl c (.codec cc) .hasNil) (twoCl c .hasNil (.codec cc)) := by
  obtain ⟨codec, nil, isNil, hasNil, cborLen⟩ := c
  cases codec with
  | none =>
    cases cc with
    | enc e n => cases n <;> cases isNil <;> cases hasNil <;> exact eqv_iff_toOption.2 rfl
    | dec d m => cases m <;> cases nil <;> cases hasNil <;> exact eqv_iff_toOption.2 rfl
    | both e n d m => cases n <;> cases m <;> cases isNil <;> cases nil <;> cases hasNil <;> exact eqv_iff_toOption.2 rfl
    | module p b => cases b <;> cases hasNil <;> cases cborLen <;> exact eqv_iff_toOption.2 rfl
  | some cx =>
    rcases cc with ⟨e, n⟩ | ⟨d, m⟩ | ⟨e, n, d, m⟩ | ⟨p, b⟩ <;>
      rcases cx with ⟨e0, n0⟩ | ⟨d0, m0⟩ | ⟨e0, n0, d0, m0⟩ | ⟨p0, _ | _⟩ <;> cases hasNil <;>
      exact eqv_iff_toOption.2 rfl

theorem swap_codec_cborLen (c : Cl) (cc : CC) (q : Path) :
    Eqv (twoCl c (.codec cc) (.cborLen q)) (twoCl c (.cborLen q) (.codec cc)) := by
  obtain ⟨codec, nil, isNil, hasNil, cborLen⟩ := c
  cases codec with
  | none =>
    cases cc with
    | enc e n => cases n <;> cases isNil <;> cases cborLen <;> exact eqv_iff_toOption.2 rfl
    | dec d m => cases m <;> cases nil <;> cases cborLen <;> exact eqv_iff_toOption.2 rfl
    | both e n d m => cases n <;> cases m <;> cases isNil <;> cases nil <;> cases cborLen <;> exact eqv_iff_toOption.2 rfl
    | module p b => cases b <;> cases hasNil <;> cases cborLen <;> exact eqv_iff_toOption.2 rfl
  | some cx =>
    rcases cc with ⟨e, n⟩ | ⟨d, m⟩ | ⟨e, n, d, m⟩ | ⟨p, b⟩ <;>
      rcases cx with ⟨e0, n0⟩ | ⟨d0, m0⟩ | ⟨e0, n0, d0, m0⟩ | ⟨p0, b0⟩ <;> cases cborLen <;>
      exact eqv_iff_toOption.2 rfl

end Minicbor.Attrs
