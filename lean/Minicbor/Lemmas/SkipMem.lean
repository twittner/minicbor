/-
  Memory bound of `Decoder::skip` on arbitrary bytes (`C06.skip_stack_le_consumed`, to which C02 refers): at every point
  of the run the length of the stack plus `irounds` is at most the number of bytes consumed so far.
  `Reach alloc bs0 s bs` is the small-step semantics of the `while` loop: `(s, bs)` is a
  configuration at the loop head of `skip` started on `bs0`.  Every step of it is a token
  (`tokStep_of_arm`), which consumes a byte and raises the measure by at most one.
-/
import Minicbor.Lemmas.SkipNoAlloc

namespace Minicbor
open Dec

inductive Reach (alloc : Bool) (bs0 : Bytes) : SkipSt → Bytes → Prop
  | init : Reach alloc bs0 SkipSt.init bs0
  | cont {s s' : SkipSt} {bs r : Bytes} : Reach alloc bs0 s bs → skipRunning alloc s = true →
      skipArm alloc s bs = .ok (.cont s') r → Reach alloc bs0 s' r
  | next {s s1 s' : SkipSt} {bs r r' : Bytes} : Reach alloc bs0 s bs → skipRunning alloc s = true →
      skipArm alloc s bs = .ok (.next s1) r → skipPost alloc s1 r = .ok (some s') r' →
      Reach alloc bs0 s' r'

/-- what the bound is proved for: frames + pending breaks (+1 while two or more items are
    pending in counting mode: the switch to stack mode pushes two frames at once). -/
def memMeasure (s : SkipSt) : Nat := s.stack.length + s.ir + (if 2 ≤ s.nr then 1 else 0)

theorem popZeros_length (st : List (Option Nat)) : (popZeros st).length ≤ st.length := by
  induction st with
  | nil => simp [popZeros]
  | cons x st ih =>
    match x with
    | some 0 => simp [popZeros]; omega
    | some (k + 1) => simp [popZeros]
    | none => simp [popZeros]

theorem memMeasure_post (alloc : Bool) (s : SkipSt) : memMeasure (postSt alloc s) ≤ memMeasure s := by
  have := popZeros_length s.stack
  unfold postSt postStack memMeasure
  split
  · split
    · rename_i h; rw [h] at this; simp at this ⊢; omega
    · simp only; omega
  · simp only
    split <;> split <;> omega

theorem memMeasure_tokStep (alloc : Bool) (s s' : SkipSt) (t : Tok) (h : tokStep alloc s t = some s') :
    memMeasure s' ≤ memMeasure s + 1 := by
  have key : ∀ s1, memMeasure s1 ≤ memMeasure s + 1 → memMeasure (postSt alloc s1) ≤ memMeasure s + 1 :=
    fun s1 h1 => Nat.le_trans (memMeasure_post alloc s1) h1
  cases t with
  | item => cases h; exact key s (by omega)
  | tag => cases h; omega
  | brk =>
    cases h
    refine key _ ?_
    unfold brkSt memMeasure
    split
    · split
      · rename_i hst; simp [hst]; omega
      · omega
    · simp only; omega
  | defn n =>
    cases h
    refine key _ ?_
    unfold defSt skipDefinite memMeasure
    split
    · omega
    · split
      · simp only [List.length_cons]; omega
      · simp only; split <;> split <;> omega
  | indef =>
    simp only [tokStep, Option.map_eq_some_iff] at h
    obtain ⟨s1, hi, rfl⟩ := h
    refine key _ ?_
    have := satAdd_le_add s.ir 1
    unfold indefSt at hi
    unfold memMeasure
    -- the branches of `indefSt`: one more frame; one more pending break (`nr < 2`); the switch, where
    -- `ir` pending breaks become frames and two more are pushed, paid for by the allowance for `2 ≤ nr`
    repeat' split at hi
    all_goals cases hi
    all_goals simp only [List.length_cons, List.length_append, List.length_replicate]
    all_goals repeat' split
    all_goals omega

theorem tokStep_of_arm {alloc : Bool} {s : SkipSt} {bs r : Bytes} {a : SkipArm}
    (h : skipArm alloc s bs = .ok a r) :
    ∃ t, armTok bs = .ok t r ∧
      tokStep alloc s t = some (match a with | .cont s' => s' | .next s1 => postSt alloc s1) := by
  rw [skipArm_eq, Dec.bind_run] at h
  cases ht : armTok bs with
  | ok t r1 =>
    rw [ht] at h
    refine ⟨t, ?_⟩
    cases t with
    | indef =>
      simp only [applyTok] at h
      cases hi : indefSt alloc s with
      | none => rw [hi] at h; cases h
      | some s1 => rw [hi] at h; cases h; simp [tokStep, hi]
    | _ => cases h; exact ⟨rfl, rfl⟩
  | err e r1 => rw [ht] at h; cases h
  | panic => rw [ht] at h; cases h

theorem reach_mem (alloc : Bool) (bs0 : Bytes) (s : SkipSt) (bs : Bytes) (h : Reach alloc bs0 s bs) :
    memMeasure s + bs.length ≤ bs0.length := by
  induction h with
  | init => simp [memMeasure, SkipSt.init]
  | @cont s s' bs r _ _ harm ih =>
    obtain ⟨t, ht, hs⟩ := tokStep_of_arm harm
    have := armTok_consumes bs t r ht
    have := memMeasure_tokStep alloc s s' t hs
    omega
  | @next s s1 s' bs r r' _ _ harm hpost ih =>
    obtain ⟨t, ht, hs⟩ := tokStep_of_arm harm
    have := armTok_consumes bs t r ht
    rw [skipPost_eq] at hpost
    injection hpost with h1 h2
    subst h2
    split at h1 <;> cases h1
    have := memMeasure_tokStep alloc s (postSt alloc s1) t hs
    omega

theorem reach_stack_le_consumed (alloc : Bool) (bs0 : Bytes) (s : SkipSt) (bs : Bytes)
    (h : Reach alloc bs0 s bs) : s.stack.length + s.ir + bs.length ≤ bs0.length := by
  have := reach_mem alloc bs0 s bs h
  unfold memMeasure at this
  omega

end Minicbor
