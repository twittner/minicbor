/-
  A predicate family `P` that holds of the primitives of the decoder monad and is preserved by `bind`
  (`Rules P`) holds of every accessor of Decoder.lean, of the straight-line parts of `skip` and —
  given the loop combinators — of `Token::decode` and every `decodeT t` (DecRulesTy.lean).

  The family carries a grade `k`, read as "a success has read at least `k` bytes": `read` has grade 1,
  the other primitives 0, `fail` any, `bind` adds, `weaken` lowers.  One walk over the program text
  yields `NoPanic`, `Suffix`, `Stable` (through `ExtRel`), which ignore the grade, and `Consumes · k`,
  which reads it (Lemmas/Consumes.lean): every consuming accessor comes out at grade 1 (`datatype`,
  which only looks ahead, at grade 0); `decodeT t` is walked at grade 0 (`TyRules`), and
  `Consumes.decodeT` comes from `decodeT_sized` (Lemmas/TotalTy.lean).
  `SizedBy c sz` (TotalAcc, TotalComb) walks the accessors it needs again: its credit after a `bind`
  depends on the value returned, which no such grade carries.  `EoiNil` and `Keeps` are no `Rules`
  instances (`read` is not `Keeps`, `pure` is not `EoiNil`): each has a `bind` rule of its own
  (`Keeps.bind`; `EoiNil.bind` looks at the first action only) and is proved directly.

  Fuelled loops need `LoopRules R` with `R` a relation between two actions: stability under
  extension of the input (`ExtRel`, Lemmas/C04Stable.lean) has to relate a loop at the fuel computed
  from the short input to the same loop at a larger fuel.  `remaining` is no primitive: its value
  is not stable under extension, and the model uses it only to compute fuels (`withRemaining`).
-/
import Minicbor.Skip

namespace Minicbor.Dec

structure Rules (P : Nat → ∀ {α : Type}, Dec α → Prop) : Prop where
  pure : ∀ {α : Type} (a : α), P 0 (Pure.pure a : Dec α)
  fail : ∀ {α : Type} (k : Nat) (e : Err), P k (Dec.fail e : Dec α)
  read : P 1 Dec.read
  current : P 0 Dec.current
  peek : P 0 Dec.peek
  readSlice : ∀ n, P 0 (Dec.readSlice n)
  bind : ∀ {α β : Type} {i j : Nat} {m : Dec α} {f : α → Dec β}, P i m → (∀ a, P j (f a)) → P (i + j) (m >>= f)
  weaken : ∀ {α : Type} {k : Nat} {m : Dec α}, P (k + 1) m → P k m

structure LoopRules (R : Nat → ∀ {α : Type}, Dec α → Dec α → Prop) : Prop extends Rules (fun k => fun m => R k m m) where
  bind₂ : ∀ {α β : Type} {i j : Nat} {m m' : Dec α} {f g : α → Dec β},
    R i m m' → (∀ a, R j (f a) (g a)) → R (i + j) (m >>= f) (m' >>= g)
  panic : ∀ {α : Type} (k : Nat) (m' : Dec α), R k Dec.panic m'
  withRemaining : ∀ {α : Type} {k : Nat} {loop : Nat → Dec α} (c : Nat), (∀ f f', f ≤ f' → R k (loop f) (loop f')) →
    R k (Dec.remaining >>= fun r => loop (r.length + c)) (Dec.remaining >>= fun r => loop (r.length + c))

variable {P : Nat → ∀ {α : Type}, Dec α → Prop} {R : Nat → ∀ {α : Type}, Dec α → Dec α → Prop}

/-- `if` for any predicate on actions, so that it serves `P k` inside a walk and `NoPanic`, `Keeps`,
    `SizedBy c sz` outside.  `Q` is found by unification where the action is the last argument;
    elsewhere it is given (`Q := (Consumes · k)`).  The first arm may use the condition. -/
theorem ite_elim {α : Type} {Q : Dec α → Prop} {c : Prop} [Decidable c] {f g : Dec α}
    (hf : c → Q f) (hg : Q g) : Q (if c then f else g) := by
  split
  · exact hf ‹_›
  · exact hg

theorem ite_pres {α : Type} {Q : Dec α → Prop} {c : Prop} [Decidable c] {a b : Dec α} (ha : Q a) (hb : Q b) :
    Q (if c then a else b) :=
  ite_elim (fun _ => ha) hb

theorem ite_pres₂ {α : Type} {Q : Dec α → Dec α → Prop} {c : Prop} [Decidable c] {a a' b b' : Dec α}
    (ha : Q a a') (hb : Q b b') : Q (if c then a else b) (if c then a' else b') := by
  split <;> assumption

namespace Rules
variable (h : Rules P)
include h

/-- `bind` when the continuation need not read, and (`bindL`) when the first action need not: stated
    without `+ 0` and `0 +`, so that the grade is found by unification and not by arithmetic. -/
theorem bindR {α β : Type} {k : Nat} {m : Dec α} {f : α → Dec β} (hm : P k m) (hf : ∀ a, P 0 (f a)) : P k (m >>= f) :=
  h.bind hm hf

theorem bindL {α β : Type} {k : Nat} {m : Dec α} {f : α → Dec β} (hm : P 0 m) (hf : ∀ a, P k (f a)) : P k (m >>= f) :=
  (Nat.zero_add k) ▸ h.bind hm hf

theorem fmap {α β : Type} {k : Nat} {m : Dec α} (g : α → β) (hm : P k m) : P k (m >>= fun a => Pure.pure (g a)) :=
  h.bindR hm fun _ => h.pure _

theorem typeOf (b : UInt8) : P 0 (Dec.typeOf b) := by
  unfold Dec.typeOf
  repeat' first | apply ite_pres | exact h.pure _ | exact h.fmap _ h.peek

/-- at any grade: it never succeeds. -/
theorem typeMismatch {α : Type} (k : Nat) (b : UInt8) : P k (Dec.typeMismatch b : Dec α) :=
  h.bindL (h.typeOf b) fun _ => h.fail k _

theorem unsigned (b : UInt8) : P 0 (Dec.unsigned b) :=
  ite_pres (h.pure _) <| ite_pres (h.weaken (h.fmap _ h.read)) <| ite_pres (h.fmap _ (h.readSlice 2)) <|
    ite_pres (h.fmap _ (h.readSlice 4)) <| ite_pres (h.fmap _ (h.readSlice 8)) (h.typeMismatch 0 b)

theorem tryAs (v max : Nat) : P 0 (Dec.tryAs v max) :=
  ite_pres (h.pure _) (h.fail _ _)

theorem u64ToUsize (n : Nat) : P 0 (Dec.u64ToUsize n) :=
  ite_pres (h.pure _) (h.fail _ _)

theorem intAcc (t : IntTy) : P 1 (Dec.intAcc t) :=
  h.bindR h.read fun b =>
    ite_pres (h.bindR (h.unsigned b) fun v => h.fmap _ (h.tryAs v _)) <|
    ite_pres (h.bindR (h.unsigned _) fun v => h.fmap _ (h.tryAs v _)) (h.typeMismatch 0 b)

theorem bool : P 1 Dec.bool :=
  h.bindR h.read fun b => ite_pres (h.pure _) <| ite_pres (h.pure _) (h.typeMismatch 0 b)

theorem f16 : P 1 Dec.f16 :=
  h.bindR h.read fun b => ite_pres (h.typeMismatch 0 b) (h.fmap _ (h.readSlice 2))

theorem f32 (half : Bool) : P 1 (Dec.f32 half) :=
  h.bindL h.current fun b =>
    ite_pres h.f16 <| ite_pres (h.bindR h.read fun _ => h.fmap _ (h.readSlice 4)) (h.typeMismatch 1 b)

theorem f64 (half : Bool) : P 1 (Dec.f64 half) :=
  h.bindL h.current fun b =>
    ite_pres (h.fmap _ h.f16) <| ite_pres (h.fmap _ (h.f32 half)) <|
    ite_pres (h.bindR h.read fun _ => h.fmap _ (h.readSlice 8)) (h.typeMismatch 1 b)

theorem char : P 1 Dec.char :=
  h.bindR (h.intAcc _) fun _ => ite_pres (h.pure _) (h.fail _ _)

theorem bytes : P 1 Dec.bytes :=
  h.bindR h.read fun b => ite_pres (h.typeMismatch 0 b) <|
    h.bindR (h.unsigned _) fun n => h.bindR (h.u64ToUsize n) fun n => h.readSlice n

theorem str : P 1 Dec.str :=
  h.bindR h.read fun b => ite_pres (h.typeMismatch 0 b) <|
    h.bindR (h.unsigned _) fun n => h.bindR (h.u64ToUsize n) fun n =>
      h.bindR (h.readSlice n) fun _ => ite_pres (h.pure _) (h.fail _ _)

theorem chunk (text : Bool) : P 1 (if text then Dec.str else Dec.bytes) :=
  ite_pres h.str h.bytes

theorem container (maj : Nat) : P 1 (Dec.container maj) :=
  h.bindR h.read fun b => ite_pres (h.typeMismatch 0 b) <| ite_pres (h.pure _) (h.fmap _ (h.unsigned _))

theorem array : P 1 Dec.array := h.container _
theorem map : P 1 Dec.map := h.container _

theorem tag : P 1 Dec.tag :=
  h.bindR h.read fun b => ite_pres (h.typeMismatch 0 b) (h.unsigned _)

theorem null : P 1 Dec.null :=
  h.bindR h.read fun b => ite_pres (h.pure _) (h.typeMismatch 0 b)

theorem undefined : P 1 Dec.undefined :=
  h.bindR h.read fun b => ite_pres (h.pure _) (h.typeMismatch 0 b)

theorem simple : P 1 Dec.simple :=
  h.bindR h.read fun b => ite_pres (h.pure _) <| ite_pres (h.weaken (h.fmap _ h.read)) (h.typeMismatch 0 b)

theorem datatype : P 0 Dec.datatype :=
  h.bindL h.current h.typeOf

theorem stringIter (text : Bool)
    (hl : P 0 (Dec.remaining >>= fun r => Dec.chunkLoop text (r.length + 1))) :
    P 1 (Dec.stringIter text) :=
  h.bindR h.read fun b => ite_pres (h.typeMismatch 0 b) <| ite_pres hl <|
    h.bindR (h.unsigned _) fun n => h.bindR (h.u64ToUsize n) fun n => ite_pres (h.pure _) <|
      h.bindR (h.readSlice n) fun _ => ite_pres (h.fail _ _) (h.pure _)

theorem skipString (text : Bool) (hs : P 1 (Dec.stringIter text)) :
    P 1 (Dec.skipString text) :=
  h.fmap _ hs

theorem skipIndefinite (alloc : Bool) (s : SkipSt) : P 0 (Dec.skipIndefinite alloc s) :=
  ite_pres (h.pure _) <| ite_pres (h.pure _) <| ite_pres (h.pure _) (h.fail _ _)

theorem skipArm (alloc : Bool) (s : SkipSt) (hs : ∀ text, P 1 (Dec.skipString text)) :
    P 1 (Dec.skipArm alloc s) :=
  h.bindL h.current fun b =>
    ite_pres (h.fmap _ (h.intAcc _)) <| ite_pres (h.fmap _ (h.intAcc _)) <|
    ite_pres (h.fmap _ (hs _)) <| ite_pres (h.fmap _ (hs _)) <|
    ite_pres (h.bindR h.array fun
      | some 0 => ite_pres (h.pure _) (h.pure _)
      | some (_ + 1) => h.pure _
      | none => h.fmap _ (h.skipIndefinite alloc s)) <|
    ite_pres (h.bindR h.map fun
      | some 0 => ite_pres (h.pure _) (h.pure _)
      | some (_ + 1) => h.pure _
      | none => h.fmap _ (h.skipIndefinite alloc s)) <|
    ite_pres (h.bindR h.read fun _ => h.fmap _ (h.unsigned _)) <|
    ite_pres (h.bindR h.read fun _ => h.fmap _ (h.unsigned _)) <|
    ite_pres (h.bindR h.read fun _ => ite_pres (by split <;> exact h.pure _) (h.pure _)) (h.typeMismatch 1 b)

end Rules

theorem LoopRules.of_pred (h : Rules P) (remaining : P 0 Dec.remaining)
    (panic : ∀ {α : Type} (k : Nat), P k (Dec.panic : Dec α)) : LoopRules (fun k => fun m _ => P k m) :=
  { h with
    bind₂ := h.bind
    panic := fun k _ => panic k
    withRemaining := fun _ hl => h.bindL remaining fun _ => hl _ _ (Nat.le_refl _) }

namespace LoopRules
variable (h : LoopRules R)
include h

theorem bind₂R {α β : Type} {k : Nat} {m m' : Dec α} {f g : α → Dec β}
    (hm : R k m m') (hf : ∀ a, R 0 (f a) (g a)) : R k (m >>= f) (m' >>= g) :=
  h.bind₂ hm hf

theorem chunkLoop (text : Bool) : ∀ f f', f ≤ f' → R 0 (Dec.chunkLoop text f) (Dec.chunkLoop text f')
  | 0, _, _ => h.panic _ _
  | f + 1, 0, hf => absurd hf (Nat.not_succ_le_zero f)
  | f + 1, f' + 1, hf => h.bind₂R h.current fun _ => ite_pres₂ (h.weaken (h.fmap _ h.read)) <|
      h.bind₂R (h.weaken (h.chunk text)) fun _ => h.bind₂R (chunkLoop text f f' (Nat.le_of_succ_le_succ hf)) fun _ => h.pure _

theorem stringIter (text : Bool) : R 1 (Dec.stringIter text) (Dec.stringIter text) :=
  h.toRules.stringIter text (h.withRemaining 1 (h.chunkLoop text))

theorem skipString (text : Bool) : R 1 (Dec.skipString text) (Dec.skipString text) :=
  h.toRules.skipString text (h.stringIter text)

theorem skipArm (alloc : Bool) (s : SkipSt) : R 1 (Dec.skipArm alloc s) (Dec.skipArm alloc s) :=
  h.toRules.skipArm alloc s h.skipString

theorem skipPost (alloc : Bool) (s : SkipSt) : R 0 (Dec.skipPost alloc s) (Dec.skipPost alloc s) :=
  ite_pres₂ (by split <;> first | exact h.panic _ _ | exact h.pure _) (h.pure _)

theorem skipLoop (alloc : Bool) :
    ∀ f f', f ≤ f' → ∀ s, R 0 (Dec.skipLoop alloc f s) (Dec.skipLoop alloc f' s)
  | 0, _, _, _ => h.panic _ _
  | f + 1, 0, hf, _ => absurd hf (Nat.not_succ_le_zero f)
  | f + 1, f' + 1, hf, s =>
    have ih := skipLoop alloc f f' (Nat.le_of_succ_le_succ hf)
    ite_pres₂ (h.pure _) <| h.bind₂R (h.weaken (h.skipArm alloc s)) fun
      | .cont s' => ih s'
      | .next s' => h.bind₂R (h.skipPost alloc s') fun
        | none => h.pure _
        | some s'' => ih s''

theorem skip (alloc : Bool) : R 0 (Dec.skip alloc) (Dec.skip alloc) :=
  h.withRemaining 2 fun f f' hf => h.skipLoop alloc f f' hf SkipSt.init

end LoopRules

/- `NoPanic m`: on no input does `m` reach a point where the Rust code would panic, nor exhaust the fuel
   of a loop of the model. -/
def NoPanic (m : Dec α) : Prop := ∀ bs, m bs ≠ .panic

theorem bind_ne_panic {m : Dec α} {f : α → Dec β} {bs : Bytes} (hm : m bs ≠ .panic)
    (hf : ∀ a r, m bs = .ok a r → f a r ≠ .panic) : (m >>= f) bs ≠ .panic := by
  rw [Dec.bind_run]
  cases hmb : m bs with
  | ok a r => exact hf a r hmb
  | err e r => simp
  | panic => exact absurd hmb hm

namespace NoPanic

theorem pure (a : α) : NoPanic (Pure.pure a : Dec α) := by intro bs h; cases h
theorem fail (e : Err) : NoPanic (Dec.fail e : Dec α) := by intro bs h; cases h
theorem read : NoPanic Dec.read := by intro bs h; cases bs <;> cases h
theorem current : NoPanic Dec.current := by intro bs h; cases bs <;> cases h
theorem remaining : NoPanic Dec.remaining := by intro bs h; cases h
theorem peek : NoPanic Dec.peek := by
  intro bs h
  match bs with
  | [] => cases h
  | [_] => cases h
  | _ :: _ :: _ => cases h
theorem readSlice (n : Nat) : NoPanic (Dec.readSlice n) := by
  intro bs h; unfold Dec.readSlice at h; split at h <;> cases h

theorem bind {m : Dec α} {f : α → Dec β} (hm : NoPanic m) (hf : ∀ a, NoPanic (f a)) :
    NoPanic (m >>= f) :=
  fun bs => bind_ne_panic (hm bs) fun a r _ => hf a r

/-- `Rules` only: `NoPanic` is no `LoopRules` instance (`LoopRules.of_pred` needs `P panic`), since a
    fuelled loop at fuel 0 is `panic`.  That the loops of the model never run dry is a fact about
    one input at a time (more fuel than bytes left): `AtRules`, Lemmas/Consumes.lean. -/
theorem rules : Rules (fun _ => @NoPanic) :=
  ⟨pure, fun _ => fail, read, current, peek, readSlice, bind, id⟩

end NoPanic

theorem NoPanic.typeMismatch (b : UInt8) : NoPanic (Dec.typeMismatch b : Dec α) := NoPanic.rules.typeMismatch 0 b

theorem _root_.Minicbor.typeMismatch_not_ok (b : UInt8) (bs : Bytes) (v : α) (r : Bytes) :
    (Dec.typeMismatch b : Dec α) bs ≠ .ok v r := by
  unfold Dec.typeMismatch
  rw [Dec.bind_run]
  cases Dec.typeOf b bs <;> simp

theorem NoPanic.intAcc (t : IntTy) : NoPanic (Dec.intAcc t) := NoPanic.rules.intAcc t

end Minicbor.Dec
