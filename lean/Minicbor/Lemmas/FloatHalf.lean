/-
  The two `half` crate conversions.  On the 65 536 binary16 patterns `f16ToF32` is exact, and
  `f32ToF16` takes the image back to the pattern (a NaN comes back with its quiet bit 0x0200 set;
  `f32ToF16_f16ToF32_fields`, whose statement on whole patterns is `C11.half_roundtrip`): a subnormal half
  is normalised through `Nat.log2` and lands in the range where `f32ToF16` shifts it back without rounding.
  On all finite binary32 patterns `f32ToF16` computes `rneBits` (`f32ToF16_sig`, Lemmas/FloatNarrow.lean), hence
  rounds to nearest even.
-/
import Minicbor.Lemmas.FloatWiden
import Minicbor.Lemmas.FloatNarrow

namespace Minicbor

theorem f16ToF32_mk (s e m : Nat) (he : e < 32) (hm : m < 1024) :
    f16ToF32 (s * 32768 + e * 1024 + m) =
      if e = 31 then
        (if m = 0 then s * 2147483648 + 0x7F800000
         else s * 2147483648 + 0x7F800000 + (if m ≥ 512 then m * 8192 else m * 8192 + 0x400000))
      else s * 2147483648 + widenBits 10 23 112 e m := by
  obtain ⟨h1, h2, h3⟩ := fields_of (S := 32768) (by decide) s e m he hm
  unfold f16ToF32 widenBits
  simp only [h1, h2, h3, beq_iff_eq, Bool.and_eq_true, Nat.reducePow, Nat.reduceAdd, Nat.reduceSub]
  by_cases h31 : e = 31
  · simp only [eq_true h31, eq_false (show ¬e = 0 by omega), false_and, if_true, if_false]
  · by_cases h0 : e = 0
    · by_cases hm0 : m = 0
      · simp only [eq_false h31, eq_true h0, eq_true hm0, and_self, if_true, if_false]
        exact (Nat.add_zero _).symm
      · simp only [eq_false h31, eq_true h0, eq_false hm0, and_false, if_true, if_false, Nat.add_assoc]
    · simp only [eq_false h31, eq_false h0, false_and, if_false, Nat.add_assoc]

theorem f16ToF32_fin (e m : Nat) (he : e < 31) (hm : m < 1024) :
    ∃ e' M', widenBits 10 23 112 e m = e' * 8388608 + M' ∧ M' < 16777216 ∧ (e' ≠ 0 → 8388608 ≤ M') ∧ e' < e + 112 ∧
      grid 8388608 925 (e' * 8388608 + M') = grid 1024 1050 (e * 1024 + m) ∧
      rneBits 1024 13 112 142 e' M' = e * 1024 + m := by
  obtain ⟨e', M', h⟩ := widenBits_spec 10 23 112 142 1050 925 e m hm (by decide) (by decide) rfl (by omega)
  exact ⟨e', M', by simpa using h⟩

theorem f16ToF32_exact (h : Nat) (hh : h < 65536) : val32 (f16ToF32 h) = val16 h := by
  obtain ⟨hsplit, hs, he, hm⟩ := split16 h hh
  clear hh  -- with the bound on the whole pattern in sight the `omega`s below do not get through
  generalize h / 32768 = s, h / 1024 % 32 = e, h % 1024 = m at hsplit hs he hm
  subst hsplit
  rw [f16ToF32_mk s e m he hm]
  by_cases he31 : e = 31
  · rw [if_pos he31, val16_mk s e m hs he hm, if_pos he31]
    by_cases hm0 : m = 0
    · subst hm0
      simpa using val32_mk s 255 0 hs (by omega) (by omega)
    · -- a NaN stays a NaN: the payload moves up, the quiet bit is set
      have hnan : ∀ M, M < 8388608 → M ≠ 0 → val32 (s * 2147483648 + 0x7F800000 + M) = .nan := by
        intro M hM hM0
        have := val32_mk s 255 M hs (by omega) hM
        simpa [hM0] using this
      rw [if_neg hm0, if_neg hm0]
      split <;> exact hnan _ (by omega) (by omega)
  · obtain ⟨e', M', hw, hM', -, he', hg, -⟩ := f16ToF32_fin e m (by omega) hm
    rw [if_neg he31, hw, format32.fin s _ hs (by omega), hg, Nat.add_assoc, format16.fin s _ hs (by omega)]

theorem f16ToF32_lt (h : Nat) (hh : h < 65536) : f16ToF32 h < 4294967296 := by
  obtain ⟨hsplit, hs, he, hm⟩ := split16 h hh
  rw [hsplit, f16ToF32_mk _ _ _ he hm]
  by_cases he31 : h / 1024 % 32 = 31
  · rw [if_pos he31]
    repeat' split
    all_goals omega
  · obtain ⟨e', M', hw, hM', -, he', -⟩ := f16ToF32_fin (h / 1024 % 32) _ (by omega) hm
    rw [if_neg he31, hw]
    omega

theorem f32ToF16_f16ToF32_fields (s e m : Nat) (he : e < 32) (hm : m < 1024) :
    f32ToF16 (f16ToF32 (s * 32768 + e * 1024 + m)) =
      if e = 31 ∧ m ≠ 0 ∧ m < 512 then s * 32768 + e * 1024 + m + 512 else s * 32768 + e * 1024 + m := by
  rw [f16ToF32_mk s e m he hm]
  by_cases he31 : e = 31
  · rw [if_pos he31]
    by_cases hm0 : m = 0
    · have := f32ToF16_special s 0 (by omega)
      rw [Nat.add_zero, if_pos rfl] at this
      rw [if_pos hm0, this, if_neg (by omega)]
      omega
    · rw [if_neg hm0]
      split
      all_goals
        rw [f32ToF16_special s _ (by omega), if_neg (by omega)]
        repeat' split
        all_goals omega
  · obtain ⟨e', M', hw, hM', hn', he', -, hr⟩ := f16ToF32_fin e m (by omega) hm
    rw [if_neg he31, hw, f32ToF16_sig s e' M' (by omega) hM' hn', hr, if_neg (by omega), Nat.add_assoc]

end Minicbor

/- The trip a `Token::F16` makes (`half::f16::to_f32`, then `from_f32` in `Encoder::f16`), on whole patterns. -/
namespace Minicbor.C11

def quiet16 (h : Nat) : Nat :=
  if h / 1024 % 32 = 31 ∧ h % 1024 ≠ 0 ∧ h % 1024 < 512 then h + 512 else h

theorem half_roundtrip (h : Nat) (hlt : h < 65536) : f32ToF16 (f16ToF32 h) = quiet16 h := by
  obtain ⟨hsplit, -, he, hm⟩ := split16 h hlt
  have := f32ToF16_f16ToF32_fields (h / 32768) _ _ he hm
  rwa [← hsplit] at this

theorem f16ToF32_quiet (h : Nat) : f16ToF32 (quiet16 h) = f16ToF32 h := by
  unfold quiet16
  split
  · rename_i hs
    obtain ⟨h1, h2, h3⟩ := hs
    have e1 : (h + 512) / 32768 = h / 32768 := by omega
    have e2 : (h + 512) / 1024 % 32 = 31 := by omega
    have e3 : (h + 512) % 1024 = h % 1024 + 512 := by omega
    unfold f16ToF32
    simp only [e1, e2, e3, h1]
    have h4 : ¬ (h % 1024 ≥ 512) := by omega
    simp [h2, h4]
    omega
  · rfl

theorem quiet16_lt (h : Nat) (hlt : h < 65536) : quiet16 h < 65536 := by
  unfold quiet16; split <;> omega

theorem quiet16_of_not_snan (h : Nat) (hn : ¬ (h / 1024 % 32 = 31 ∧ h % 1024 ≠ 0 ∧ h % 1024 < 512)) :
    quiet16 h = h := by
  unfold quiet16; rw [if_neg hn]

theorem half_roundtrip_not_nan (h : Nat) (hlt : h < 65536) (hn : isNan16 h = false) :
    f32ToF16 (f16ToF32 h) = h := by
  rw [half_roundtrip h hlt, quiet16_of_not_snan]
  intro ⟨h1, h2, _⟩
  simp [isNan16, h1, h2] at hn

end Minicbor.C11

/- `Encoder::f16` (`f32ToF16`) on every `f32` argument, not only the half-representable ones: the result is a
   16-bit pattern (so `f9 hh hh` is a well-formed half float) and never a signalling NaN (the conversion sets the
   quiet bit), i.e. it is fixed by `quiet16`. -/
namespace Minicbor

theorem f32ToF16_range (x : Nat) (hx : x < 4294967296) :
    ∃ s R, s < 2 ∧ f32ToF16 x = s * 32768 + R ∧ (R ≤ 0x7C00 ∨ (0x7E00 ≤ R ∧ R < 0x8000)) := by
  obtain ⟨hsplit, hs, he, hm⟩ := split32 x hx
  by_cases he255 : x / 8388608 % 256 = 255
  · have hx' : x = x / 2147483648 * 2147483648 + 0x7F800000 + x % 8388608 := by omega
    rw [hx', f32ToF16_special _ _ hm]
    split
    · exact ⟨_, 0x7C00, hs, rfl, Or.inl (Nat.le_refl _)⟩
    · refine ⟨_, 0x7C00 + _, hs, Nat.add_assoc _ _ _, Or.inr ?_⟩
      split <;> omega
  · obtain ⟨s, e, M, hs', hM, hn, hle, rfl, -⟩ := sig_view format32.pos format32.fin x hx (by omega)
    rw [f32ToF16_sig s e M (by omega) hM hn]
    exact ⟨s, _, hs', rfl, Or.inl (format16.le_inf (f32ToF16_rounds e M hM hn))⟩

theorem f32ToF16_lt (x : Nat) (hx : x < 4294967296) : f32ToF16 x < 65536 := by
  obtain ⟨s, R, hs, h, hR⟩ := f32ToF16_range x hx
  omega

theorem f32ToF16_quiet (x : Nat) (hx : x < 4294967296) : C11.quiet16 (f32ToF16 x) = f32ToF16 x := by
  apply C11.quiet16_of_not_snan
  obtain ⟨s, R, hs, h, hR⟩ := f32ToF16_range x hx
  omega

end Minicbor
