/-
  The slot loops of the generated decoder on a body given as arbitrary item encodings
  (`X i` for the array cells, `(key bytes, item bytes)` for the map entries), in definite and
  indefinite-length containers: the generic engine behind C09's re-framed input and, at the writer's own
  framing, C10's other version (Lemmas/DeriveCompat.lean).  Each item is
  described by `StepH`: either no field has that index and `skip()` crosses
  the item, or the field's action delivers `ρ`.  A map body may repeat a key
  (`mapLoopN_entries`, `mapLoopI_entries`): `ρ` is per key, the later entry delivers the same.
-/
import Minicbor.Lemmas.DeriveSlots

namespace Minicbor.Derive
open Minicbor.Dec

/-- the bytes of the cells `c .. c+n-1` of an array body, `X i` being the item at position `i`. -/
def catX (X : Nat → Bytes) (c n : Nat) : Bytes := ((List.range' c n).map X).flatten

theorem catX_zero (X : Nat → Bytes) (c : Nat) : catX X c 0 = [] := by simp [catX]

theorem catX_succ (X : Nat → Bytes) (c n : Nat) : catX X c (n + 1) = X c ++ catX X (c + 1) n := by
  simp [catX, List.range'_succ]

theorem ovr_zero (σ ρ : Nat → Option Val) (c i : Nat) : ovr σ ρ c 0 i = σ i := by
  have : ¬ (c ≤ i ∧ i < c + 0) := by omega
  simp [ovr]; omega

theorem ovr_step (σ ρ : Nat → Option Val) (c n i : Nat) :
    ovr (updR σ c (ρ c)) ρ (c + 1) n i = ovr σ ρ c (n + 1) i := by
  simp only [ovr, updR, Bool.and_eq_true, decide_eq_true_eq, beq_iff_eq]
  by_cases hic : i = c
  · subst hic
    rw [if_neg (by omega), if_pos rfl, if_pos (by omega)]
  · rw [if_neg hic]
    by_cases h : c + 1 ≤ i ∧ i < c + 1 + n
    · rw [if_pos h, if_pos (by omega)]
    · rw [if_neg h, if_neg (by omega)]

theorem arrLoopN_X (rest : Bytes) (gs : Fields) (X : Nat → Bytes) (ρ : Nat → Option Val)
    (hnd : (liveIdxs gs).Nodup) :
    ∀ (n c : Nat) (ss : Slots) (σ : Nat → Option Val), InvR σ gs ss →
    (∀ i, c ≤ i → i < c + n → StepH gs (ρ i) i (X i)) →
    ∃ ss', arrLoopN (decFields gs) n c ss (catX X c n ++ rest) = .ok ss' rest ∧ InvR (ovr σ ρ c n) gs ss'
  | 0, c, ss, σ, hi, _ => by
    refine ⟨ss, by simp [arrLoopN, catX_zero], invR_congr gs ss (fun i _ => (ovr_zero σ ρ c i).symm) hi⟩
  | n + 1, c, ss, σ, hi, hstep => by
    obtain ⟨ss1, h1, hi1⟩ := runAtR_step σ c (X c) (catX X (c + 1) n ++ rest) (ρ c) gs ss hnd hi
      (hstep c (Nat.le_refl _) (by omega))
    obtain ⟨ss2, h2, hi2⟩ := arrLoopN_X rest gs X ρ hnd n (c + 1) ss1 _ hi1
      (fun i h1 h2 => hstep i (by omega) (by omega))
    refine ⟨ss2, ?_, invR_congr gs ss2 (fun i _ => ovr_step σ ρ c n i) hi2⟩
    rw [catX_succ, List.append_assoc]
    simp only [arrLoopN]
    rw [Dec.bind_run, h1]
    exact h2

theorem arrLoopI_X (rest : Bytes) (gs : Fields) (X : Nat → Bytes) (ρ : Nat → Option Val)
    (hnd : (liveIdxs gs).Nodup) :
    ∀ (n c : Nat) (ss : Slots) (σ : Nat → Option Val) (fuel : Nat), n < fuel → InvR σ gs ss →
    (∀ i, c ≤ i → i < c + n → StepH gs (ρ i) i (X i)) →
    (∀ i, c ≤ i → i < c + n → startNB (X i) = true) →
    ∃ ss', arrLoopI (decFields gs) fuel c ss (catX X c n ++ 0xff :: rest) = .ok ss' rest ∧ InvR (ovr σ ρ c n) gs ss'
  | 0, c, ss, σ, fuel + 1, _, hi, _, _ => by
    refine ⟨ss, ?_, invR_congr gs ss (fun i _ => (ovr_zero σ ρ c i).symm) hi⟩
    simp only [catX_zero, List.nil_append, arrLoopI]
    rw [Dec.bind_run, datatype_break]
    simp only [beq_self_eq_true, if_true]
    rw [Dec.bind_run, skip_break]
    rfl
  | n + 1, c, ss, σ, fuel + 1, hf, hi, hstep, hst => by
    obtain ⟨ty, hdt, hnb⟩ := datatype_startNB (X c) (catX X (c + 1) n ++ 0xff :: rest) (hst c (Nat.le_refl _) (by omega))
    obtain ⟨ss1, h1, hi1⟩ := runAtR_step σ c (X c) (catX X (c + 1) n ++ 0xff :: rest) (ρ c) gs ss hnd hi
      (hstep c (Nat.le_refl _) (by omega))
    obtain ⟨ss2, h2, hi2⟩ := arrLoopI_X rest gs X ρ hnd n (c + 1) ss1 _ fuel (by omega) hi1
      (fun i h1 h2 => hstep i (by omega) (by omega)) (fun i h1 h2 => hst i (by omega) (by omega))
    refine ⟨ss2, ?_, invR_congr gs ss2 (fun i _ => ovr_step σ ρ c n i) hi2⟩
    rw [catX_succ, List.append_assoc]
    simp only [arrLoopI]
    rw [Dec.bind_run, hdt]
    have : (ty == CType.break) = false := by simpa using hnb
    simp only [this, Bool.false_eq_true, if_false]
    rw [Dec.bind_run, h1]
    exact h2
  | _, _, _, _, 0, hf, _, _, _ => by omega

theorem catX_length_ge (X : Nat → Bytes) : ∀ (n c : Nat), (∀ i, c ≤ i → i < c + n → 1 ≤ (X i).length) →
    n ≤ (catX X c n).length
  | 0, _, _ => by simp
  | n + 1, c, h => by
    rw [catX_succ, List.length_append]
    have := catX_length_ge X n (c + 1) (fun i h1 h2 => h i (by omega) (by omega))
    have := h c (Nat.le_refl _) (by omega)
    omega

/-- definite container (any head `H` that `array()` reads as `n`). -/
theorem fieldsDec_arrN (gs : Fields) (ρ : Nat → Option Val) (H : Bytes) (n : Nat) (X : Nat → Bytes) (rest : Bytes)
    (hnd : (liveIdxs gs).Nodup) (hH : ∀ r, Dec.array (H ++ r) = .ok (some n) r)
    (hstep : ∀ i, i < n → StepH gs (ρ i) i (X i))
    (hopt : ∀ b u, (b, u) ∈ gs → b.skip = false → ovr (fun _ => none) ρ 0 n b.idx = none → slotInit u = none →
      (nilOf b u).isSome = true) :
    fieldsDec .array (decFields gs) (H ++ (catX X 0 n ++ rest)) = .ok (readerVals (ovr (fun _ => none) ρ 0 n) gs) rest := by
  obtain ⟨ss', h1, hi1⟩ := arrLoopN_X rest gs X ρ hnd n 0 _ _ (invR_init gs) (fun i _ h2 => hstep i (by omega))
  have hres := resolveR _ gs ss' hi1 hopt rest
  simp only [fieldsDec, statements, Dec.bind_run, hH, h1, hres]

/-- indefinite-length container (`9f … ff`). -/
theorem fieldsDec_arrI (gs : Fields) (ρ : Nat → Option Val) (n : Nat) (X : Nat → Bytes) (rest : Bytes)
    (hnd : (liveIdxs gs).Nodup)
    (hstep : ∀ i, i < n → StepH gs (ρ i) i (X i)) (hst : ∀ i, i < n → startNB (X i) = true)
    (hopt : ∀ b u, (b, u) ∈ gs → b.skip = false → ovr (fun _ => none) ρ 0 n b.idx = none → slotInit u = none →
      (nilOf b u).isSome = true) :
    fieldsDec .array (decFields gs) (0x9f :: (catX X 0 n ++ 0xff :: rest))
      = .ok (readerVals (ovr (fun _ => none) ρ 0 n) gs) rest := by
  have hlen := catX_length_ge X n 0 (fun i _ h2 => startNB_length _ (hst i (by omega)))
  obtain ⟨ss', h1, hi1⟩ := arrLoopI_X rest gs X ρ hnd n 0 _ _ ((catX X 0 n ++ 0xff :: rest).length + 1)
    (by simp only [List.length_append]; omega) (invR_init gs) (fun i _ h2 => hstep i (by omega))
    (fun i _ h2 => hst i (by omega))
  have hres := resolveR _ gs ss' hi1 hopt rest
  simp only [fieldsDec, statements, Dec.bind_run, C04.array_indef, Dec.remaining, h1, hres]

/-- an entry on the wire: the field index, the bytes of the key, the bytes of the item. -/
abbrev Entry := Nat × Bytes × Bytes

/-- the bytes of a map body: entry by entry, the key and then the item. -/
def catE : List Entry → Bytes
  | [] => []
  | e :: es => e.2.1 ++ (e.2.2 ++ catE es)

/-- `σ` after the entries with the keys `ks`. -/
def ovrE (σ : Nat → Option Val) (ρ : Nat → Option Val) (ks : List Nat) : Nat → Option Val :=
  fun i => if ks.contains i then (match ρ i with | some pv => some pv | none => σ i) else σ i

theorem ovrE_step (σ ρ : Nat → Option Val) (k : Nat) (ks : List Nat) (i : Nat) :
    ovrE (updR σ k (ρ k)) ρ ks i = ovrE σ ρ (k :: ks) i := by
  simp only [ovrE, updR, List.contains_cons]
  by_cases hik : i = k
  · subst hik
    simp only [beq_self_eq_true, if_true, Bool.true_or]
    -- a key that occurs again delivers the same `ρ i`
    cases ks.contains i <;> cases ρ i <;> rfl
  · have hb : (i == k) = false := by simpa using hik
    simp [hb]

theorem mapLoopN_entries (rest : Bytes) (gs : Fields) (ρ : Nat → Option Val) (hnd : (liveIdxs gs).Nodup) :
    ∀ (E : List Entry) (ss : Slots) (σ : Nat → Option Val), InvR σ gs ss →
    (∀ e ∈ E, ∀ r, Dec.intAcc .u32 (e.2.1 ++ r) = .ok (e.1 : Int) r) →
    (∀ e ∈ E, StepH gs (ρ e.1) e.1 e.2.2) →
    ∃ ss', mapLoopN (decFields gs) E.length ss (catE E ++ rest) = .ok ss' rest ∧ InvR (ovrE σ ρ (E.map (·.1))) gs ss'
  | [], ss, σ, hi, _, _ => by
    refine ⟨ss, by simp [mapLoopN, catE], invR_congr gs ss (fun i _ => by simp [ovrE]) hi⟩
  | e :: E, ss, σ, hi, hkey, hstep => by
    obtain ⟨ss1, h1, hi1⟩ := runAtR_step σ e.1 e.2.2 (catE E ++ rest) (ρ e.1) gs ss hnd hi (hstep e (by simp))
    obtain ⟨ss2, h2, hi2⟩ := mapLoopN_entries rest gs ρ hnd E ss1 _ hi1 (fun q hq => hkey q (by simp [hq]))
      (fun q hq => hstep q (by simp [hq]))
    refine ⟨ss2, ?_, invR_congr gs ss2 (fun i _ => ?_) hi2⟩
    · simp only [List.length_cons, mapLoopN, catE, List.append_assoc]
      rw [Dec.bind_run, hkey e (by simp)]
      simp only [Int.toNat_natCast]
      rw [Dec.bind_run, h1]
      exact h2
    · simpa using ovrE_step σ ρ e.1 (E.map (·.1)) i

theorem mapLoopN_E (rest : Bytes) (gs : Fields) (ρ : Nat → Option Val) (hnd : (liveIdxs gs).Nodup) :
    ∀ (E : List Entry) (ss : Slots) (σ : Nat → Option Val), InvR σ gs ss → (E.map (·.1)).Nodup →
    (∀ e ∈ E, ∀ r, Dec.intAcc .u32 (e.2.1 ++ r) = .ok (e.1 : Int) r) →
    (∀ e ∈ E, StepH gs (ρ e.1) e.1 e.2.2) →
    ∃ ss', mapLoopN (decFields gs) E.length ss (catE E ++ rest) = .ok ss' rest ∧ InvR (ovrE σ ρ (E.map (·.1))) gs ss' :=
  fun E ss σ hi _ hkey hstep => mapLoopN_entries rest gs ρ hnd E ss σ hi hkey hstep

theorem mapLoopI_entries (rest : Bytes) (gs : Fields) (ρ : Nat → Option Val) (hnd : (liveIdxs gs).Nodup) :
    ∀ (E : List Entry) (ss : Slots) (σ : Nat → Option Val) (fuel : Nat), E.length < fuel → InvR σ gs ss →
    (∀ e ∈ E, ∀ r, Dec.intAcc .u32 (e.2.1 ++ r) = .ok (e.1 : Int) r) → (∀ e ∈ E, startNB e.2.1 = true) →
    (∀ e ∈ E, StepH gs (ρ e.1) e.1 e.2.2) →
    ∃ ss', mapLoopI (decFields gs) fuel ss (catE E ++ 0xff :: rest) = .ok ss' rest ∧ InvR (ovrE σ ρ (E.map (·.1))) gs ss'
  | [], ss, σ, fuel + 1, _, hi, _, _, _ => by
    refine ⟨ss, ?_, invR_congr gs ss (fun i _ => by simp [ovrE]) hi⟩
    simp only [catE, List.nil_append, mapLoopI]
    rw [Dec.bind_run, datatype_break]
    simp only [beq_self_eq_true, if_true]
    rw [Dec.bind_run, skip_break]
    rfl
  | e :: E, ss, σ, fuel + 1, hf, hi, hkey, hst, hstep => by
    obtain ⟨ty, hdt, hnb⟩ := datatype_startNB e.2.1 (e.2.2 ++ (catE E ++ 0xff :: rest)) (hst e (by simp))
    obtain ⟨ss1, h1, hi1⟩ := runAtR_step σ e.1 e.2.2 (catE E ++ 0xff :: rest) (ρ e.1) gs ss hnd hi (hstep e (by simp))
    obtain ⟨ss2, h2, hi2⟩ := mapLoopI_entries rest gs ρ hnd E ss1 _ fuel (by simp at hf; omega) hi1
      (fun q hq => hkey q (by simp [hq])) (fun q hq => hst q (by simp [hq])) (fun q hq => hstep q (by simp [hq]))
    refine ⟨ss2, ?_, invR_congr gs ss2 (fun i _ => ?_) hi2⟩
    · simp only [mapLoopI, catE, List.append_assoc]
      rw [Dec.bind_run, hdt]
      have : (ty == CType.break) = false := by simpa using hnb
      simp only [this, Bool.false_eq_true, if_false]
      rw [Dec.bind_run, hkey e (by simp)]
      simp only [Int.toNat_natCast]
      rw [Dec.bind_run, h1]
      exact h2
    · simpa using ovrE_step σ ρ e.1 (E.map (·.1)) i
  | _, _, _, 0, hf, _, _, _, _ => by omega

theorem mapLoopI_E (rest : Bytes) (gs : Fields) (ρ : Nat → Option Val) (hnd : (liveIdxs gs).Nodup) :
    ∀ (E : List Entry) (ss : Slots) (σ : Nat → Option Val) (fuel : Nat), E.length < fuel → InvR σ gs ss →
    (E.map (·.1)).Nodup →
    (∀ e ∈ E, ∀ r, Dec.intAcc .u32 (e.2.1 ++ r) = .ok (e.1 : Int) r) → (∀ e ∈ E, startNB e.2.1 = true) →
    (∀ e ∈ E, StepH gs (ρ e.1) e.1 e.2.2) →
    ∃ ss', mapLoopI (decFields gs) fuel ss (catE E ++ 0xff :: rest) = .ok ss' rest ∧ InvR (ovrE σ ρ (E.map (·.1))) gs ss' :=
  fun E ss σ fuel hf hi _ hkey hst hstep => mapLoopI_entries rest gs ρ hnd E ss σ fuel hf hi hkey hst hstep

theorem catE_length_ge : ∀ (E : List Entry), (∀ e ∈ E, 1 ≤ e.2.1.length) → E.length ≤ (catE E).length
  | [], _ => by simp
  | e :: E, h => by
    simp only [catE, List.length_append, List.length_cons]
    have := catE_length_ge E (fun q hq => h q (by simp [hq]))
    have := h e (by simp)
    omega

theorem fieldsDec_mapN (gs : Fields) (ρ : Nat → Option Val) (H : Bytes) (E : List Entry) (rest : Bytes)
    (hnd : (liveIdxs gs).Nodup) (hH : ∀ r, Dec.map (H ++ r) = .ok (some E.length) r)
    (hkey : ∀ e ∈ E, ∀ r, Dec.intAcc .u32 (e.2.1 ++ r) = .ok (e.1 : Int) r)
    (hstep : ∀ e ∈ E, StepH gs (ρ e.1) e.1 e.2.2)
    (hopt : ∀ b u, (b, u) ∈ gs → b.skip = false → ovrE (fun _ => none) ρ (E.map (·.1)) b.idx = none → slotInit u = none →
      (nilOf b u).isSome = true) :
    fieldsDec .map (decFields gs) (H ++ (catE E ++ rest)) = .ok (readerVals (ovrE (fun _ => none) ρ (E.map (·.1))) gs) rest := by
  obtain ⟨ss', h1, hi1⟩ := mapLoopN_entries rest gs ρ hnd E _ _ (invR_init gs) hkey hstep
  have hres := resolveR _ gs ss' hi1 hopt rest
  simp only [fieldsDec, statements, Dec.bind_run, hH, h1, hres]

/-- indefinite-length container (`bf … ff`). -/
theorem fieldsDec_mapI (gs : Fields) (ρ : Nat → Option Val) (E : List Entry) (rest : Bytes)
    (hnd : (liveIdxs gs).Nodup)
    (hkey : ∀ e ∈ E, ∀ r, Dec.intAcc .u32 (e.2.1 ++ r) = .ok (e.1 : Int) r) (hst : ∀ e ∈ E, startNB e.2.1 = true)
    (hstep : ∀ e ∈ E, StepH gs (ρ e.1) e.1 e.2.2)
    (hopt : ∀ b u, (b, u) ∈ gs → b.skip = false → ovrE (fun _ => none) ρ (E.map (·.1)) b.idx = none → slotInit u = none →
      (nilOf b u).isSome = true) :
    fieldsDec .map (decFields gs) (0xbf :: (catE E ++ 0xff :: rest))
      = .ok (readerVals (ovrE (fun _ => none) ρ (E.map (·.1))) gs) rest := by
  have hlen := catE_length_ge E (fun e he => startNB_length _ (hst e he))
  obtain ⟨ss', h1, hi1⟩ := mapLoopI_entries rest gs ρ hnd E _ _ ((catE E ++ 0xff :: rest).length + 1)
    (by simp only [List.length_append]; omega) (invR_init gs) hkey hst hstep
  have hres := resolveR _ gs ss' hi1 hopt rest
  simp only [fieldsDec, statements, Dec.bind_run, C04.map_indef, Dec.remaining, h1, hres]

end Minicbor.Derive
