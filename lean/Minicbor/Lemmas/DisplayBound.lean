/-
  The two loops of the diagnostic printer terminate, and the size of what they write is bounded
  by a potential function.
  `phi st it` = what the configuration can still write without returning early: the pending
  separators / closers on the stack (`sw`) plus a cost per remaining token (`tc` = the size of its
  own rendering + 5).  The 5 pays for what a consumed token lets the printer push: an expansion puts
  up to four bytes of separators on the stack, but always under an `E::N`, which is charged for them
  (`-4` when `N` is on top) because its next iteration consumes a token or — after commit 7258571 —
  returns.
  `Iter` sorts what an iteration does into five kinds: four go on, each decreasing `mu` and satisfying
  `size(emitted) + phi(after) ≤ phi(before)`; the fifth returns early, having written at most `STOP_MAX`.
-/
import Minicbor.Lemmas.DisplayStep
import Minicbor.Lemmas.DisplaySpec

namespace Minicbor
open C19

@[simp] theorem renderedLength_nil : renderedLength [] = 0 := rfl
@[simp] theorem renderedLength_cons (p : Piece) (ps : List Piece) :
    renderedLength (p :: ps) = Piece.rlen p + renderedLength ps := rfl

theorem renderedLength_append (a b : List Piece) :
    renderedLength (a ++ b) = renderedLength a + renderedLength b := by
  induction a with
  | nil => simp
  | cons p ps ih => simp [ih]; omega

def tc : TokItem → Nat
  | .tok t => renderedLength t.render + 5
  | .err _ => 5

def tcs : List TokItem → Nat
  | [] => 0
  | x :: it => tc x + tcs it

def sw : E → Nat
  | .S s => s.length
  | .X s => s.length
  | .A (some _) => 1
  | .M (some _) => 1
  | .T => 1
  | _ => 0

def sws : List E → Nat
  | [] => 0
  | e :: st => sw e + sws st

theorem sws_append (a b : List E) : sws (a ++ b) = sws a + sws b := by
  induction a with
  | nil => simp [sws]
  | cons x m ih => simp only [List.cons_append, sws, ih]; omega

theorem tc_ge (x : TokItem) : 5 ≤ tc x := by cases x <;> simp [tc]

theorem tcs_suffix {a b : List TokItem} (h : a <:+ b) : tcs a ≤ tcs b := by
  obtain ⟨p, rfl⟩ := h
  induction p with
  | nil => exact Nat.le_refl _
  | cons x p ih => exact Nat.le_trans ih (Nat.le_add_left _ _)

/-- An upper bound that the kernel evaluates several times faster than `String.length` of a
    literal (no decoding of the bytes back into characters). -/
theorem String.length_le_utf8ByteSize (s : String) : s.length ≤ s.utf8ByteSize := by
  rw [← String.ofList_toList (s := s)]
  generalize s.toList = l
  induction l with
  | nil => simp
  | cons c l ih =>
    rw [String.ofList_cons, String.utf8ByteSize_append, String.utf8ByteSize_singleton,
      String.length_append, String.length_singleton]
    have := c.utf8Size_pos
    omega

/-! lengths of the literals the printer writes (`simp` does not evaluate `String.length`) -/
theorem toString_str (s : String) : toString s = s := rfl
@[simp] theorem len_lb : "[".length = 1 := by decide
@[simp] theorem len_rb : "]".length = 1 := by decide
@[simp] theorem len_lc : "{".length = 1 := by decide
@[simp] theorem len_rc : "}".length = 1 := by decide
@[simp] theorem len_lp : "(".length = 1 := by decide
@[simp] theorem len_rp : ")".length = 1 := by decide
@[simp] theorem len_lbi : "[_ ".length = 3 := by decide
@[simp] theorem len_lci : "{_ ".length = 3 := by decide
@[simp] theorem len_lpi : "(_ ".length = 3 := by decide
@[simp] theorem len_eb : "''_".length = 3 := by decide
@[simp] theorem len_es : "\"\"_".length = 3 := by decide
@[simp] theorem len_qB : "?B[".length = 3 := by decide
@[simp] theorem len_qS : "?S[".length = 3 := by decide
@[simp] theorem len_qA : "?A[".length = 3 := by decide
@[simp] theorem len_qM : "?M[".length = 3 := by decide
@[simp] theorem len_A : "A[".length = 2 := by decide
@[simp] theorem len_M : "M[".length = 2 := by decide
@[simp] theorem len_T : "T(".length = 2 := by decide
@[simp] theorem len_cs : ", ".length = 2 := by decide
@[simp] theorem len_col : ": ".length = 2 := by decide
@[simp] theorem len_err : " !!! decoding error: ".length = 21 := by decide

/-- the most an early `return` writes: ` !!! decoding error: ` and the error text, or one of the
    "not closed" messages. -/
def STOP_MAX : Nat := 21 + ERR_CHARGE

/-- what an iteration that pops `e` off `st`, facing `it`, does. -/
inductive Iter : E → List E → List TokItem → DStep → Prop
  | expand {e st it} (more : List E) : e ≠ .N → more.length ≤ 4 → sws more ≤ sw e + 4 →
      Iter e st it (.cont (.N :: (more ++ st)) it [])
  | pop {e st it em} : e ≠ .N → renderedLength em ≤ sw e → Iter e st it (.cont st it em)
  /-- an indefinite marker meets its `break` -/
  | close {e st it em} : e ≠ .N → renderedLength em ≤ 1 → Iter e st (.tok .brk :: it) (.cont st it em)
  /-- `N` consumes a token (and the `break` of an empty chunked string with it): what it writes and
      the at most one element it pushes are within the token's own rendering -/
  | token {t st it it' em} (p : List E) : p.length ≤ 1 → it' <:+ it →
      renderedLength em + sws p ≤ renderedLength t.render + 1 →
      Iter .N st (.tok t :: it) (.cont (p ++ st) it' em)
  | stop {e st it em} : renderedLength em ≤ STOP_MAX → Iter e st it (.stop em)

theorem nstep_iter (t : Token) (st : List E) (it : List TokItem) : Iter .N st (.tok t :: it) (nstep t st it) := by
  have sfx : it.tail <:+ it := List.tail_suffix it
  cases t
  case beginBytes =>
    simp only [nstep]
    split
    · exact .token [] (by simp) sfx (by simp [Token.render, Piece.rlen, sws])
    · exact .token [.B] (by simp) (List.suffix_refl _) (by simp [Token.render, Piece.rlen, sws, sw])
  case beginString =>
    simp only [nstep]
    split
    · exact .token [] (by simp) sfx (by simp [Token.render, Piece.rlen, sws])
    · exact .token [.D] (by simp) (List.suffix_refl _) (by simp [Token.render, Piece.rlen, sws, sw])
  case array n =>
    exact .token [.A (some n)] (by simp) (List.suffix_refl _)
      (by simp [Token.render, Piece.rlen, sws, sw, String.length_append, toString_str])
  case map n =>
    exact .token [.M (some n)] (by simp) (List.suffix_refl _)
      (by simp [Token.render, Piece.rlen, sws, sw, String.length_append, toString_str])
  case beginArray =>
    exact .token [.A none] (by simp) (List.suffix_refl _) (by simp [Token.render, Piece.rlen, sws, sw])
  case beginMap =>
    exact .token [.M none] (by simp) (List.suffix_refl _) (by simp [Token.render, Piece.rlen, sws, sw])
  case tag n =>
    exact .token [.T] (by simp) (List.suffix_refl _)
      (by simp [Token.render, Piece.rlen, sws, sw, String.length_append, toString_str])
  all_goals exact .token [] (by simp) (List.suffix_refl _) (by simp [sws])

theorem indefStep_iter {e : E} {msg close : String} {more st : List E} {it : List TokItem} (he : e ≠ .N)
    (hl : more.length ≤ 4) (hs : sws more ≤ sw e + 4) (hc : close.length ≤ 1) (hm : msg.utf8ByteSize ≤ 38) :
    Iter e st it (indefStep msg close (.N :: more) st it) := by
  unfold indefStep
  split
  · have := String.length_le_utf8ByteSize msg
    exact .stop (by simp [Piece.rlen, STOP_MAX, ERR_CHARGE]; omega)
  · exact .close he (by simpa [Piece.rlen] using hc)
  · exact .expand more he hl hs

theorem stop_err (e : Err) : renderedLength [.lit " !!! decoding error: ", .errmsg e] ≤ STOP_MAX := by
  simp [Piece.rlen, STOP_MAX]

theorem dstep_iter (e : E) (st : List E) (it : List TokItem) : Iter e st it (dstep e st it) := by
  cases e with
  | N =>
    rcases it with _ | ⟨t | e, it1⟩
    · exact .stop (stop_err _)
    · exact nstep_iter t st it1
    · exact .stop (stop_err _)
  | S s => exact .pop (by simp) (by simp [sw, Piece.rlen])
  | X s =>
    simp only [dstep]
    split
    · exact .pop (by simp) (by simp [sw])
    · exact .pop (by simp) (by simp [sw])
    · exact .pop (by simp) (by simp [sw, Piece.rlen])
    · exact .stop (stop_err _)
  | T => exact .expand [.S ")"] (by simp) (by simp) (by simp [sws, sw])
  | A n =>
    match n with
    | none => exact indefStep_iter (by simp) (by simp) (by simp [sws, sw]) (by simp) (by decide)
    | some 0 => exact .pop (by simp) (by simp [sw, Piece.rlen])
    | some 1 => exact .expand [.A (some 0)] (by simp) (by simp) (by simp [sws, sw])
    | some (n + 2) => exact .expand [.S ", ", .A (some (n + 1))] (by simp) (by simp) (by simp [sws, sw])
  | M n =>
    match n with
    | none => exact indefStep_iter (by simp) (by simp) (by simp [sws, sw]) (by simp) (by decide)
    | some 0 => exact .pop (by simp) (by simp [sw, Piece.rlen])
    | some 1 => exact .expand [.S ": ", .N, .M (some 0)] (by simp) (by simp) (by simp [sws, sw])
    | some (n + 2) =>
      exact .expand [.S ": ", .N, .S ", ", .M (some (n + 1))] (by simp) (by simp) (by simp [sws, sw])
  | B => exact indefStep_iter (by simp) (by simp) (by simp [sws, sw]) (by simp) (by decide)
  | D => exact indefStep_iter (by simp) (by simp) (by simp [sws, sw]) (by simp) (by decide)

/- `mu st it` bounds the iterations the inner loop can still make: every iteration removes a stack element
   or a token, except the expansions (`T`, `A(Some n)`, `M(Some n)` and the indefinite markers), which push
   up to five elements for the one they pop, but always with `E::N` on top, whose very next iteration
   consumes a token or returns.  So the `N` on top of the stack carries a credit of five. -/

def mu (st : List E) (it : List TokItem) : Nat :=
  match st with
  | .N :: st' =>
    match it with
    | [] => 0
    | _ :: it' => st'.length + 6 * it'.length + 2
  | _ => st.length + 6 * it.length

theorem mu_le (st : List E) (it : List TokItem) : mu st it ≤ st.length + 6 * it.length := by
  unfold mu
  split
  · split <;> simp only [List.length_cons, List.length_nil] <;> omega
  · omega

theorem mu_N_cons (st : List E) (x : TokItem) (it : List TokItem) :
    mu (.N :: st) (x :: it) = st.length + 6 * it.length + 2 := rfl

theorem mu_N_le (st : List E) (it : List TokItem) : mu (.N :: st) it + 4 ≤ st.length + 6 * it.length ∨ it = [] := by
  cases it with
  | nil => right; rfl
  | cons x it => left; rw [mu_N_cons]; simp only [List.length_cons]; omega

theorem mu_notN {e : E} (h : e ≠ .N) (st : List E) (it : List TokItem) :
    mu (e :: st) it = st.length + 1 + 6 * it.length := by
  cases e <;> first | exact absurd rfl h | rfl

theorem mu_expand (more st : List E) (it : List TokItem) (hm : more.length ≤ 4) :
    mu (.N :: (more ++ st)) it < st.length + 1 + 6 * it.length := by
  cases it with
  | nil => show 0 < _; omega
  | cons x it => rw [mu_N_cons]; simp only [List.length_append, List.length_cons]; omega

theorem Iter.mu_lt {e : E} {st : List E} {it : List TokItem} {st' it' : _} {em : List Piece}
    (h : Iter e st it (.cont st' it' em)) : mu st' it' < mu (e :: st) it := by
  cases h with
  | expand more he hl _ => rw [mu_notN he]; exact mu_expand more st it hl
  | pop he _ => rw [mu_notN he]; have := mu_le st it; omega
  | close he _ => rw [mu_notN he]; have := mu_le st it'; simp only [List.length_cons]; omega
  | token p hp hi _ =>
    have h1 := mu_le (p ++ st) it'
    have := hi.length_le
    rw [mu_N_cons]; simp only [List.length_append] at h1; omega

def phi (st : List E) (it : List TokItem) : Nat :=
  match st with
  | .N :: st' =>
    match it with
    | [] => 0
    | x :: it' => sws st' + (tc x - 4) + tcs it'
  | _ => sws st + tcs it

theorem phi_le (st : List E) (it : List TokItem) : phi st it ≤ sws st + tcs it := by
  unfold phi
  split
  · split
    · simp
    · rename_i x it'; have := tc_ge x; simp only [sws, sw, tcs]; omega
  · exact Nat.le_refl _

theorem phi_N_cons (st : List E) (x : TokItem) (it : List TokItem) :
    phi (.N :: st) (x :: it) + 4 = sws st + tc x + tcs it := by
  have := tc_ge x
  simp only [phi]; omega

theorem phi_notN {e : E} (h : e ≠ .N) (st : List E) (it : List TokItem) :
    phi (e :: st) it = sw e + sws st + tcs it := by
  cases e <;> first | exact absurd rfl h | rfl

theorem Iter.phi_le {e : E} {st : List E} {it : List TokItem} {st' it' : _} {em : List Piece}
    (h : Iter e st it (.cont st' it' em)) : renderedLength em + phi st' it' ≤ phi (e :: st) it := by
  cases h with
  | expand more he _ hs =>
    rw [phi_notN he]
    cases it with
    | nil => simp [phi]
    | cons x it =>
      have := phi_N_cons (more ++ st) x it
      rw [sws_append] at this
      simp only [tcs, renderedLength_nil]; omega
  | pop he hw => rw [phi_notN he]; have := Minicbor.phi_le st it; omega
  | close he hw =>
    rw [phi_notN he]; have := Minicbor.phi_le st it'
    simp only [tcs, tc, Token.render, renderedLength_cons, renderedLength_nil, Piece.rlen, len_rb]; omega
  | @token t _ it1 _ _ p _ hi hw =>
    have := Minicbor.phi_le (p ++ st) it'
    have := tcs_suffix hi
    have := phi_N_cons st (.tok t) it1
    rw [sws_append] at *
    simp only [tc] at *; omega

/-- what the inner loop appends is paid by the potential (plus `STOP_MAX` when it returns early), what
    it leaves in the iterator still being paid for. -/
theorem displayInner_spec (fuel : Nat) (st : List E) (it : List TokItem) (out : List Piece)
    (h : mu st it < fuel) :
    ∃ ex it' b, displayInner fuel st it out = some (out ++ ex, it', b) ∧ 6 * it'.length ≤ mu st it ∧
      renderedLength ex + tcs it' ≤ phi st it + (if b then STOP_MAX else 0) := by
  induction fuel generalizing st it out with
  | zero => omega
  | succ f ih =>
    cases st with
    | nil => exact ⟨[], it, false, by simp [displayInner_nil], by simp [mu], by simp [phi, sws]⟩
    | cons e st =>
      rw [displayInner_succ]
      have hi := dstep_iter e st it
      cases hd : dstep e st it with
      | stop em =>
        rw [hd] at hi
        cases hi with
        | stop hs => exact ⟨em, [], true, rfl, Nat.zero_le _, by simp [tcs]; omega⟩
      | cont st' it' em =>
        rw [hd] at hi
        have hm := hi.mu_lt
        have hp := hi.phi_le
        obtain ⟨ex, i, b, h1, h2, h3⟩ := ih st' it' (out ++ em) (by omega)
        exact ⟨em ++ ex, i, b, by rw [dnext, h1, List.append_assoc], by omega,
          by rw [renderedLength_append]; omega⟩

/-- each round of the outer loop (`stack.push(E::N)` on a non-exhausted iterator) returns from `fmt` or
    consumes at least one token.  The fuels that `display` (Token.lean) passes rest on this:
    `items.length + 2` meets `hf`, `8 * items.length + 16` meets `hi` (a round of the inner loop starts
    from `mu [.N] it`, six per token: `mu_N_cons`). -/
theorem displayOuter_spec (fuel inner : Nat) (it : List TokItem) (out : List Piece)
    (hf : it.length < fuel) (hi : 6 * it.length < inner) :
    ∃ ex, displayOuter fuel inner it out = some (out ++ ex) ∧ renderedLength ex ≤ tcs it + STOP_MAX := by
  induction fuel generalizing it out with
  | zero => omega
  | succ f ih =>
    cases it with
    | nil => exact ⟨[], by simp [displayOuter_nil], by simp⟩
    | cons x it =>
      simp only [List.length_cons] at hf hi
      obtain ⟨ex, i, b, h1, h2, h3⟩ := displayInner_spec inner [.N] (x :: it) out (by rw [mu_N_cons]; simp; omega)
      have hphi := phi_N_cons [] x it
      rw [mu_N_cons] at h2
      simp only [sws, tcs, List.length_nil] at *
      rw [displayOuter_cons, h1]
      cases b with
      | true => exact ⟨ex, rfl, by simp only [if_true] at h3; omega⟩
      | false =>
        obtain ⟨ex2, e1, e2⟩ := ih i (out ++ ex) (by omega) (by omega)
        exact ⟨ex ++ ex2, by simp only [e1, List.append_assoc], by
          rw [renderedLength_append]; simp only [Bool.false_eq_true, if_false] at h3; omega⟩

end Minicbor
