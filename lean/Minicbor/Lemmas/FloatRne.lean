/-
  Round to nearest, ties to even, for a narrowing conversion between binary formats, proved once for
  `f32ToF16` (the model of `half::f16::from_f32`) and `f64ToF32` (the model of Rust's `f64 as f32`).

  Magnitudes are in units of 2^-1074 (every finite binary16/32/64 value is an integer multiple).  A format is
  its `grid`: the magnitude of each pattern, continued beyond the largest finite pattern the IEEE way ("as if
  the exponent range were unbounded"), so that overflow to infinity is rounding to the next point of the grid.
  `rneShift` decides correctly between the two neighbours of its argument; on a strictly increasing grid that
  makes its result a nearest point among all.
-/
import Minicbor.Float
import Minicbor.Narrow

namespace Minicbor

def ndist (a b : Nat) : Nat := (a - b) + (b - a)

/-- `|v₁ − v₂|` for two finite values given as (negative?, magnitude). -/
def fdist (n1 : Bool) (a1 : Nat) (n2 : Bool) (a2 : Nat) : Nat :=
  if n1 = n2 then ndist a1 a2 else a1 + a2

theorem rneShift_pos (M sh : Nat) (hsh : 0 < sh) :
    rneShift M sh =
      if M % 2 ^ sh > 2 ^ (sh - 1) ∨ (M % 2 ^ sh = 2 ^ (sh - 1) ∧ M / 2 ^ sh % 2 = 1) then M / 2 ^ sh + 1
      else M / 2 ^ sh := by
  have : (sh == 0) = false := by simpa using Nat.ne_of_gt hsh
  simp only [rneShift, this, Bool.false_eq_true, if_false, Bool.or_eq_true, decide_eq_true_eq, Bool.and_eq_true,
    beq_iff_eq]

/-- In namespace `NarrowThm` because verifkit/props/C17.py names it next to `narrow_widen`; in this file
    because `rneBits` of both conversions, `f32ToF16` as well, needs it. -/
theorem NarrowThm.rneShift_exact (q sh : Nat) : rneShift (q * 2 ^ sh) sh = q := by
  rcases Nat.eq_zero_or_pos sh with rfl | hsh
  · simp [rneShift]
  · have hP : 0 < 2 ^ (sh - 1) := Nat.two_pow_pos _
    rw [rneShift_pos _ _ hsh, Nat.mul_mod_left, Nat.mul_div_cancel _ (Nat.two_pow_pos sh), if_neg (by omega)]

theorem rneShift_small (M sh : Nat) (hsh : 0 < sh) (h : M < 2 ^ (sh - 1)) : rneShift M sh = 0 := by
  have hlt : M < 2 ^ sh := Nat.lt_of_lt_of_le h (Nat.pow_le_pow_right (by decide) (Nat.sub_le _ _))
  rw [rneShift_pos _ _ hsh, Nat.mod_eq_of_lt hlt, Nat.div_eq_of_lt hlt, if_neg (by omega)]

theorem rneShift_bounds (M sh : Nat) (hsh : 0 < sh) :
    M / 2 ^ sh ≤ rneShift M sh ∧ rneShift M sh ≤ M / 2 ^ sh + 1 := by
  rw [rneShift_pos M sh hsh]
  split <;> omega

/-! ### one cell of a grid -/

/-- `A` lies in the cell `[L, U)` whose end points carry the patterns `lo` and `lo + 1`, and `R` is the
    pattern of the nearer end point, the even one if `A` is the midpoint. -/
def Rn (L A U lo R : Nat) : Prop :=
  L ≤ A ∧ A < U ∧
    ((R = lo ∧ 2 * A ≤ L + U ∧ (2 * A = L + U → lo % 2 = 0)) ∨
     (R = lo + 1 ∧ L + U ≤ 2 * A ∧ (2 * A = L + U → lo % 2 = 1)))

theorem Rn.scale {L A U lo R : Nat} (h : Rn L A U lo R) (K : Nat) (hK : 0 < K) :
    Rn (L * K) (A * K) (U * K) lo R := by
  obtain ⟨h1, h2, h3⟩ := h
  have e : 2 * (A * K) = L * K + U * K ↔ 2 * A = L + U := by
    rw [← Nat.mul_assoc, ← Nat.add_mul]
    exact ⟨Nat.eq_of_mul_eq_mul_right hK, fun h => by rw [h]⟩
  have l : ∀ {a b}, a ≤ b → a * K ≤ b * K := fun h => Nat.mul_le_mul_right K h
  refine ⟨l h1, Nat.mul_lt_mul_of_pos_right h2 hK, ?_⟩
  rw [e, ← Nat.add_mul, ← Nat.mul_assoc]
  rcases h3 with ⟨a, b, c⟩ | ⟨a, b, c⟩
  · exact .inl ⟨a, l b, c⟩
  · exact .inr ⟨a, l b, c⟩

/-- the patterns may carry an even offset (the exponent field above the rounded significand). -/
theorem Rn.offset {L A U lo R : Nat} (h : Rn L A U lo R) (base : Nat) (hb : base % 2 = 0) :
    Rn L A U (base + lo) (base + R) := by
  unfold Rn at *
  omega

theorem rneShift_rn (M sh : Nat) (hsh : 0 < sh) :
    Rn (M / 2 ^ sh * 2 ^ sh) M ((M / 2 ^ sh + 1) * 2 ^ sh) (M / 2 ^ sh) (rneShift M sh) := by
  have hp : 2 ^ sh = 2 * 2 ^ (sh - 1) := by
    rw [Nat.mul_comm, ← Nat.pow_succ, Nat.succ_eq_add_one, Nat.sub_add_cancel hsh]
  have hdm : M / 2 ^ sh * 2 ^ sh + M % 2 ^ sh = M := Nat.div_add_mod' M (2 ^ sh)
  have hr : M % 2 ^ sh < 2 ^ sh := Nat.mod_lt _ (Nat.two_pow_pos _)
  rw [rneShift_pos _ _ hsh, Nat.add_mul, Nat.one_mul]
  unfold Rn
  generalize M / 2 ^ sh * 2 ^ sh = L at *
  generalize M % 2 ^ sh = r at *
  generalize M / 2 ^ sh = q at *
  rw [hp] at hr ⊢
  generalize 2 ^ (sh - 1) = P at *
  split <;> omega

/-! ### the grid of a binary format -/

/-- Magnitude of the pattern `H` (sign bit removed) of a binary format with mantissas below `P` whose
    subnormal values are the multiples of `2 ^ u`, continued beyond the largest finite pattern: the pattern of
    the infinity stands for the next power of two. -/
def grid (P u H : Nat) : Nat :=
  if H / P = 0 then H % P * 2 ^ u else (P + H % P) * 2 ^ (H / P - 1 + u)

/-- the pattern with significand `q` in binade `e` (`e = 0`: subnormals and the first normal binade);
    `q = 2 * P` is the carry into the next binade. -/
theorem grid_sig (P u e q : Nat) (hP : 0 < P) (hq : q ≤ 2 * P) (hn : e ≠ 0 → P ≤ q) :
    grid P u (e * P + q) = q * 2 ^ (e + u) := by
  unfold grid
  rcases Nat.lt_or_ge q P with h | h
  · have : e = 0 := Classical.byContradiction fun c => by have := hn c; omega
    subst this
    rw [Nat.zero_mul, Nat.zero_add, Nat.div_eq_of_lt h, Nat.mod_eq_of_lt h, if_pos rfl, Nat.zero_add]
  · obtain ⟨r, rfl⟩ := Nat.exists_eq_add_of_le h
    rw [← Nat.add_assoc, ← Nat.succ_mul, Nat.mul_comm, Nat.mul_add_div hP, Nat.mul_add_mod]
    rcases Nat.lt_or_ge r P with h' | h'
    · rw [Nat.div_eq_of_lt h', Nat.mod_eq_of_lt h', if_neg (Nat.succ_ne_zero e)]
      rfl
    · have : r = P := by omega
      subst this
      rw [Nat.div_self hP, Nat.mod_self, if_neg (Nat.succ_ne_zero _), Nat.add_zero, ← Nat.two_mul, Nat.mul_comm 2,
        Nat.mul_assoc, ← Nat.pow_succ']
      congr 2; omega

theorem sig_decomp (P H : Nat) (hP : 0 < P) : ∃ e q, q < 2 * P ∧ (e ≠ 0 → P ≤ q) ∧ H = e * P + q := by
  have hdm := Nat.div_add_mod' H P
  have hr := Nat.mod_lt H hP
  rcases Nat.eq_zero_or_pos (H / P) with h | h
  · rw [h, Nat.zero_mul, Nat.zero_add] at hdm
    exact ⟨0, H, by omega, fun c => absurd rfl c, by omega⟩
  · obtain ⟨k, hk⟩ := Nat.exists_eq_add_of_le h
    rw [hk, Nat.add_comm 1 k, Nat.succ_mul] at hdm
    exact ⟨k, P + H % P, by omega, fun _ => Nat.le_add_right _ _, by omega⟩

theorem grid_lt_succ (P u H : Nat) (hP : 0 < P) : grid P u H < grid P u (H + 1) := by
  -- the next pattern has the next significand, the carry into the next binade included
  obtain ⟨e, q, hq, hn, rfl⟩ := sig_decomp P H hP
  rw [Nat.add_assoc, grid_sig P u e q hP (by omega) hn, grid_sig P u e (q + 1) hP (by omega) (by omega)]
  exact Nat.mul_lt_mul_of_pos_right (Nat.lt_succ_self q) (Nat.two_pow_pos _)

theorem strict_of_lt_succ (g : Nat → Nat) (h : ∀ n, g n < g (n + 1)) {a b : Nat} (hab : a < b) : g a < g b := by
  induction b with
  | zero => omega
  | succ b ih =>
    rcases Nat.lt_succ_iff_lt_or_eq.1 hab with c | rfl
    · exact Nat.lt_trans (ih c) (h b)
    · exact h a

theorem grid_strict (P u : Nat) (hP : 0 < P) {a b : Nat} (h : a < b) : grid P u a < grid P u b :=
  strict_of_lt_succ _ (fun H => grid_lt_succ P u H hP) h

/-! ### nearest point, ties to even -/

def NearestEven (g : Nat → Nat) (A R : Nat) : Prop :=
  ∀ H, ndist (g R) A ≤ ndist (g H) A ∧ (ndist (g R) A = ndist (g H) A → H ≠ R → R % 2 = 0)

theorem nearest_of_cell (g : Nat → Nat) (hg : ∀ {a b}, a < b → g a < g b) {lo A R : Nat}
    (h : Rn (g lo) A (g (lo + 1)) lo R) : NearestEven g A R := by
  intro H
  obtain ⟨h1, h2, h3⟩ := h
  unfold ndist
  -- by the position of `H`; one `omega` over all of it is several times dearer
  rcases Nat.lt_or_ge H lo with c | c
  · have := hg c
    rcases h3 with ⟨rfl, a, b⟩ | ⟨rfl, a, b⟩ <;> omega
  · rcases Nat.lt_or_ge (lo + 1) H with c' | c'
    · have := hg c'
      rcases h3 with ⟨rfl, a, b⟩ | ⟨rfl, a, b⟩ <;> omega
    · have : H = lo ∨ H = lo + 1 := by omega
      rcases this with rfl | rfl <;> rcases h3 with ⟨rfl, a, b⟩ | ⟨rfl, a, b⟩ <;> omega

/-- The overflow rule of round-to-nearest: `mx` the largest finite pattern (odd), `mx + 1` the infinity,
    `T` half way between their grid values. -/
theorem NearestEven.overflow {g : Nat → Nat} (hg : ∀ {a b}, a < b → g a < g b) {A R mx T : Nat}
    (h : NearestEven g A R) (hodd : mx % 2 = 1) (hT : 2 * T = g mx + g (mx + 1)) (hA : A < g (mx + 1)) :
    R ≤ mx + 1 ∧ (T ≤ A → R = mx + 1) ∧ (A < T → R ≤ mx) := by
  have a := h mx
  have b := h (mx + 1)
  have hs : g mx < g (mx + 1) := hg (Nat.lt_succ_self mx)
  have c1 : R < mx → g R < g mx := hg
  have c2 : mx + 1 < R → g (mx + 1) < g R := hg
  have c3 : R = mx → g R = g mx := congrArg g
  have c4 : R = mx + 1 → g R = g (mx + 1) := congrArg g
  unfold ndist at a b
  omega

/-- `M` has `sh` bits too many for binade `e` of the format (spacing `2 ^ (e + u)` there).  A carry out of the
    rounded significand moves into the exponent field by the plain addition. -/
theorem nearest_rneShift (P u e M sh k : Nat) (hP : 0 < P) (hPe : P % 2 = 0) (hsh : 0 < sh)
    (hk : e + u = sh + k) (hq : M / 2 ^ sh < 2 * P) (hn : e ≠ 0 → P ≤ M / 2 ^ sh) :
    NearestEven (grid P u) (M * 2 ^ k) (e * P + rneShift M sh) := by
  apply nearest_of_cell _ (grid_strict P u hP) (lo := e * P + M / 2 ^ sh)
  have hb : e * P % 2 = 0 := by rw [Nat.mul_mod, hPe, Nat.mul_zero, Nat.zero_mod]
  have := ((rneShift_rn M sh hsh).scale (2 ^ k) (Nat.two_pow_pos k)).offset (e * P) hb
  rwa [Nat.add_assoc, grid_sig P u e _ hP (Nat.le_of_lt hq) hn, grid_sig P u e _ hP hq (by omega), hk, Nat.pow_add,
    ← Nat.mul_assoc, ← Nat.mul_assoc]

/-! ### narrowing to a format -/

/-- The pattern both narrowing conversions compute from a significand `M` in binade `e` of the wider format
    (`d` mantissa bits wider, `e0` binades deeper, infinity from binade `eInf` on). -/
def rneBits (P d e0 eInf e M : Nat) : Nat :=
  if eInf ≤ e then (eInf - e0 + 1) * P
  else if e0 ≤ e then (e - e0) * P + rneShift M d
  else rneShift M (e0 + d - e)

theorem rneBits_normal_exact (P d e0 eInf e q : Nat) (h1 : e0 ≤ e) (h2 : e < eInf) :
    rneBits P d e0 eInf e (q * 2 ^ d) = (e - e0) * P + q := by
  rw [rneBits, if_neg (by omega), if_pos h1, NarrowThm.rneShift_exact]

theorem rneBits_sub_exact (P d e0 eInf e q : Nat) (h1 : e < e0) (h2 : e0 ≤ eInf) :
    rneBits P d e0 eInf e (q * 2 ^ (e0 + d - e)) = q := by
  rw [rneBits, if_neg (by omega), if_neg (by omega), NarrowThm.rneShift_exact]

def Rounds (P u mx A R : Nat) : Prop :=
  (A < grid P u (mx + 1) ∧ NearestEven (grid P u) A R) ∨ (grid P u (mx + 1) ≤ A ∧ R = mx + 1)

/-- The wide format has unit `2 ^ U` and mantissas below `P * 2 ^ d`.  `hu` and `hmx` are the whole link between
    the two formats: the unit of the narrow grid is that of the wide one, `d` mantissa bits and `e0` binades up; the
    narrow pattern of the infinity opens binade `eInf - e0 + 1`, which is what `rneBits` answers from `eInf` on. -/
theorem rneBits_rounds (P u d e0 eInf U mx e M : Nat) (hP : 0 < P) (hPe : P % 2 = 0) (hd : 0 < d) (he0 : 0 < e0)
    (hle : e0 ≤ eInf) (hu : u = d + U + e0) (hmx : mx + 1 = (eInf - e0 + 1) * P)
    (hM : M < 2 * (P * 2 ^ d)) (hn : e ≠ 0 → P * 2 ^ d ≤ M) :
    Rounds P u mx (M * 2 ^ (e + U)) (rneBits P d e0 eInf e M) := by
  have hinf : grid P u (mx + 1) = P * 2 ^ d * 2 ^ (eInf + U) := by
    rw [hmx, Nat.succ_mul, grid_sig P u _ P hP (by omega) (fun _ => Nat.le_refl P), Nat.mul_assoc, ← Nat.pow_add]
    congr 2; omega
  unfold Rounds rneBits
  rw [hinf]
  by_cases ho : eInf ≤ e
  · rw [if_pos ho]
    exact .inr ⟨Nat.mul_le_mul (hn (by omega)) (Nat.pow_le_pow_right (by decide) (by omega)), hmx.symm⟩
  · refine .inl ⟨?_, ?_⟩
    · calc M * 2 ^ (e + U) < 2 * (P * 2 ^ d) * 2 ^ (e + U) := Nat.mul_lt_mul_of_pos_right hM (Nat.two_pow_pos _)
        _ = P * 2 ^ d * 2 ^ (e + 1 + U) := by
          rw [Nat.mul_comm 2, Nat.mul_assoc _ 2, ← Nat.pow_succ', Nat.succ_eq_add_one, Nat.add_right_comm]
        _ ≤ _ := Nat.mul_le_mul_left _ (Nat.pow_le_pow_right (by decide) (by omega))
    · rw [if_neg ho]
      have hdiv : ∀ sh, d ≤ sh → M / 2 ^ sh < 2 * P := fun sh h => by
        apply Nat.div_lt_of_lt_mul (Nat.lt_of_lt_of_le hM _)
        rw [← Nat.mul_assoc, Nat.mul_comm]
        exact Nat.mul_le_mul_right _ (Nat.pow_le_pow_right (by decide) h)
      by_cases hc : e0 ≤ e
      · rw [if_pos hc]
        exact nearest_rneShift P u (e - e0) M d (e + U) hP hPe hd (by omega) (hdiv d (Nat.le_refl d))
          fun _ => (Nat.le_div_iff_mul_le (Nat.two_pow_pos d)).2 (hn (by omega))
      · rw [if_neg hc]
        have := nearest_rneShift P u 0 M (e0 + d - e) (e + U) hP hPe (by omega) (by omega) (hdiv _ (by omega))
          (fun c => absurd rfl c)
        rwa [Nat.zero_mul, Nat.zero_add] at this

/-! ### from magnitudes to signed values -/

/-- `v` reads the patterns below `2 * S` as a binary format: sign bit `S`, then a pattern of `grid P u`;
    `mx` is the largest finite one, `mx + 1` the infinity, `T` the overflow threshold of round-to-nearest.
    `fin_le` (no pattern above `mx` reads as finite) is there because `Format.rne` compares the result with every
    pattern that `v` reads as finite, and needs to find each of them on the grid. -/
structure Format (v : Nat → FVal) (S mx P u T : Nat) : Prop where
  pos : 0 < P
  even : S % 2 = 0
  odd : mx % 2 = 1
  mid : 2 * T = grid P u mx + grid P u (mx + 1)
  fin : ∀ s R, s < 2 → R ≤ mx → v (s * S + R) = .finite (s == 1) (grid P u R)
  inf : ∀ s, s < 2 → v (s * S + (mx + 1)) = .inf (s == 1)
  fin_le : ∀ y n b, y < 2 * S → v y = .finite n b → y % S ≤ mx

theorem grid_zero (P u : Nat) : grid P u 0 = 0 := by simp [grid]

/-- Takes the `fin` field alone, not a `Format`: binary64 is only ever narrowed from, never rounded to, so
    of its format only `val64_fin` is there. -/
theorem sig_view {v : Nat → FVal} {S mx P u : Nat} (hP : 0 < P)
    (fin : ∀ s R, s < 2 → R ≤ mx → v (s * S + R) = .finite (s == 1) (grid P u R))
    (x : Nat) (hx : x < 2 * S) (hfin : x % S ≤ mx) :
    ∃ s e M, s < 2 ∧ M < 2 * P ∧ (e ≠ 0 → P ≤ M) ∧ e * P + M ≤ mx ∧ x = s * S + (e * P + M) ∧
      v x = .finite (s == 1) (M * 2 ^ (e + u)) := by
  obtain ⟨e, M, hM, hn, hX⟩ := sig_decomp P (x % S) hP
  have hs : x / S < 2 := Nat.div_lt_of_lt_mul (by rwa [Nat.mul_comm] at hx)
  have hv := fin (x / S) (x % S) hs hfin
  rw [Nat.div_add_mod' x S] at hv
  refine ⟨x / S, e, M, hs, hM, hn, hX ▸ hfin, ?_, ?_⟩
  · rw [← hX, Nat.div_add_mod']
  · rw [hv, hX, grid_sig P u e M hP (Nat.le_of_lt hM) hn]

theorem Format.le_inf {v : Nat → FVal} {S mx P u T A R : Nat} (F : Format v S mx P u T) (hR : Rounds P u mx A R) :
    R ≤ mx + 1 := by
  rcases hR with ⟨hA, hN⟩ | ⟨_, rfl⟩
  · exact (hN.overflow (grid_strict P u F.pos) F.odd F.mid hA).1
  · exact Nat.le_refl _

/-- the statement of `C12.f16_encode_rne` and `NarrowThm.narrow_rne` for any format. -/
theorem Format.rne {v : Nat → FVal} {S mx P u T s A R : Nat} (F : Format v S mx P u T) (hs : s < 2)
    (hR : Rounds P u mx A R) :
    (T ≤ A → v (s * S + R) = .inf (s == 1)) ∧
    (A < T → ∃ b, v (s * S + R) = .finite (s == 1) b ∧
      ∀ y, y < 2 * S → ∀ n' b', v y = .finite n' b' →
        fdist (s == 1) b (s == 1) A ≤ fdist n' b' (s == 1) A ∧
        (fdist (s == 1) b (s == 1) A = fdist n' b' (s == 1) A → y ≠ s * S + R → (s * S + R) % 2 = 0)) := by
  have hg := @grid_strict P u F.pos
  have hT : T < grid P u (mx + 1) := by
    have := hg (Nat.lt_add_one mx)
    have := F.mid
    omega
  rcases hR with ⟨hA, hN⟩ | ⟨hA, rfl⟩
  · obtain ⟨_, o1, o2⟩ := hN.overflow hg F.odd F.mid hA
    refine ⟨fun h => by rw [o1 h]; exact F.inf s hs, fun h => ⟨_, F.fin s R hs (o2 h), ?_⟩⟩
    intro y hy n' b' hv
    have hs' : y / S < 2 := Nat.div_lt_of_lt_mul (by rwa [Nat.mul_comm] at hy)
    have hv' := F.fin (y / S) (y % S) hs' (F.fin_le y n' b' hy hv)
    have hdm := Nat.div_add_mod' y S
    rw [hdm, hv] at hv'
    injection hv' with e1 e2
    subst e1 e2
    have hpar : (s * S + R) % 2 = R % 2 := by
      rw [Nat.add_mod, Nat.mul_mod, F.even, Nat.mul_zero, Nat.zero_mod, Nat.zero_add, Nat.mod_mod]
    obtain ⟨n1, n2⟩ := hN (y % S)
    unfold fdist
    rw [if_pos rfl, hpar]
    by_cases hsame : (y / S == 1) = (s == 1)
    · rw [if_pos hsame]
      refine ⟨n1, fun heq hne => n2 heq fun hc => hne ?_⟩
      have : y / S = s := by
        generalize y / S = t at hs' hsame
        have a : s = 0 ∨ s = 1 := by omega
        have b : t = 0 ∨ t = 1 := by omega
        rcases a with rfl | rfl <;> rcases b with rfl | rfl <;> simp at hsame <;> rfl
      rw [← hdm, this, hc]
    · -- opposite signs: the distance is at least `A`, which is the distance of the pattern 0
      have z := hN 0
      rw [grid_zero] at z
      unfold ndist at *
      rw [if_neg hsame]
      refine ⟨by omega, fun heq _ => ?_⟩
      by_cases hr0 : R = 0
      · omega
      · exact z.2 (by omega) (fun h => hr0 h.symm)
  · exact ⟨fun _ => F.inf s hs, fun h => by omega⟩

end Minicbor
