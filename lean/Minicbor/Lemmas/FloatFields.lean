/-
  The value semantics `val16/val32/val64` by fields: a bit pattern assembled from (sign, biased exponent,
  mantissa) denotes what the fields say; binary16 and binary32 are formats in the sense of `FloatRne.lean`
  (`format16`, `format32`), binary64, which is never rounded to, has the finite part alone (`val64_fin`).
-/
import Minicbor.Lemmas.FloatRne

namespace Minicbor

theorem fields_of {S NE P : Nat} (hS : S = NE * P) (s e m : Nat) (he : e < NE) (hm : m < P) :
    (s * S + e * P + m) / S = s ∧ (s * S + e * P + m) / P % NE = e ∧ (s * S + e * P + m) % P = m := by
  subst hS
  have hP : 0 < P := by omega
  have h : s * (NE * P) + e * P + m = P * (s * NE + e) + m := by
    rw [Nat.mul_comm P, Nat.add_mul, Nat.mul_assoc]
  have hX : e * P + m < NE * P :=
    Nat.lt_of_lt_of_le (Nat.add_lt_add_left hm _) (by rw [← Nat.succ_mul]; exact Nat.mul_le_mul_right P he)
  refine ⟨?_, ?_, ?_⟩
  · rw [Nat.add_assoc, Nat.mul_comm s, Nat.mul_add_div (by omega), Nat.div_eq_of_lt hX, Nat.add_zero]
  · rw [h, Nat.mul_add_div hP, Nat.div_eq_of_lt hm, Nat.add_zero, Nat.mul_comm s, Nat.mul_add_mod, Nat.mod_eq_of_lt he]
  · rw [h, Nat.mul_add_mod, Nat.mod_eq_of_lt hm]

theorem fields_of_sig {S NE P : Nat} (hS : S = NE * P) (s e M : Nat) (he : e + 1 < NE) (hM : M < 2 * P)
    (hn : e ≠ 0 → P ≤ M) :
    ∃ eF mF, (s * S + (e * P + M)) / S = s ∧ (s * S + (e * P + M)) / P % NE = eF ∧
      (s * S + (e * P + M)) % P = mF ∧ (eF = 0 ∧ e = 0 ∧ mF = M ∨ eF = e + 1 ∧ P + mF = M) := by
  rcases Nat.lt_or_ge M P with h | h
  · have h0 : e = 0 := Classical.byContradiction fun c => by have := hn c; omega
    subst h0
    obtain ⟨h1, h2, h3⟩ := fields_of hS s 0 M (by omega) h
    rw [← Nat.add_assoc]
    exact ⟨0, M, h1, h2, h3, .inl ⟨rfl, rfl, rfl⟩⟩
  · obtain ⟨m, rfl⟩ := Nat.exists_eq_add_of_le h
    obtain ⟨h1, h2, h3⟩ := fields_of hS s (e + 1) m he (by omega)
    rw [show s * S + (e * P + (P + m)) = s * S + (e + 1) * P + m by rw [Nat.succ_mul]; omega]
    exact ⟨e + 1, m, h1, h2, h3, .inr ⟨rfl, rfl⟩⟩

theorem val64_mk (s E M : Nat) (hs : s < 2) (hE : E < 2048) (hM : M < 4503599627370496) :
    val64 (s * 9223372036854775808 + E * 4503599627370496 + M) =
      if E = 2047 then (if M = 0 then .inf (s == 1) else .nan)
      else if E = 0 then .finite (s == 1) M
      else .finite (s == 1) ((4503599627370496 + M) * 2 ^ (E - 1)) := by
  obtain ⟨h1, h2, h3⟩ := fields_of (S := 9223372036854775808) (by decide) s E M hE hM
  unfold val64
  simp only [h1, h2, h3, beq_iff_eq, Nat.mod_eq_of_lt hs]

theorem val32_mk (s E M : Nat) (hs : s < 2) (hE : E < 256) (hM : M < 8388608) :
    val32 (s * 2147483648 + E * 8388608 + M) =
      if E = 255 then (if M = 0 then .inf (s == 1) else .nan)
      else if E = 0 then .finite (s == 1) (M * 2 ^ 925)
      else .finite (s == 1) ((8388608 + M) * 2 ^ (E + 924)) := by
  obtain ⟨h1, h2, h3⟩ := fields_of (S := 2147483648) (by decide) s E M hE hM
  unfold val32
  simp only [h1, h2, h3, beq_iff_eq, Nat.mod_eq_of_lt hs]

theorem val16_mk (s E M : Nat) (hs : s < 2) (hE : E < 32) (hM : M < 1024) :
    val16 (s * 32768 + E * 1024 + M) =
      if E = 31 then (if M = 0 then .inf (s == 1) else .nan)
      else if E = 0 then .finite (s == 1) (M * 2 ^ 1050)
      else .finite (s == 1) ((1024 + M) * 2 ^ (E + 1049)) := by
  obtain ⟨h1, h2, h3⟩ := fields_of (S := 32768) (by decide) s E M hE hM
  unfold val16
  simp only [h1, h2, h3, beq_iff_eq, Nat.mod_eq_of_lt hs]

theorem split32 (x : Nat) (hx : x < 4294967296) :
    x = (x / 2147483648) * 2147483648 + (x / 8388608 % 256) * 8388608 + x % 8388608 ∧
    x / 2147483648 < 2 ∧ x / 8388608 % 256 < 256 ∧ x % 8388608 < 8388608 := by omega

theorem split16 (h : Nat) (hh : h < 65536) :
    h = (h / 32768) * 32768 + (h / 1024 % 32) * 1024 + h % 1024 ∧
    h / 32768 < 2 ∧ h / 1024 % 32 < 32 ∧ h % 1024 < 1024 := by omega

/-! The unit exponent `u` of each grid is the smallest subnormal in units of 2^-1074:
    2^-24 = 2^1050 units (binary16), 2^-149 = 2^925 units (binary32), 2^-1074 = 2^0 units (binary64).

    The numerals in the instances of `rneBits`, `widenBits`, `Rounds` and `grid` (Lemmas/FloatNarrow, FloatWiden,
    FloatHalf) come from the exponent biases 15 / 127 / 1023 and the mantissa widths 10 / 23 / 52 of the formats:

                                 binary32 ⇄ binary16     binary64 ⇄ binary32
      `d`     mantissa bits lost      13 = 23 − 10            29 = 52 − 23
      `e0`    difference of biases   112 = 127 − 15          896 = 1023 − 127
      `eInf`  first binade too large 142 = 127 + 15         1150 = 1023 + 127
      `u`     unit of the narrow grid 1050 = 1074 − 24        925 = 1074 − 149
      `U`     unit of the wide grid   925 = 1074 − 149          0 = 1074 − 1074

    (binades counted from 0, the subnormals together with the first normal binade; `u = d + U + e0` in both columns). -/

theorem format16 : Format val16 32768 0x7BFF 1024 1050 (65520 * 2 ^ 1074) where
  pos := by decide
  even := by decide
  odd := by decide
  mid := by decide +kernel
  fin s R hs hR := by
    have hsplit : s * 32768 + R = s * 32768 + R / 1024 * 1024 + R % 1024 := by omega
    rw [hsplit, val16_mk s _ _ hs (by omega) (by omega), if_neg (by omega), grid]
    split
    · rfl
    · rw [show R / 1024 + 1049 = R / 1024 - 1 + 1050 by omega]
  inf s hs := by simpa using val16_mk s 31 0 hs (by omega) (by omega)
  fin_le y n b hy hv := by
    obtain ⟨hsplit, hs, he, hm⟩ := split16 y hy
    rw [hsplit, val16_mk _ _ _ hs he hm] at hv
    by_cases h : y / 1024 % 32 = 31
    · rw [if_pos h] at hv
      split at hv <;> cases hv
    · omega

/-- 2^103 in units of 2^-1074: half the spacing of the binary32 grid at its top. -/
def U32 : Nat := 2 ^ 1177

/-- (2^25 − 1) · 2^103, half way between the largest finite binary32 value and 2^128. -/
def ovf32 : Nat := 33554431 * U32

theorem format32 : Format val32 2147483648 0x7F7FFFFF 8388608 925 ovf32 where
  pos := by decide
  even := by decide
  odd := by decide
  mid := by decide +kernel
  fin s R hs hR := by
    have hsplit : s * 2147483648 + R = s * 2147483648 + R / 8388608 * 8388608 + R % 8388608 := by omega
    rw [hsplit, val32_mk s _ _ hs (by omega) (by omega), if_neg (by omega), grid]
    split
    · rfl
    · rw [show R / 8388608 + 924 = R / 8388608 - 1 + 925 by omega]
  inf s hs := by simpa using val32_mk s 255 0 hs (by omega) (by omega)
  fin_le y n b hy hv := by
    obtain ⟨hsplit, hs, he, hm⟩ := split32 y hy
    rw [hsplit, val32_mk _ _ _ hs he hm] at hv
    by_cases h : y / 8388608 % 256 = 255
    · rw [if_pos h] at hv
      split at hv <;> cases hv
    · omega

theorem val64_fin (s R : Nat) (hs : s < 2) (hR : R ≤ 0x7FEFFFFFFFFFFFFF) :
    val64 (s * 9223372036854775808 + R) = .finite (s == 1) (grid 4503599627370496 0 R) := by
  have hsplit : s * 9223372036854775808 + R =
      s * 9223372036854775808 + R / 4503599627370496 * 4503599627370496 + R % 4503599627370496 := by omega
  rw [hsplit, val64_mk s _ _ hs (by omega) (by omega), if_neg (by omega), grid, Nat.pow_zero, Nat.mul_one]
  split <;> rfl

end Minicbor
