/-
  The reference parser `parse` (Parse.lean) accepts exactly the encodings of valid trees (`parse_iff`).  Of the
  decoder only `armTok` is used, to see that no valid item starts with the break byte; that `skip` agrees with
  the parser is at the end of Lemmas/SkipExact.lean.
-/
import Minicbor.Parse
import Minicbor.Lemmas.SkipTok

namespace Minicbor

theorem takeN_append (xs rest : Bytes) : takeN xs.length (xs ++ rest) = some (xs, rest) := by
  simp [takeN]

theorem takeN_be (k n : Nat) (rest : Bytes) : takeN k (be k n ++ rest) = some (be k n, rest) := by
  have := takeN_append (be k n) rest
  rwa [be_length] at this

theorem parseArg_head (w : Width) (n : Nat) (rest : Bytes) (h : w.fits n = true) :
    parseArg (w.ai n) (be w.bytes n ++ rest) = some (w, n, rest) := by
  cases w
  · simp [Width.fits] at h
    simp [parseArg, Width.ai, Width.bytes, be, h]
  all_goals
    simp [Width.fits] at h
    simp [parseArg, Width.ai, Width.bytes, takeN_be]
    apply fromBe_be
    omega

theorem parseStr_enc (text : Bool) (w : Width) (p rest : Bytes) (h : w.fits p.length = true)
    (hu : text = true → validUtf8 p = true) :
    parseStr text (w.ai p.length) (be w.bytes p.length ++ (p ++ rest)) = some (w, p, rest) := by
  unfold parseStr
  rw [parseArg_head w _ _ h]
  simp only [takeN_append]
  cases text
  · simp
  · simp [hu rfl]

theorem parseChunks_enc (text : Bool) (cs : List (Width × Bytes)) (fuel : Nat) (rest : Bytes)
    (hv : chunksValid text cs = true) (hf : cs.length < fuel) :
    parseChunks text fuel (encChunks (if text then 3 else 2) cs ++ 0xff :: rest) = some (cs, rest) := by
  induction cs generalizing fuel with
  | nil =>
    cases fuel with
    | zero => simp at hf
    | succ f => simp [parseChunks, encChunks]
  | cons c cs ih =>
    obtain ⟨w, p⟩ := c
    cases fuel with
    | zero => simp at hf
    | succ f =>
      simp only [chunksValid, Bool.and_eq_true] at hv
      obtain ⟨⟨hfit, hutf⟩, hrest⟩ := hv
      have hu : text = true → validUtf8 p = true := by
        intro ht; subst ht; simpa using hutf
      have hs := parseStr_enc text w p (encChunks (if text then 3 else 2) cs ++ 0xff :: rest) hfit hu
      have ih' := ih f hrest (by simp at hf; omega)
      obtain ⟨h1, h2, h3⟩ := head_split_ai (if text then 3 else 2) (by cases text <;> simp) w _ hfit
      have hne : u8 ((if text = true then 3 else 2) * 32 + w.ai p.length) ≠ 255 :=
        fun e => h3 (by rw [e] at h2; exact h2.symm)
      simp only [encChunks, headW, List.cons_append, List.append_assoc]
      unfold parseChunks
      simp only [hne, if_false, h1, h2, if_true, hs, ih']

theorem parseChunks_fuel (text : Bool) (cs : List (Width × Bytes)) (rest : Bytes)
    (hv : chunksValid text cs = true) :
    parseChunks text ((encChunks (if text then 3 else 2) cs ++ 0xff :: rest).length + 1)
      (encChunks (if text then 3 else 2) cs ++ 0xff :: rest) = some (cs, rest) := by
  apply parseChunks_enc text cs _ rest hv
  have := length_le_encChunks (if text then 3 else 2) cs
  simp; omega

theorem encW_head_ne_ff (w : WItem) (hv : w.valid = true) :
    ∃ b tl, encW w = b :: tl ∧ b ≠ 0xff := by
  match h : encW w with
  | [] => have := encW_length_pos w; simp [h] at this
  | b :: tl =>
    refine ⟨b, tl, rfl, fun hb => ?_⟩
    have := Dec.armTok_encW w [] hv
    rw [h, hb, List.append_nil, Dec.armTok_brk] at this
    cases w <;> cases this

theorem headW_split (m : Nat) (hm : m ≤ 7) (w : Width) (n : Nat) (rest : Bytes) (h : w.fits n = true) :
    ∃ b, headW m w n ++ rest = b :: (be w.bytes n ++ rest) ∧ b.toNat / 32 = m ∧ b.toNat % 32 = w.ai n ∧
      w.ai n ≠ 31 :=
  ⟨_, rfl, head_split_ai m hm w n h⟩

mutual
theorem parseItem_enc : (w : WItem) → w.valid = true → ∀ (f : Nat) (rest : Bytes),
    2 * (encW w).length ≤ f → parseItem f (encW w ++ rest) = some (w, rest)
  | w, _, 0, _, hf => by have := encW_length_pos w; omega
  | .uint w n, hv, f + 1, rest, _ => by
    obtain ⟨b, e, h1, h2, -⟩ := headW_split 0 (by omega) w n rest hv
    simp [encW, e, parseItem, h1, h2, parseArg_head w n rest hv]
  | .nint w n, hv, f + 1, rest, _ => by
    obtain ⟨b, e, h1, h2, -⟩ := headW_split 1 (by omega) w n rest hv
    simp [encW, e, parseItem, h1, h2, parseArg_head w n rest hv]
  | .bytes w p, hv, f + 1, rest, _ => by
    obtain ⟨b, e, h1, h2, h3⟩ := headW_split 2 (by omega) w _ (p ++ rest) hv
    simp [encW, e, parseItem, h1, h2, h3, parseStr_enc false w p rest hv (by simp)]
  | .text w p, hv, f + 1, rest, _ => by
    simp only [WItem.valid, Bool.and_eq_true] at hv
    obtain ⟨b, e, h1, h2, h3⟩ := headW_split 3 (by omega) w _ (p ++ rest) hv.1
    simp [encW, e, parseItem, h1, h2, h3, parseStr_enc true w p rest hv.1 (fun _ => hv.2)]
  | .bytesI cs, hv, f + 1, rest, _ => by
    simpa [encW, parseItem] using parseChunks_fuel false cs rest hv
  | .textI cs, hv, f + 1, rest, _ => by
    simpa [encW, parseItem] using parseChunks_fuel true cs rest hv
  | .array w xs, hv, f + 1, rest, hf => by
    simp only [WItem.valid, Bool.and_eq_true] at hv
    simp only [encW, headW_length, List.length_append] at hf
    obtain ⟨b, e, h1, h2, h3⟩ := headW_split 4 (by omega) w _ (encWs xs ++ rest) hv.1
    simp [encW, e, parseItem, h1, h2, h3, parseArg_head w _ _ hv.1, parseItems_enc xs hv.2 f rest (by omega)]
  | .map w xs, hv, f + 1, rest, hf => by
    simp only [WItem.valid, Bool.and_eq_true, beq_iff_eq] at hv
    simp only [encW, headW_length, List.length_append] at hf
    obtain ⟨b, e, h1, h2, h3⟩ := headW_split 5 (by omega) w _ (encWs xs ++ rest) hv.1.2
    have e2 : 2 * (xs.length / 2) = xs.length := by omega
    simp [encW, e, parseItem, h1, h2, h3, parseArg_head w _ _ hv.1.2, e2, parseItems_enc xs hv.2 f rest (by omega)]
  | .arrayI xs, hv, f + 1, rest, hf => by
    simp only [encW, List.length_cons, List.length_append, List.length_nil] at hf
    simp [encW, parseItem, parseBreak_enc xs hv f rest (by omega)]
  | .mapI xs, hv, f + 1, rest, hf => by
    simp only [WItem.valid, Bool.and_eq_true, beq_iff_eq] at hv
    simp only [encW, List.length_cons, List.length_append, List.length_nil] at hf
    simp [encW, parseItem, parseBreak_enc xs hv.2 f rest (by omega), hv.1]
  | .tag w n x, hv, f + 1, rest, hf => by
    simp only [WItem.valid, Bool.and_eq_true] at hv
    simp only [encW, headW_length, List.length_append] at hf
    obtain ⟨b, e, h1, h2, -⟩ := headW_split 6 (by omega) w n (encW x ++ rest) hv.1
    simp [encW, e, parseItem, h1, h2, parseArg_head w _ _ hv.1, parseItem_enc x hv.2 f rest (by omega)]
  | .simple n, hv, f + 1, rest, _ => by
    simp only [WItem.valid, Bool.or_eq_true, Bool.and_eq_true, decide_eq_true_eq] at hv
    by_cases hn : n < 24
    · obtain ⟨b, e, h1, h2, -⟩ := headW_split 7 (by omega) .w0 n rest (by simpa [Width.fits] using hn)
      simp only [headW, Width.ai, Width.bytes, be, List.nil_append] at e h2
      simp [encW, hn, e, parseItem, h1, h2]
    · have h3 : (u8 n).toNat = n := by rw [u8_toNat_mod]; omega
      simp [encW, hn, parseItem, h3]; omega
  | .f16 bits, hv, f + 1, rest, _ => by
    simp only [WItem.valid, decide_eq_true_eq] at hv
    simp [encW, parseItem, takeN_be, fromBe_be 2 bits (by omega)]
  | .f32 bits, hv, f + 1, rest, _ => by
    simp only [WItem.valid, decide_eq_true_eq] at hv
    simp [encW, parseItem, takeN_be, fromBe_be 4 bits (by omega)]
  | .f64 bits, hv, f + 1, rest, _ => by
    simp only [WItem.valid, decide_eq_true_eq] at hv
    simp [encW, parseItem, takeN_be, fromBe_be 8 bits (by omega)]

theorem parseItems_enc : (xs : List WItem) → validAll xs = true → ∀ (f : Nat) (rest : Bytes),
    2 * (encWs xs).length + 1 ≤ f → parseItems f xs.length (encWs xs ++ rest) = some (xs, rest)
  | [], _, f, rest, _ => by simp [parseItems, encWs]
  | x :: xs, hv, f + 1, rest, hf => by
    simp only [validAll, Bool.and_eq_true] at hv
    simp only [encWs, List.length_append] at hf
    have hpos := encW_length_pos x
    simp [encWs, parseItems, parseItem_enc x hv.1 f (encWs xs ++ rest) (by omega),
      parseItems_enc xs hv.2 f rest (by omega)]

theorem parseBreak_enc : (xs : List WItem) → validAll xs = true → ∀ (f : Nat) (rest : Bytes),
    2 * (encWs xs).length + 1 ≤ f → parseBreak f (encWs xs ++ 0xff :: rest) = some (xs, rest)
  | [], _, f + 1, rest, _ => by simp [parseBreak, encWs]
  | x :: xs, hv, f + 1, rest, hf => by
    simp only [validAll, Bool.and_eq_true] at hv
    simp only [encWs, List.length_append] at hf
    have hpos := encW_length_pos x
    have ih1 := parseItem_enc x hv.1 f (encWs xs ++ 0xff :: rest) (by omega)
    obtain ⟨b, tl, hb, hne⟩ := encW_head_ne_ff x hv.1
    simp only [encWs, List.append_assoc]
    rw [hb] at ih1 ⊢
    simp only [List.cons_append] at ih1 ⊢
    simp [parseBreak, hne, ih1, parseBreak_enc xs hv.2 f rest (by omega)]
end

theorem parse_encW (w : WItem) (rest : Bytes) (hv : w.valid = true) :
    parse (encW w ++ rest) = some (w, rest) := by
  unfold parse
  exact parseItem_enc w hv _ rest (by simp; omega)

/-! ### soundness -/

theorem takeN_some {k : Nat} {bs x r : Bytes} (h : takeN k bs = some (x, r)) :
    bs = x ++ r ∧ x.length = k := by
  unfold takeN at h
  split at h <;> cases h
  exact ⟨(List.take_append_drop k bs).symm, by simp [List.length_take]; omega⟩

theorem takeN_be_sound {k : Nat} {bs x r : Bytes} (h : takeN k bs = some (x, r)) :
    bs = be k (fromBe x) ++ r ∧ fromBe x < 256 ^ k := by
  obtain ⟨hbs, hx⟩ := takeN_some h
  have h1 := fromBe_lt x
  have h2 := be_fromBe x
  rw [hx] at h1 h2
  exact ⟨by rw [h2]; exact hbs, h1⟩

theorem parseArg_sound {ai : Nat} {bs r : Bytes} {w : Width} {n : Nat}
    (h : parseArg ai bs = some (w, n, r)) :
    w.fits n = true ∧ w.ai n = ai ∧ bs = be w.bytes n ++ r := by
  unfold parseArg at h
  split at h
  · cases h; simp [Width.fits, Width.ai, Width.bytes, be, *]
  iterate 4
    split at h
    · obtain ⟨⟨x, r'⟩, ht, hg⟩ := Option.map_eq_some_iff.1 h
      cases hg
      obtain ⟨hbs, hlt⟩ := takeN_be_sound ht
      exact ⟨by simp [Width.fits]; omega, by simp [Width.ai, *], hbs⟩
  cases h

theorem byte_eq (b : UInt8) (m a : Nat) (h1 : b.toNat / 32 = m) (h2 : b.toNat % 32 = a) :
    b = u8 (m * 32 + a) := by
  have : b.toNat = m * 32 + a := by omega
  rw [← this, u8_toNat_self]

section
variable {f m : Nat} {b : UInt8} {bs r : Bytes} {w : WItem}

theorem parseArg_head_sound {wd : Width} {n : Nat} (hm : b.toNat / 32 = m)
    (h : parseArg (b.toNat % 32) bs = some (wd, n, r)) :
    wd.fits n = true ∧ b :: bs = headW m wd n ++ r := by
  obtain ⟨h1, h2, h3⟩ := parseArg_sound h
  exact ⟨h1, by rw [byte_eq b _ _ hm h2.symm, h3]; rfl⟩

theorem parseStr_sound {text : Bool} {wd : Width} {p : Bytes} (hm : b.toNat / 32 = m)
    (h : parseStr text (b.toNat % 32) bs = some (wd, p, r)) :
    wd.fits p.length = true ∧ b :: bs = headW m wd p.length ++ (p ++ r) ∧
    (text = true → validUtf8 p = true) := by
  unfold parseStr at h
  split at h
  · cases h
  · rename_i w' n r1 ha
    split at h
    · cases h
    · rename_i p' r2 ht
      split at h <;> cases h
      rename_i hu
      obtain ⟨h1, h2⟩ := parseArg_head_sound hm ha
      obtain ⟨rfl, rfl⟩ := takeN_some ht
      exact ⟨h1, h2, fun ht => by subst ht; simpa using hu⟩

theorem parseChunks_sound (text : Bool) (f : Nat) (bs r : Bytes) (cs : List (Width × Bytes))
    (h : parseChunks text f bs = some (cs, r)) :
    chunksValid text cs = true ∧ bs = encChunks (if text then 3 else 2) cs ++ 0xff :: r := by
  induction f generalizing bs cs with
  | zero => simp [parseChunks] at h
  | succ f ih =>
    cases bs with
    | nil => simp [parseChunks] at h
    | cons b bs =>
      simp only [parseChunks] at h
      by_cases hb : b = 0xff
      · simp only [hb, if_true] at h
        cases h; simp [chunksValid, encChunks, hb]
      · by_cases hm : b.toNat / 32 = (if text then 3 else 2)
        · simp only [hb, hm, if_false, if_true] at h
          split at h
          · cases h
          · rename_i w p r1 hs
            split at h <;> cases h
            rename_i cs' r2 hc
            obtain ⟨h1, h2, h3⟩ := parseStr_sound hm hs
            obtain ⟨h5, rfl⟩ := ih _ _ hc
            exact ⟨by cases text <;> simp [chunksValid, h1, h5, h3], by simp [encChunks, h2]⟩
        · simp [hb, hm] at h

theorem parseItem_int (neg : Bool) (hm : b.toNat / 32 = if neg then 1 else 0) :
    parseItem (f + 1) (b :: bs) = some (w, r) ↔
      ∃ wd n, parseArg (b.toNat % 32) bs = some (wd, n, r) ∧ (if neg then .nint wd n else .uint wd n) = w := by
  cases neg <;> simp [parseItem, hm]

theorem parseItem_str (text : Bool) (hm : b.toNat / 32 = if text then 3 else 2) :
    parseItem (f + 1) (b :: bs) = some (w, r) ↔
      (b.toNat % 32 = 31 ∧ ∃ cs, parseChunks text (bs.length + 1) bs = some (cs, r) ∧
        (if text then .textI cs else .bytesI cs) = w) ∨
      (b.toNat % 32 ≠ 31 ∧ ∃ wd p, parseStr text (b.toNat % 32) bs = some (wd, p, r) ∧
        (if text then .text wd p else .bytes wd p) = w) := by
  cases text <;> by_cases h31 : b.toNat % 32 = 31 <;> simp [parseItem, hm, h31]

theorem parseItem_array (hm : b.toNat / 32 = 4) :
    parseItem (f + 1) (b :: bs) = some (w, r) ↔
      (b.toNat % 32 = 31 ∧ ∃ xs, parseBreak f bs = some (xs, r) ∧ .arrayI xs = w) ∨
      (b.toNat % 32 ≠ 31 ∧ ∃ wd n r1 xs, parseArg (b.toNat % 32) bs = some (wd, n, r1) ∧
        parseItems f n r1 = some (xs, r) ∧ .array wd xs = w) := by
  by_cases h31 : b.toNat % 32 = 31
  · simp [parseItem, hm, h31]
  · rcases hp : parseArg (b.toNat % 32) bs with _ | ⟨wd, n, r1⟩ <;> simp [parseItem, hm, h31, hp, and_assoc]

theorem parseItem_map (hm : b.toNat / 32 = 5) :
    parseItem (f + 1) (b :: bs) = some (w, r) ↔
      (b.toNat % 32 = 31 ∧ ∃ xs, parseBreak f bs = some (xs, r) ∧ xs.length % 2 = 0 ∧ .mapI xs = w) ∨
      (b.toNat % 32 ≠ 31 ∧ ∃ wd n r1 xs, parseArg (b.toNat % 32) bs = some (wd, n, r1) ∧
        parseItems f (2 * n) r1 = some (xs, r) ∧ .map wd xs = w) := by
  by_cases h31 : b.toNat % 32 = 31
  · rcases hp : parseBreak f bs with _ | ⟨xs, r1⟩
    · simp [parseItem, hm, h31, hp]
    · simpa [parseItem, hm, h31, hp, and_assoc] using and_rotate.symm
  · rcases hp : parseArg (b.toNat % 32) bs with _ | ⟨wd, n, r1⟩ <;> simp [parseItem, hm, h31, hp, and_assoc]

theorem parseItem_tag (hm : b.toNat / 32 = 6) :
    parseItem (f + 1) (b :: bs) = some (w, r) ↔
      ∃ wd n r1 x, parseArg (b.toNat % 32) bs = some (wd, n, r1) ∧
        parseItem f r1 = some (x, r) ∧ .tag wd n x = w := by
  rcases hp : parseArg (b.toNat % 32) bs with _ | ⟨wd, n, r1⟩ <;> simp [parseItem, hm, hp, and_assoc]

theorem parseItem_str_sound (text : Bool) (hm : b.toNat / 32 = if text then 3 else 2)
    (h : parseItem (f + 1) (b :: bs) = some (w, r)) : w.valid = true ∧ b :: bs = encW w ++ r := by
  rcases (parseItem_str text hm).1 h with ⟨h31, cs, hp, rfl⟩ | ⟨-, wd, p, hp, rfl⟩
  · obtain ⟨h1, rfl⟩ := parseChunks_sound _ _ _ _ _ hp
    have hb := byte_eq b _ _ hm h31
    cases text <;> simpa [WItem.valid, encW, hb, u8] using h1
  · obtain ⟨h1, h2, h3⟩ := parseStr_sound hm hp
    cases text <;> simp [WItem.valid, encW, h1, h2, h3]

theorem parseItem_simple_sound (hm : b.toNat / 32 = 7)
    (h : parseItem (f + 1) (b :: bs) = some (w, r)) : w.valid = true ∧ b :: bs = encW w ++ r := by
  obtain ⟨a, ha⟩ : ∃ a, b.toNat % 32 = a := ⟨_, rfl⟩
  have hb := byte_eq b 7 a hm ha
  have h5 : a < 24 ∨ a = 24 ∨ a = 25 ∨ a = 26 ∨ a = 27 ∨ 27 < a := by omega
  rcases h5 with h24 | rfl | rfl | rfl | rfl | h28
  · simp [parseItem, hm, ha, h24] at h
    obtain ⟨rfl, rfl⟩ := h
    exact ⟨by simp [WItem.valid, h24], by simp [encW, h24, hb]⟩
  · cases bs with
    | nil => simp [parseItem, hm, ha] at h
    | cons x bs =>
      simp [parseItem, hm, ha] at h
      obtain ⟨hx, rfl, rfl⟩ := h
      have := x.toNat_lt
      refine ⟨by simp [WItem.valid]; omega, ?_⟩
      have hx' : ¬ x.toNat < 24 := by omega
      simp only [encW, hx', if_false, List.cons_append, List.nil_append, u8_toNat_self]
      rw [hb]; rfl
  -- the three float widths alike
  iterate 3
    · simp [parseItem, hm, ha] at h
      obtain ⟨x, ht, rfl⟩ := h
      obtain ⟨h1, h2⟩ := takeN_be_sound ht
      exact ⟨by simp [WItem.valid]; omega, by rw [hb, h1]; rfl⟩
  · have : ¬ a < 24 ∧ a ≠ 24 ∧ a ≠ 25 ∧ a ≠ 26 ∧ a ≠ 27 := by omega
    simp [parseItem, hm, ha, this] at h

end

theorem parse_sound_aux (f : Nat) :
    (∀ bs w r, parseItem f bs = some (w, r) → w.valid = true ∧ bs = encW w ++ r) ∧
    (∀ n bs xs r, parseItems f n bs = some (xs, r) →
        validAll xs = true ∧ xs.length = n ∧ bs = encWs xs ++ r) ∧
    (∀ bs xs r, parseBreak f bs = some (xs, r) → validAll xs = true ∧ bs = encWs xs ++ 0xff :: r) := by
  induction f with
  | zero =>
    refine ⟨fun _ _ _ h => by simp [parseItem] at h, fun n bs xs r h => ?_, fun _ _ _ h => by simp [parseBreak] at h⟩
    cases n <;> simp [parseItems] at h
    obtain ⟨rfl, rfl⟩ := h; simp [validAll, encWs]
  | succ f ih =>
    obtain ⟨ihI, ihL, ihB⟩ := ih
    refine ⟨?_, ?_, ?_⟩
    · intro bs w r h
      cases bs with
      | nil => simp [parseItem] at h
      | cons b bs =>
        have hlt := b.toNat_lt
        obtain ⟨m, hm⟩ : ∃ m, b.toNat / 32 = m := ⟨_, rfl⟩
        have hm7 : m = 0 ∨ m = 1 ∨ m = 2 ∨ m = 3 ∨ m = 4 ∨ m = 5 ∨ m = 6 ∨ m = 7 := by omega
        rcases hm7 with rfl | rfl | rfl | rfl | rfl | rfl | rfl | rfl
        · obtain ⟨wd, n, hp, rfl⟩ := (parseItem_int false hm).1 h
          exact parseArg_head_sound hm hp
        · obtain ⟨wd, n, hp, rfl⟩ := (parseItem_int true hm).1 h
          exact parseArg_head_sound hm hp
        · exact parseItem_str_sound false hm h
        · exact parseItem_str_sound true hm h
        · rcases (parseItem_array hm).1 h with ⟨h31, xs, hp, rfl⟩ | ⟨-, wd, n, r1, xs, hp, hl, rfl⟩
          · obtain ⟨h1, rfl⟩ := ihB _ _ _ hp
            exact ⟨h1, by simp [encW, byte_eq b _ _ hm h31, u8]⟩
          · obtain ⟨h1, h2⟩ := parseArg_head_sound hm hp
            obtain ⟨h3, rfl, rfl⟩ := ihL _ _ _ _ hl
            exact ⟨by simp [WItem.valid, h1, h3], by simp [encW, h2]⟩
        · rcases (parseItem_map hm).1 h with ⟨h31, xs, hp, he, rfl⟩ | ⟨-, wd, n, r1, xs, hp, hl, rfl⟩
          · obtain ⟨h1, rfl⟩ := ihB _ _ _ hp
            exact ⟨by simp [WItem.valid, h1, he], by simp [encW, byte_eq b _ _ hm h31, u8]⟩
          · obtain ⟨h1, h2⟩ := parseArg_head_sound hm hp
            obtain ⟨h3, h4, rfl⟩ := ihL _ _ _ _ hl
            have e : xs.length / 2 = n := by omega
            exact ⟨by simp [WItem.valid, e, h1, h3]; omega, by simp [encW, e, h2]⟩
        · obtain ⟨wd, n, r1, x, hp, hl, rfl⟩ := (parseItem_tag hm).1 h
          obtain ⟨h1, h2⟩ := parseArg_head_sound hm hp
          obtain ⟨h3, rfl⟩ := ihI _ _ _ hl
          exact ⟨by simp [WItem.valid, h1, h3], by simp [encW, h2]⟩
        · exact parseItem_simple_sound hm h
    · intro n bs xs r h
      cases n with
      | zero => simp [parseItems] at h; obtain ⟨rfl, rfl⟩ := h; simp [validAll, encWs]
      | succ n =>
        rcases hp : parseItem f bs with _ | ⟨x, r1⟩
        · simp [parseItems, hp] at h
        rcases hl : parseItems f n r1 with _ | ⟨xs', r2⟩ <;> simp [parseItems, hp, hl] at h
        obtain ⟨rfl, rfl⟩ := h
        obtain ⟨h1, rfl⟩ := ihI _ _ _ hp
        obtain ⟨h3, rfl, rfl⟩ := ihL _ _ _ _ hl
        exact ⟨by simp [validAll, h1, h3], rfl, by simp [encWs]⟩
    · intro bs xs r h
      cases bs with
      | nil => simp [parseBreak] at h
      | cons b bs =>
        by_cases hb : b = 0xff
        · simp [parseBreak, hb] at h
          obtain ⟨rfl, rfl⟩ := h
          simp [validAll, encWs, hb]
        rcases hp : parseItem f (b :: bs) with _ | ⟨x, r1⟩
        · simp [parseBreak, hb, hp] at h
        rcases hl : parseBreak f r1 with _ | ⟨xs', r2⟩ <;> simp [parseBreak, hb, hp, hl] at h
        obtain ⟨rfl, rfl⟩ := h
        obtain ⟨h1, h2⟩ := ihI _ _ _ hp
        obtain ⟨h3, rfl⟩ := ihB _ _ _ hl
        exact ⟨by simp [validAll, h1, h3], by simp [encWs, h2]⟩

theorem parse_sound (bs : Bytes) (w : WItem) (r : Bytes) (h : parse bs = some (w, r)) :
    w.valid = true ∧ bs = encW w ++ r :=
  (parse_sound_aux _).1 bs w r h

theorem parse_iff (bs : Bytes) (w : WItem) (r : Bytes) :
    parse bs = some (w, r) ↔ w.valid = true ∧ bs = encW w ++ r :=
  ⟨parse_sound bs w r, fun ⟨hv, e⟩ => e ▸ parse_encW w r hv⟩

/-- "well-formed encoding" (the image of `encW` on valid trees) = accepted by the reference parser. -/
theorem wellformed_iff (bs : Bytes) :
    (∃ w : WItem, w.valid = true ∧ bs = encW w) ↔ (∃ w, parse bs = some (w, [])) := by
  simp only [parse_iff, List.append_nil]

end Minicbor
