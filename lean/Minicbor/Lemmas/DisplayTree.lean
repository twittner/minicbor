/-
  `Shows (toks w) (render w)` for every valid wire tree `w`, by mutual induction over
  `WItem` / `List WItem`, using the abstract sequence lemmas of `DisplayDoc.lean`; then the outer
  loop on a sequence of such items.
-/
import Minicbor.Lemmas.DisplayDoc
import Minicbor.Lemmas.DisplayBound
import Minicbor.Lemmas.TokenSpec

namespace Minicbor
open C11 C19

theorem renderL_eq_map (xs : List WItem) : renderL xs = xs.map render := by
  induction xs with
  | nil => rfl
  | cons x xs ih => simp [renderL, ih]

/-- a token that `E::N` prints with its own `Display`. -/
theorem shows_tok {t : Token} (h : ∀ st it, nstep t st it = .cont st it t.render) : Shows [t] t.render :=
  fun st it _ => Reach.step (h st it)

theorem good_tok {t : Token} (h : ∀ st it, nstep t st it = .cont st it t.render) (hb : t ≠ .brk) :
    Good ([t], t.render) :=
  ⟨shows_tok h, t, [], rfl, hb⟩

variable {α : Type} {tk : α → List Token} {pc : α → List Piece}

theorem shows_array (xs : List α) (hg : ∀ x ∈ xs, Good (tk x, pc x)) :
    Shows (Token.array xs.length :: xs.flatMap tk) ([.lit "["] ++ commaSep (xs.map pc) ++ [.lit "]"]) := by
  refine Shows.of_runs fun st => ?_
  simpa using Runs.tok (t := .array xs.length)
    (runs_def (tk := tk) (pc := pc) (fun n => .A (some n)) [.N] "]" (fun _ _ => rfl) (fun _ _ => rfl)
      (fun _ _ _ => rfl) xs hg st) (fun _ => rfl)

theorem shows_arrayI (xs : List α) (hg : ∀ x ∈ xs, Good (tk x, pc x)) :
    Shows (Token.beginArray :: (xs.flatMap tk ++ [.brk])) ([.lit "[_ "] ++ commaSep (xs.map pc) ++ [.lit "]"]) := by
  refine Shows.of_runs fun st => ?_
  simpa using Runs.tok (t := .beginArray)
    (runs_indef (tk := tk) (pc := pc) (.A none) [.N] "]" (fun _ _ => rfl)
      (fun st _ h it => indefStep_tok _ _ _ st h it) xs hg st) (fun _ => rfl)

theorem shows_map (n : Nat) (kvs : List α) (hev : kvs.length = 2 * n) (hg : ∀ x ∈ kvs, Good (tk x, pc x)) :
    Shows (Token.map n :: kvs.flatMap tk) ([.lit "{"] ++ kvSep (kvs.map pc) ++ [.lit "}"]) := by
  refine Shows.of_runs fun st => ?_
  obtain ⟨hl, hf, hc, hm⟩ := pairs_spec tk pc n kvs hev
  have := Runs.tok (t := .map (pairs kvs).length)
    (runs_def (fun n => .M (some n)) [.N, .S ": ", .N] "}" (fun _ _ => rfl) (fun _ _ => rfl)
      (fun _ _ _ => rfl) (pairs kvs)
      (fun p hp => seqUnit_pair (hg p.1 (hm p hp).1) (hg p.2 (hm p hp).2)) st) (fun _ => rfl)
  rw [hl, hf, hc] at this
  simpa using this

theorem shows_mapI (n : Nat) (kvs : List α) (hev : kvs.length = 2 * n) (hg : ∀ x ∈ kvs, Good (tk x, pc x)) :
    Shows (Token.beginMap :: (kvs.flatMap tk ++ [.brk])) ([.lit "{_ "] ++ kvSep (kvs.map pc) ++ [.lit "}"]) := by
  refine Shows.of_runs fun st => ?_
  obtain ⟨_, hf, hc, hm⟩ := pairs_spec tk pc n kvs hev
  have := Runs.tok (t := .beginMap)
    (runs_indef (.M none) [.N, .S ": ", .N] "}" (fun _ _ => rfl)
      (fun st _ h it => indefStep_tok _ _ _ st h it) (pairs kvs)
      (fun p hp => seqUnit_pair (hg p.1 (hm p hp).1) (hg p.2 (hm p hp).2)) st) (fun _ => rfl)
  rw [hf, hc] at this
  simpa using this

theorem shows_tag (n : Nat) {x : DItem} (hx : Good x) :
    Shows (Token.tag n :: x.1) ([.lit (toString n ++ "(")] ++ x.2 ++ [.lit ")"]) := by
  refine Shows.of_runs fun st => ?_
  simpa [toString_str] using Runs.tok (t := .tag n) (Runs.step (e := .T) (fun _ => rfl)
    ((hx.1.runs _).trans (Runs.step (e := .S ")") (ts := []) (fun _ => rfl) (Runs.nil st)))) (fun _ => rfl)

theorem shows_chunked (text : Bool) (cs : List (Width × Bytes)) :
    Shows ((if text then Token.beginString else Token.beginBytes) :: (chunkToks text cs ++ [Token.brk]))
      (if cs.isEmpty then [.lit (if text then "\"\"_" else "''_")]
       else [.lit "(_ "] ++ commaSep (cs.map fun c => if text then quoted c.2 else [.lit (hexBytes c.2)]) ++
        [.lit ")"]) := by
  refine Shows.of_runs fun st => ?_
  rw [chunkToks_eq, List.map_map, List.map_eq_flatMap]
  cases cs with
  | nil =>
    cases text
    · exact Runs.step (e := .N) (ts := [.beginBytes, .brk]) (fun _ => rfl) (Runs.nil st)
    · exact Runs.step (e := .N) (ts := [.beginString, .brk]) (fun _ => rfl) (Runs.nil st)
  | cons c cs =>
    cases text
    · simpa using Runs.tok (t := .beginBytes)
        (runs_indef (tk := fun c : Width × Bytes => [Token.bytes c.2]) (pc := fun c => [.lit (hexBytes c.2)])
          .B [.N] ")" (fun _ _ => rfl) (fun st _ h it => indefStep_tok _ _ _ st h it) (c :: cs)
          (fun _ _ => good_tok (fun _ _ => rfl) (by simp)) st) (fun _ => rfl)
    · simpa using Runs.tok (t := .beginString)
        (runs_indef (tk := fun c : Width × Bytes => [Token.string c.2]) (pc := fun c => quoted c.2)
          .D [.N] ")" (fun _ _ => rfl) (fun st _ h it => indefStep_tok _ _ _ st h it) (c :: cs)
          (fun _ _ => good_tok (fun _ _ => rfl) (by simp)) st) (fun _ => rfl)

theorem toks_head (w : WItem) : StartsItem (toks w) := by
  cases w with
  | uint w n => cases w <;> exact ⟨_, _, rfl, nofun⟩
  | nint w n => cases w <;> simp only [toks, nintTok] <;> (try split) <;> exact ⟨_, _, rfl, nofun⟩
  | simple n => simp only [toks, simpleTok]; (repeat' split) <;> exact ⟨_, _, rfl, nofun⟩
  | _ => exact ⟨_, _, rfl, nofun⟩

mutual
theorem good_item (w : WItem) (hv : w.valid = true) : Good (toks w, render w) := by
  refine ⟨?_, toks_head w⟩
  cases w with
  | uint w n => cases w <;> exact shows_tok fun _ _ => rfl
  | nint w n =>
    cases w <;> simp only [toks, nintTok, render] <;> (try split) <;> exact shows_tok fun _ _ => rfl
  | bytes w b | text w b | f16 b | f32 b | f64 b => exact shows_tok fun _ _ => rfl
  | bytesI cs => exact shows_chunked false cs
  | textI cs => exact shows_chunked true cs
  | array w xs =>
    simp only [WItem.valid, Bool.and_eq_true] at hv
    simp only [toks, render, toksL_eq_flatMap, renderL_eq_map]
    exact shows_array xs (good_items xs hv.2)
  | arrayI xs =>
    simp only [toks, render, toksL_eq_flatMap, renderL_eq_map]
    exact shows_arrayI xs (good_items xs hv)
  | map w kvs =>
    simp only [WItem.valid, Bool.and_eq_true, beq_iff_eq] at hv
    simp only [toks, render, toksL_eq_flatMap, renderL_eq_map]
    exact shows_map _ kvs (by omega) (good_items kvs hv.2)
  | mapI kvs =>
    simp only [WItem.valid, Bool.and_eq_true, beq_iff_eq] at hv
    simp only [toks, render, toksL_eq_flatMap, renderL_eq_map]
    exact shows_mapI (kvs.length / 2) kvs (by omega) (good_items kvs hv.2)
  | tag w n x =>
    simp only [WItem.valid, Bool.and_eq_true] at hv
    exact shows_tag n (good_item x hv.2)
  | simple n =>
    rcases (by omega : n = 20 ∨ n = 21 ∨ n = 22 ∨ n = 23 ∨ (n ≠ 20 ∧ n ≠ 21 ∧ n ≠ 22 ∧ n ≠ 23)) with
      rfl | rfl | rfl | rfl | ⟨h0, h1, h2, h3⟩
    iterate 4 exact shows_tok fun _ _ => rfl
    simp only [toks, simpleTok, render, if_neg h0, if_neg h1, if_neg h2, if_neg h3]
    exact shows_tok fun _ _ => rfl
theorem good_items (ws : List WItem) (hv : validAll ws = true) : ∀ x ∈ ws, Good (toks x, render x) := by
  cases ws with
  | nil => intro x hx; cases hx
  | cons w ws =>
    simp only [validAll, Bool.and_eq_true] at hv
    intro x hx
    rcases List.mem_cons.mp hx with h | hx
    · exact h ▸ good_item w hv.1
    · exact good_items ws hv.2 x hx
end

theorem displayInner_item {ts : List Token} {ps : List Piece} (hs : Shows ts ps) (inner : Nat)
    (it : List TokItem) (out : List Piece) (hin : 6 * (ts.length + it.length) + 1 < inner) :
    displayInner inner [.N] (ts.map TokItem.tok ++ it) out = some (out ++ ps, it, false) := by
  obtain ⟨k, hk⟩ := hs [] it out
  have h1 := displayInner_mono _ _ _ _ _ ((hk 1).trans (displayInner_nil 0 it _)) inner
  have hmu := mu_le [.N] (ts.map TokItem.tok ++ it)
  simp only [List.length_cons, List.length_nil, List.length_append, List.length_map] at hmu
  obtain ⟨ex, i, b, h2, _⟩ := displayInner_spec inner [.N] (ts.map TokItem.tok ++ it) out (by omega)
  -- both results persist when the fuels are added up, so they are the same
  have e2 := displayInner_mono _ _ _ _ _ h2 (1 + k)
  rw [Nat.add_comm, h1] at e2
  rw [h2, e2]

theorem displayOuter_items (xs : List α) (hg : ∀ x ∈ xs, Good (tk x, pc x)) (fuel inner : Nat)
    (out : List Piece) (hf : (xs.flatMap tk).length < fuel) (hin : 6 * (xs.flatMap tk).length + 1 < inner) :
    displayOuter fuel inner ((xs.flatMap tk).map TokItem.tok) out = some (out ++ xs.flatMap pc) := by
  induction xs generalizing fuel out with
  | nil =>
    cases fuel with
    | zero => simp at hf
    | succ f => simp [displayOuter_nil]
  | cons x xs ih =>
    obtain ⟨hs, t, r, htr, _⟩ := hg x List.mem_cons_self
    have htr : tk x = t :: r := htr
    simp only [List.flatMap_cons, List.length_append, List.map_append] at hf hin ⊢
    have h1 := displayInner_item hs inner ((xs.flatMap tk).map TokItem.tok) out
      (by simp only [List.length_map]; omega)
    cases fuel with
    | zero => simp at hf
    | succ f =>
      simp only [htr, List.map_cons, List.cons_append, List.length_cons] at h1 hf ⊢
      rw [displayOuter_cons, h1]
      simp only []
      rw [ih (fun y hy => hg y (List.mem_cons_of_mem _ hy)) f (out ++ pc x) (by omega) (by omega)]
      simp

end Minicbor
