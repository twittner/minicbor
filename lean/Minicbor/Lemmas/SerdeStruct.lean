/-
  Lemmas for C17: the derived struct visitor reads back a struct written field by
  field (in declaration order), as a map of definite or of indefinite length, and ignores
  unknown fields.
-/
import Minicbor.Lemmas.SerdeLoops

namespace Minicbor.Serde
open Minicbor.Dec

def nameOk (n : Bytes) : Bool := validUtf8 n && n.length < U64

theorem key_rt (n : Bytes) (h : nameOk n = true) : Reads Dec.str (Enc.str n) n := by
  simp only [nameOk, Bool.and_eq_true, decide_eq_true_eq] at h
  exact Reads.str n h.1 h.2

theorem key_noBrk (n : Bytes) (h : nameOk n = true) : NoBrk (Enc.str n) := by
  simp only [nameOk, Bool.and_eq_true, decide_eq_true_eq] at h
  rw [C03.str_pref n h.2]
  exact encW_noBrk (.text (prefWidth n.length) n) (by simp [WItem.valid, prefWidth_fits _ h.2, h.1])

def mkKvs : List Bytes → List SVal → List SVal
  | n :: ns, v :: vs => .str n :: v :: mkKvs ns vs
  | _, _ => []

theorem mkKvs_length : (ns : List Bytes) → (vs : List SVal) → ns.length = vs.length → (mkKvs ns vs).length = 2 * vs.length
  | [], [], _ => rfl
  | [], _ :: _, h | _ :: _, [], h => by simp at h
  | _ :: ns, _ :: vs, h => by simp [mkKvs, mkKvs_length ns vs (by simpa using h)]; omega

theorem mkKvs_append : (a : List Bytes) → (va : List SVal) → (b : List Bytes) → (vb : List SVal) → a.length = va.length →
    mkKvs (a ++ b) (va ++ vb) = mkKvs a va ++ mkKvs b vb
  | [], [], _, _, _ => rfl
  | [], _ :: _, _, _, h | _ :: _, [], _, _, h => by simp at h
  | n :: a, v :: va, b, vb, h => by simp [mkKvs, mkKvs_append a va b vb (by simpa using h)]

theorem sers_append : (a b : List SVal) → sers (a ++ b) = sers a ++ sers b
  | [], _ => rfl
  | x :: a, b => by simp only [List.cons_append, sers, sers_append a b, List.append_assoc]

theorem sers_mkKvs_cons (n : Bytes) (ns : List Bytes) (v : SVal) (vs : List SVal) :
    sers (mkKvs (n :: ns) (v :: vs)) = Enc.str n ++ ser v ++ sers (mkKvs ns vs) := by
  simp only [mkKvs, sers, ser, List.append_assoc]

def AllRtD : List (Dec SVal) → List SVal → Prop
  | d :: ds, v :: vs => (∀ r, d (ser v ++ r) = .ok v r) ∧ AllRtD ds vs
  | [], [] => True
  | _, _ => False

theorem allRtD_length : (ds : List (Dec SVal)) → (vs : List SVal) → AllRtD ds vs → ds.length = vs.length
  | [], [], _ => rfl
  | [], _ :: _, h | _ :: _, [], h => h.elim
  | _ :: ds, _ :: vs, h => by simp [allRtD_length ds vs h.2]

theorem mkKvs_half (names : List Bytes) (vals : List SVal) (h : names.length = vals.length) :
    (mkKvs names vals).length / 2 = vals.length := by
  rw [mkKvs_length names vals h]; omega

theorem deAll_rt : (ts : List SType) → (xs : List SVal) → AllRtD (ts.map de) xs → Reads (deAll ts) (sers xs) xs
  | [], [], _ => Reads.ret []
  | [], _ :: _, h | _ :: _, [], h => h.elim
  | _ :: ts, _ :: xs, h => Reads.bind h.1 ((deAll_rt ts xs h.2).map _)

theorem tuple_rt {m : Dec (List SVal)} {xs : List SVal} (g : List SVal → α) {n : Nat} (hn : xs.length = n)
    (hm : Reads m (sers xs) xs) (hl : xs.length < U64) :
    Reads (do tupleHeader n; let ys ← m; pure (g ys)) (Enc.array xs.length ++ sers xs) (g xs) :=
  hn ▸ (tupleHeader_rt _ hl).bind (hm.map g)

def pairsOf : List Bytes → List SVal → Found
  | n :: ns, v :: vs => (n, v) :: pairsOf ns vs
  | _, _ => []

theorem has_append (fd : Found) (n k : Bytes) (v : SVal) :
    Found.has (fd ++ [(n, v)]) k = (fd.has k || n == k) := by
  simp [Found.has, List.any_append]

theorem fresh_cons {fd : Found} {n : Bytes} {ns : List Bytes} (v : SVal) (hnd : (n :: ns).Nodup)
    (h : ∀ m ∈ n :: ns, fd.has m = false) : ∀ m ∈ ns, Found.has (fd ++ [(n, v)]) m = false := fun m hm => by
  have : n ≠ m := fun e => (List.nodup_cons.mp hnd).1 (e ▸ hm)
  rw [has_append, h m (by simp [hm])]; simpa using this

theorem get?_none (fd : Found) (k : Bytes) (h : fd.has k = false) : fd.get? k = none := by
  induction fd with
  | nil => rfl
  | cons p fd ih =>
    simp only [Found.has, List.any_cons, Bool.or_eq_false_iff] at h
    simp only [Found.get?, List.find?, h.1]
    exact ih (by simpa [Found.has] using h.2)

theorem get?_mid (pre post : Found) (k : Bytes) (v : SVal) (h : pre.has k = false) :
    Found.get? (pre ++ (k, v) :: post) k = some v := by
  induction pre with
  | nil => simp [Found.get?]
  | cons p pre ih =>
    simp only [Found.has, List.any_cons, Bool.or_eq_false_iff] at h
    simp only [Found.get?, List.cons_append, List.find?, h.1]
    exact ih (by simpa [Found.has] using h.2)

theorem pairsOf_has_false : (ns : List Bytes) → (vs : List SVal) → (k : Bytes) → k ∉ ns → Found.has (pairsOf ns vs) k = false
  | [], _, _, _ | _ :: _, [], _, _ => rfl
  | n :: ns, _ :: vs, k, h => by
    simp only [List.mem_cons, not_or] at h
    have := pairsOf_has_false ns vs k h.2
    simp only [pairsOf, Found.has, List.any_cons, Bool.or_eq_false_iff] at this ⊢
    exact ⟨by simpa using fun e => h.1 e.symm, this⟩

theorem findField_cons (f : FieldDec) (fs : List FieldDec) (k : Bytes) :
    findField (f :: fs) k = if f.name == k then some f else findField fs k := by
  simp [findField, List.find?]; split <;> simp_all

theorem findField_mem (fs : List FieldDec) (h : (fs.map (·.name)).Nodup) (f : FieldDec) (hf : f ∈ fs) :
    findField fs f.name = some f := by
  induction fs with
  | nil => cases hf
  | cons g fs ih =>
    simp only [List.map_cons, List.nodup_cons] at h
    rw [findField_cons]
    rcases List.mem_cons.mp hf with rfl | hf'
    · simp
    · have : (g.name == f.name) = false := by
        apply beq_eq_false_iff_ne.mpr
        intro e
        exact h.1 (e ▸ List.mem_map_of_mem (f := (·.name)) hf')
      simp [this, ih h.2 hf']

theorem findField_none (fs : List FieldDec) (k : Bytes) (h : k ∉ fs.map (·.name)) : findField fs k = none := by
  induction fs with
  | nil => rfl
  | cons f fs ih =>
    simp only [List.map_cons, List.mem_cons, not_or] at h
    rw [findField_cons]
    have : (f.name == k) = false := by simpa using fun e => h.1 e.symm
    simp [this, ih h.2]


theorem structStep_known (all : List FieldDec) {f : FieldDec} (hfind : findField all f.name = some f)
    (hn : nameOk f.name = true) {c : Bytes} {v : SVal} (hv : Reads f.dec c v) {fd : Found} (hfr : fd.has f.name = false) :
    Reads (structStep all fd) (Enc.str f.name ++ c) (fd ++ [(f.name, v)]) := by
  unfold structStep
  refine (key_rt _ hn).bind ?_
  simp only [hfind, hfr, Bool.false_eq_true, if_false]
  exact hv.map _

theorem structStep_unknown (all : List FieldDec) (fd : Found) {k : Bytes} {w : WItem} (hk : nameOk k = true)
    (hnf : findField all k = none) (hw : w.valid = true) (hfit : (encW w).length < U64) :
    Reads (structStep all fd) (Enc.str k ++ encW w) fd := by
  unfold structStep
  refine (key_rt _ hk).bind ?_
  simp only [hnf]
  exact (skip_encW w hw hfit).map _

structure FieldsWf (fs : List FieldDec) : Prop where
  nodup : (fs.map (·.name)).Nodup
  names : ∀ f ∈ fs, nameOk f.name = true

/-- for every loop body that treats a known field as `structStep` does (`hknown`); `mk` is where the body's
    state keeps the fields found. -/
theorem fieldsRun {step : σ → Dec σ} (mk : Found → σ) {all : List FieldDec} (hwf : FieldsWf all)
    (hknown : ∀ {f : FieldDec}, findField all f.name = some f → nameOk f.name = true → ∀ {c : Bytes} {v : SVal},
      Reads f.dec c v → ∀ {fd : Found}, fd.has f.name = false →
      Reads (step (mk fd)) (Enc.str f.name ++ c) (mk (fd ++ [(f.name, v)]))) :
    (suf : List FieldDec) → (vs : List SVal) → (∀ f ∈ suf, f ∈ all) → (suf.map (·.name)).Nodup →
    AllRtD (suf.map (·.dec)) vs → ∀ (fd : Found), (∀ n ∈ suf.map (·.name), fd.has n = false) →
    Run step suf.length (mk fd) (sers (mkKvs (suf.map (·.name)) vs)) (mk (fd ++ pairsOf (suf.map (·.name)) vs))
  | [], [], _, _, _, fd, _ => by simpa [mkKvs, sers, pairsOf] using Run.nil (step := step) (mk fd)
  | [], _ :: _, _, _, h, _, _ | _ :: _, [], _, _, h, _, _ => h.elim
  | f :: suf, v :: vs, hsub, hnd, hrt, fd, hfresh => by
    have hf := hsub f (by simp)
    have ih := fieldsRun mk hwf hknown suf vs (fun g hg => hsub g (by simp [hg])) (List.nodup_cons.mp hnd).2 hrt.2
      (fd ++ [(f.name, v)]) (fresh_cons v hnd hfresh)
    rw [List.map_cons, sers_mkKvs_cons, show fd ++ pairsOf (f.name :: suf.map (·.name)) (v :: vs) =
      fd ++ [(f.name, v)] ++ pairsOf (suf.map (·.name)) vs by simp [pairsOf]]
    exact .cons (hknown (findField_mem all hwf.nodup f hf) (hwf.names f hf) hrt.1 (hfresh f.name (by simp)))
      ((key_noBrk _ (hwf.names f hf)).append _) ih

/-- `pre`, `post`: other entries may surround the fields. -/
theorem finish_rt : (suf : List FieldDec) → (vs : List SVal) → suf.length = vs.length →
    (suf.map (·.name)).Nodup → ∀ (pre post : Found), (∀ n ∈ suf.map (·.name), pre.has n = false) →
    finishFields suf (pre ++ pairsOf (suf.map (·.name)) vs ++ post) = some (mkKvs (suf.map (·.name)) vs)
  | [], [], _, _, _, _, _ => rfl
  | [], _ :: _, h, _, _, _, _ | _ :: _, [], h, _, _, _, _ => by simp at h
  | f :: suf, v :: vs, hl, hnd, pre, post, hpre => by
    have ih := finish_rt suf vs (by simpa using hl) (List.nodup_cons.mp hnd).2 (pre ++ [(f.name, v)]) post (fresh_cons v hnd hpre)
    simp only [List.append_assoc, List.cons_append, List.nil_append] at ih
    simp only [finishFields, List.map_cons, pairsOf, mkKvs, List.append_assoc, List.cons_append,
      get?_mid pre _ f.name v (hpre f.name (by simp)), ih]


theorem mapVisit_def {step : σ → Dec σ} {n : Nat} {s st : σ} {bs : Bytes} (h : Run step n s bs st) (hn : n < U64)
    {K : σ → Dec α} {a : α} (hK : Reads (K st) [] a) :
    Reads (Dec.map >>= fun len => mapLoop step len s >>= K) (Enc.map n ++ bs) a :=
  (Reads.mapHead n hn).bind (h.loopN.bind_nil hK)

theorem mapVisit_indef {step : σ → Dec σ} {n : Nat} {s st : σ} {bs : Bytes} (h : Run step n s bs st)
    {K : σ → Dec α} {a : α} (hK : Reads (K st) [] a) :
    Reads (Dec.map >>= fun len => mapLoop step len s >>= K) (Enc.beginMap ++ (bs ++ Enc.end)) a :=
  Reads.beginMap.bind (h.mapLoop_indef.bind_nil hK)

theorem deStructBody_of_run (fs : List FieldDec) {n : Nat} {bs : Bytes} {fd : Found} {kvs : List SVal}
    (h : Run (structStep fs) n [] bs fd) (hfin : finishFields fs fd = some kvs) :
    (n < U64 → Reads (deStructBody fs) (Enc.map n ++ bs) kvs) ∧
    Reads (deStructBody fs) (Enc.beginMap ++ (bs ++ Enc.end)) kvs :=
  have hK : Reads (match finishFields fs fd with | some kvs => pure kvs | none => fail .message) [] kvs := by
    rw [hfin]; exact Reads.ret kvs
  ⟨fun hn => mapVisit_def h hn hK, mapVisit_indef h hK⟩

theorem structFields (fs : List FieldDec) (hwf : FieldsWf fs) (vs : List SVal) (hrt : AllRtD (fs.map (·.dec)) vs) :
    Run (structStep fs) vs.length [] (sers (mkKvs (fs.map (·.name)) vs)) (pairsOf (fs.map (·.name)) vs) ∧
    finishFields fs (pairsOf (fs.map (·.name)) vs) = some (mkKvs (fs.map (·.name)) vs) := by
  have hl : fs.length = vs.length := by simpa using allRtD_length _ _ hrt
  have hloop := fieldsRun id hwf (structStep_known fs) fs vs (fun _ h => h) hwf.nodup hrt [] (fun _ _ => rfl)
  have hfin := finish_rt fs vs hl hwf.nodup [] [] (fun _ _ => rfl)
  simp only [List.nil_append, List.append_nil] at hloop hfin
  exact ⟨hl ▸ hloop, hfin⟩

theorem deStructBody_rt (fs : List FieldDec) (hwf : FieldsWf fs) (vs : List SVal) (hrt : AllRtD (fs.map (·.dec)) vs) :
    (vs.length < U64 → Reads (deStructBody fs) (Enc.map vs.length ++ sers (mkKvs (fs.map (·.name)) vs)) (mkKvs (fs.map (·.name)) vs)) ∧
    Reads (deStructBody fs) (Enc.beginMap ++ (sers (mkKvs (fs.map (·.name)) vs) ++ Enc.end)) (mkKvs (fs.map (·.name)) vs) :=
  have h := structFields fs hwf vs hrt
  deStructBody_of_run fs h.1 h.2

/-- an unknown entry before and another after the known fields change nothing. -/
theorem deStructBody_unknown (fs : List FieldDec) (hwf : FieldsWf fs) (vs : List SVal)
    (hrt : AllRtD (fs.map (·.dec)) vs) (hlen : vs.length + 2 < U64)
    (k1 k2 : Bytes) (w1 w2 : WItem) (hk1 : nameOk k1 = true) (hk2 : nameOk k2 = true)
    (hn1 : k1 ∉ fs.map (·.name)) (hn2 : k2 ∉ fs.map (·.name))
    (hw1 : w1.valid = true) (hw2 : w2.valid = true) (hf1 : (encW w1).length < U64) (hf2 : (encW w2).length < U64) :
    Reads (deStructBody fs) (Enc.map (vs.length + 2) ++ (Enc.str k1 ++ encW w1 ++
      (sers (mkKvs (fs.map (·.name)) vs) ++ (Enc.str k2 ++ encW w2)))) (mkKvs (fs.map (·.name)) vs) := by
  have h := structFields fs hwf vs hrt
  have h1 := Run.one (structStep_unknown fs [] hk1 (findField_none fs k1 hn1) hw1 hf1) ((key_noBrk k1 hk1).append _)
  have h2 := Run.one (structStep_unknown fs (pairsOf (fs.map (·.name)) vs) hk2 (findField_none fs k2 hn2) hw2 hf2)
    ((key_noBrk k2 hk2).append _)
  have := (deStructBody_of_run fs (h1.trans (h.1.trans h2)) h.2).1
  rw [show 1 + (vs.length + 1) = vs.length + 2 by omega] at this
  exact this hlen

end Minicbor.Serde
