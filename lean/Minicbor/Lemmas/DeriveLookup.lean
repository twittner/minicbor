/-
  Looking things up in a declaration, by index and by position; nothing here runs the slot loops.
  What `accepted` says of a declaration; one index of a struct / variant body: `findField` (in a schema),
  `lookupVal` (in a schema with a value), the cell of the documented array there; variants: `nthFields`
  (by position), `findVar` against `findVariant` on `decVars`, and what a row writes (`C09.varIdx`,
  `C09.rowBytes`).
-/
import Minicbor.Lemmas.DeriveDec
import Minicbor.Compat

namespace Minicbor.Derive
open Minicbor.Dec

theorem accepted_struct {a : SAttr} {fs : Fields} (h : accepted (.struct a fs) = true) :
    tagOk a.tag = true ∧ acceptedFields fs = true ∧ (liveIdxs fs).Nodup := by
  simp only [accepted_struct_eq, Bool.and_eq_true] at h
  exact ⟨h.1.1.1.1, h.1.1.1.2, nodupNat_nodup _ h.1.1.2⟩

theorem accepted_transparent {a : SAttr} {fs : Fields} (h : accepted (.struct a fs) = true) (hta : a.transparent = true) :
    (match (generalizing := false) fs with | [(fa, _)] => !fa.skip | _ => false) = true := by
  simp only [accepted_struct_eq, Bool.and_eq_true] at h
  have := h.2
  simp only [hta, Bool.not_true, Bool.false_or, Bool.and_eq_true] at this
  exact this.2

theorem accepted_enum {a : EAttr} {vars : Variants} (h : accepted (.enum a vars) = true) :
    tagOk a.tag = true ∧ acceptedVars a vars = true ∧ (vars.map (·.1.idx)).Nodup := by
  simp only [accepted_enum_eq, Bool.and_eq_true] at h
  exact ⟨h.1.1.1, h.1.1.2, nodupNat_nodup _ h.1.2⟩

/-! ### looking a field up by its index: `findField`, `lookupVal` -/

theorem mem_liveIdxs (gs : Fields) (b : FAttr) (u : FTy) (h : (b, u) ∈ gs) (hs : b.skip = false) : b.idx ∈ liveIdxs gs := by
  induction gs with
  | nil => simp at h
  | cons g gs ih =>
    rcases List.mem_cons.1 h with rfl | h'
    · exact mem_liveIdxs_cons.2 (Or.inl ⟨hs, rfl⟩)
    · exact mem_liveIdxs_cons.2 (Or.inr (ih h'))

theorem findField_mem (gs : Fields) (i : Nat) (b : FAttr) (u : FTy) (h : findField gs i = some (b, u)) :
    (b, u) ∈ gs ∧ b.skip = false ∧ b.idx = i := by
  fun_induction findField gs i with
  | case1 => cases h
  | case2 b' u' gs i hc =>
    cases h
    simp only [Bool.and_eq_true, Bool.not_eq_true', beq_iff_eq] at hc
    exact ⟨by simp, hc.1, hc.2⟩
  | case3 _ _ _ _ _ ih => obtain ⟨h1, h2⟩ := ih h; exact ⟨by simp [h1], h2⟩

theorem findField_none (gs : Fields) (i : Nat) : findField gs i = none ↔ i ∉ liveIdxs gs := by
  fun_induction findField gs i with
  | case1 => simp [liveIdxs]
  | case2 b u gs i hc =>
    simp only [Bool.and_eq_true, Bool.not_eq_true', beq_iff_eq] at hc
    simp [mem_liveIdxs_cons, hc]
  | case3 b u gs i hc ih =>
    simp only [Bool.and_eq_true, Bool.not_eq_true', beq_iff_eq] at hc
    simp [mem_liveIdxs_cons, hc, ih]

theorem findField_of_mem (gs : Fields) (b : FAttr) (u : FTy) (hnd : (liveIdxs gs).Nodup) (h : (b, u) ∈ gs)
    (hs : b.skip = false) : findField gs b.idx = some (b, u) := by
  induction gs with
  | nil => simp at h
  | cons g gs ih =>
    obtain ⟨b', u'⟩ := g
    have hnd' := nodup_liveIdxs_cons hnd
    rcases List.mem_cons.1 h with e | h'
    · cases e; simp [findField, hs]
    · have hne : ¬ (b'.skip = false ∧ b'.idx = b.idx) := fun e => hnd'.1 e.1 (e.2 ▸ mem_liveIdxs gs b u h' hs)
      have : (!b'.skip && b'.idx == b.idx) = false := by simpa using hne
      simp only [findField, this, Bool.false_eq_true, if_false]
      exact ih hnd'.2 h'

def lookupVal : Fields → List Val → Nat → Option (FAttr × FTy × Val)
  | (a, t) :: fs, v :: vs, i => if !a.skip && a.idx == i then some (a, t, v) else lookupVal fs vs i
  | _, _, _ => none

theorem lookupVal_cons_of_ne {a : FAttr} {t : FTy} {v : Val} {fs : Fields} {vs : List Val} {i : Nat}
    (h : ¬ (a.skip = false ∧ a.idx = i)) : lookupVal ((a, t) :: fs) (v :: vs) i = lookupVal fs vs i := by
  have : (!a.skip && a.idx == i) = false := by simpa using h
  simp only [lookupVal, this, Bool.false_eq_true, if_false]

theorem lookupVal_head {a : FAttr} {t : FTy} {fs : Fields} {v : Val} {vs : List Val} (hs : a.skip = false) :
    lookupVal ((a, t) :: fs) (v :: vs) a.idx = some (a, t, v) := by
  simp [lookupVal, hs]

theorem lookupVal_cons_inv {a : FAttr} {t : FTy} {fs : Fields} {v : Val} {vs : List Val} {i : Nat} {x : FAttr × FTy × Val}
    (h : lookupVal ((a, t) :: fs) (v :: vs) i = some x) :
    (a.skip = false ∧ a.idx = i ∧ x = (a, t, v)) ∨ lookupVal fs vs i = some x := by
  simp only [lookupVal] at h
  split at h
  · rename_i hc
    simp only [Bool.and_eq_true, Bool.not_eq_true', beq_iff_eq] at hc
    cases h
    exact Or.inl ⟨hc.1, hc.2, rfl⟩
  · exact Or.inr h

theorem lookupVal_elim {F : Fields → List Val → Prop} {Q : FAttr → FTy → Val → Prop}
    (hF : ∀ a t fs v vs, F ((a, t) :: fs) (v :: vs) → (a.skip = false → Q a t v) ∧ F fs vs) :
    ∀ (fs : Fields) (vs : List Val) (i : Nat) (a : FAttr) (t : FTy) (v : Val),
    F fs vs → lookupVal fs vs i = some (a, t, v) → Q a t v
  | [], vs, _, _, _, _, _, h => by cases vs <;> simp [lookupVal] at h
  | (a', t') :: fs, [], _, _, _, _, _, h => by simp [lookupVal] at h
  | (a', t') :: fs, v' :: vs, i, a, t, v, hC, h => by
    rcases lookupVal_cons_inv h with ⟨hs, _, e⟩ | h'
    · cases e
      exact (hF _ _ _ _ _ hC).1 hs
    · exact lookupVal_elim hF fs vs i a t v (hF _ _ _ _ _ hC).2 h'

theorem findField_of_lookupVal (fs : Fields) (vs : List Val) (i : Nat) (a : FAttr) (t : FTy) (v : Val)
    (h : lookupVal fs vs i = some (a, t, v)) : findField fs i = some (a, t) := by
  fun_induction lookupVal fs vs i with
  | case1 a' t' fs v' vs i hc => cases h; simp [findField, hc]
  | case2 a' t' fs v' vs i hc ih => simp only [findField, hc]; exact ih h
  | case3 => cases h

theorem lookupVal_fst_mem (fs : Fields) (vs : List Val) (i : Nat) (a : FAttr) (t : FTy) (v : Val)
    (h : lookupVal fs vs i = some (a, t, v)) : (a, t) ∈ fs :=
  (findField_mem fs i a t (findField_of_lookupVal fs vs i a t v h)).1

theorem lookupVal_none_of_not_mem (fs : Fields) (vs : List Val) (i : Nat) (h : i ∉ liveIdxs fs) : lookupVal fs vs i = none := by
  cases hl : lookupVal fs vs i with
  | none => rfl
  | some x => exact absurd (findField_of_lookupVal fs vs i x.1 x.2.1 x.2.2 hl) (by rw [(findField_none fs i).2 h]; simp)

theorem lookupVal_tail {a : FAttr} {t : FTy} {fs : Fields} {v : Val} {vs : List Val} {i : Nat} {x : FAttr × FTy × Val}
    (hnd : (liveIdxs ((a, t) :: fs)).Nodup) (h : lookupVal fs vs i = some x) :
    lookupVal ((a, t) :: fs) (v :: vs) i = some x := by
  rw [lookupVal_cons_of_ne fun e => ?_, h]
  rw [lookupVal_none_of_not_mem fs vs i (e.2 ▸ (nodup_liveIdxs_cons hnd).1 e.1)] at h
  cases h

theorem lookupVal_none (fs : Fields) (vs : List Val) (i : Nat) (h : hasFields fs vs = true) :
    lookupVal fs vs i = none ↔ i ∉ liveIdxs fs := by
  refine ⟨?_, lookupVal_none_of_not_mem fs vs i⟩
  fun_induction lookupVal fs vs i with
  | case1 => simp
  | case2 a t fs v vs i hc ih =>
    simp only [hasFields, Bool.and_eq_true] at h
    simp only [Bool.and_eq_true, Bool.not_eq_true', beq_iff_eq] at hc
    simpa [mem_liveIdxs_cons, hc] using ih h.2
  | case3 fs vs i hno =>
    match fs, vs, h with
    | [], [], _ => simp [liveIdxs]
    | (a, t) :: fs, v :: vs, _ => exact absurd rfl (hno a t fs v vs rfl)

theorem live_lookup (fs : Fields) (vs : List Val) (hty : hasFields fs vs = true) (i : Nat) (hi : i ∈ liveIdxs fs) :
    ∃ a t v, lookupVal fs vs i = some (a, t, v) := by
  cases hl : lookupVal fs vs i with
  | none => exact absurd hi ((lookupVal_none fs vs i hty).1 hl)
  | some x => exact ⟨x.1, x.2.1, x.2.2, rfl⟩

theorem lookupVal_unique (fs : Fields) (vs : List Val) (hnd : (liveIdxs fs).Nodup) (b : FAttr) (u : FTy)
    (hbu : (b, u) ∈ fs) (hbs : b.skip = false) (a : FAttr) (t : FTy) (v : Val)
    (hl : lookupVal fs vs b.idx = some (a, t, v)) : a = b ∧ t = u := by
  have := findField_of_mem fs b u hnd hbu hbs
  rw [findField_of_lookupVal fs vs b.idx a t v hl] at this
  cases this
  exact ⟨rfl, rfl⟩

theorem lookupVal_of_field (fs : Fields) (vs : List Val) (b : FAttr) (u : FTy) (hnd : (liveIdxs fs).Nodup)
    (hty : hasFields fs vs = true) (hbu : (b, u) ∈ fs) (hbs : b.skip = false) : ∃ v, lookupVal fs vs b.idx = some (b, u, v) := by
  obtain ⟨a, t, v, hl⟩ := live_lookup fs vs hty b.idx (mem_liveIdxs fs b u hbu hbs)
  obtain ⟨rfl, rfl⟩ := lookupVal_unique fs vs hnd b u hbu hbs a t v hl
  exact ⟨v, hl⟩

theorem lookupVal_find (fs : Fields) (vs : List Val) (i : Nat) (h : hasFields fs vs = true) :
    (specFields fs vs).find? (fun p => p.idx == i) =
      (lookupVal fs vs i).map fun x => ⟨x.1.idx, x.1.tag, specAbsent x.1 x.2.2, specWith x.1.codec (specTy x.2.1) x.2.2⟩ := by
  fun_induction lookupVal fs vs i with
  | case1 a t fs v vs i hc =>
    simp only [Bool.and_eq_true, Bool.not_eq_true', beq_iff_eq] at hc
    simp only [specFields, hc, Bool.false_eq_true, ↓reduceIte, BEq.rfl, List.find?_cons_of_pos, Option.map_some]
  | case2 a t fs v vs i hc ih =>
    simp only [hasFields, Bool.and_eq_true] at h
    cases hs : a.skip
    · simp only [hs, Bool.not_false, Bool.true_and] at hc
      simp only [specFields, hs, Bool.false_eq_true, ↓reduceIte, hc, not_false_eq_true, List.find?_cons_of_neg, ih h.2]
    · simp only [specFields, hs, ↓reduceIte, ih h.2]
  | case3 fs vs i hno =>
    match fs, vs, h with
    | [], [], _ => rfl
    | (a, t) :: fs, v :: vs, _ => exact absurd rfl (hno a t fs v vs rfl)

theorem mem_encFields_cons {a : FAttr} {t : FTy} {fs : Fields} {v : Val} {vs : List Val} {p : Piece Bytes} :
    p ∈ encFields ((a, t) :: fs) (v :: vs) ↔
      (a.skip = false ∧ p = ⟨a.idx, a.tag, isNilField a t v, encWith a.codec (encTy t) v⟩) ∨ p ∈ encFields fs vs := by
  rw [encFields_cons]
  cases a.skip <;> simp

theorem lookupVal_mem (fs : Fields) (vs : List Val) (i : Nat) (a : FAttr) (t : FTy) (v : Val)
    (h : lookupVal fs vs i = some (a, t, v)) :
    a.skip = false ∧ a.idx = i ∧ (⟨a.idx, a.tag, isNilField a t v, encWith a.codec (encTy t) v⟩ : Piece Bytes) ∈ encFields fs vs := by
  have hf := findField_mem fs i a t (findField_of_lookupVal fs vs i a t v h)
  refine ⟨hf.2.1, hf.2.2, ?_⟩
  clear hf
  fun_induction lookupVal fs vs i with
  | case1 a' t' fs v' vs i hc =>
    cases h
    simp only [Bool.and_eq_true, Bool.not_eq_true', beq_iff_eq] at hc
    exact mem_encFields_cons.2 (Or.inl ⟨hc.1, rfl⟩)
  | case2 _ _ _ _ _ _ _ ih => exact mem_encFields_cons.2 (Or.inr (ih h))
  | case3 => cases h

theorem lookupVal_of_mem : ∀ (fs : Fields) (vs : List Val) (p : Piece Bytes), (liveIdxs fs).Nodup →
    p ∈ encFields fs vs → ∃ a t v, lookupVal fs vs p.idx = some (a, t, v) ∧
      p = ⟨a.idx, a.tag, isNilField a t v, encWith a.codec (encTy t) v⟩
  | [], vs, p, _, h => by cases vs <;> simp [encFields] at h
  | (a', t') :: fs, [], p, _, h => by simp [encFields] at h
  | (a', t') :: fs, v' :: vs, p, hnd, h => by
    have hnd' := nodup_liveIdxs_cons hnd
    rcases mem_encFields_cons.1 h with ⟨hs, rfl⟩ | h
    · exact ⟨a', t', v', by simp [lookupVal, hs], rfl⟩
    · obtain ⟨a, t, v, h1, h2⟩ := lookupVal_of_mem fs vs p hnd'.2 h
      refine ⟨a, t, v, ?_, h2⟩
      rw [lookupVal_cons_of_ne (fun e => hnd'.1 e.1 (e.2 ▸ encFields_idx_live fs vs p h)), h1]

theorem lookupVal_rt (fs : Fields) (vs : List Val) (i : Nat) (a : FAttr) (t : FTy) (v : Val)
    (hrt : FieldsRT fs vs) (h : lookupVal fs vs i = some (a, t, v)) :
    ∀ r, decWith a.codec (decTy t) (encWith a.codec (encTy t) v ++ r) = .ok (withDefaults t v) r :=
  lookupVal_elim (F := FieldsRT) (fun _ _ _ _ _ h => h) fs vs i a t v hrt h

theorem acceptedFields_mem : ∀ (gs : Fields) (b : FAttr) (u : FTy), acceptedFields gs = true → (b, u) ∈ gs →
    fieldAttrOk b u = true ∧ accField u = true
  | (b', u') :: gs, b, u, ha, h => by
    rw [acceptedFields_cons, Bool.and_eq_true, Bool.and_eq_true] at ha
    rcases List.mem_cons.1 h with e | h'
    · cases e; exact ha.1
    · exact acceptedFields_mem gs b u ha.2 h'

theorem fieldOk_of_mem (gs : Fields) (b : FAttr) (u : FTy) (ha : acceptedFields gs = true) (h : (b, u) ∈ gs)
    (hs : b.skip = false) : tagOk b.tag = true ∧ codecOk b.codec u = true :=
  (fieldAttrOk_live (acceptedFields_mem gs b u ha h).1 hs).2

theorem accField_of_mem (gs : Fields) (b : FAttr) (u : FTy) (ha : acceptedFields gs = true) (h : (b, u) ∈ gs) :
    accField u = true :=
  (acceptedFields_mem gs b u ha h).2

theorem lookupVal_hasTy (fs : Fields) (vs : List Val) (i : Nat) (a : FAttr) (t : FTy) (v : Val)
    (hv : hasFields fs vs = true) (h : lookupVal fs vs i = some (a, t, v)) : hasTy t v = true :=
  lookupVal_elim (F := fun fs vs => hasFields fs vs = true) (Q := fun _ t v => hasTy t v = true)
    (fun _ _ _ _ _ h => ⟨fun _ => (Bool.and_eq_true_iff.1 h).1, (Bool.and_eq_true_iff.1 h).2⟩) fs vs i a t v hv h

theorem lookupVal_typed (fs : Fields) (vs : List Val) (i : Nat) (a : FAttr) (t : FTy) (v : Val)
    (ha : acceptedFields fs = true) (hv : hasFields fs vs = true) (h : lookupVal fs vs i = some (a, t, v)) :
    codecOk a.codec t = true ∧ hasTy t v = true ∧ tagOk a.tag = true := by
  obtain ⟨hm, hs, _⟩ := findField_mem fs i a t (findField_of_lookupVal fs vs i a t v h)
  obtain ⟨h1, h2⟩ := fieldOk_of_mem fs a t ha hm hs
  exact ⟨h2, lookupVal_hasTy fs vs i a t v hv h, h1⟩

/-! ### the writer's body, cell by cell -/

theorem lookupVal_body_spec (fs : Fields) (vs : List Val) (i : Nat) (a : FAttr) (t : FTy) (v : Val)
    (hacc : acceptedFields fs = true) (hty : hasFields fs vs = true) (hl : lookupVal fs vs i = some (a, t, v)) :
    encWith a.codec (encTy t) v = encPref (specWith a.codec (specTy t) v) := by
  obtain ⟨hc, hv, _⟩ := lookupVal_typed fs vs i a t v hacc hty hl
  refine C08.with_spec a t v hc hv ?_
  rcases Bool.or_eq_true_iff.1 (accField_of_mem fs a t hacc (lookupVal_fst_mem fs vs i a t v hl)) with hb | ha
  · exact C08.blob_spec t v hb hv
  · exact C08.enc_spec t v ha hv

theorem cellAt_lookup (fs : Fields) (vs : List Val) (hty : hasFields fs vs = true) (i : Nat) (a : FAttr) (t : FTy) (v : Val)
    (hl : lookupVal fs vs i = some (a, t, v)) :
    cellAt (specFields fs vs) i = tagI a.tag (specWith a.codec (specTy t) v) := by
  unfold cellAt
  rw [lookupVal_find fs vs i hty, hl]
  rfl

theorem cellAt_gap (fs : Fields) (vs : List Val) (hty : hasFields fs vs = true) (i : Nat) (hl : i ∉ liveIdxs fs) :
    cellAt (specFields fs vs) i = nullI := by
  unfold cellAt
  rw [lookupVal_find fs vs i hty, (lookupVal_none fs vs i hty).2 hl]
  rfl

theorem cellAt_some (fs : Fields) (vs : List Val) (i : Nat) (a : FAttr) (t : FTy) (v : Val)
    (hacc : acceptedFields fs = true) (hty : hasFields fs vs = true) (hl : lookupVal fs vs i = some (a, t, v)) :
    encPref (cellAt (specFields fs vs) i) = tagBytes a.tag ++ encWith a.codec (encTy t) v := by
  rw [cellAt_lookup fs vs hty i a t v hl, lookupVal_body_spec fs vs i a t v hacc hty hl]
  exact encPref_tagI _ _

theorem cellAt_none (fs : Fields) (vs : List Val) (i : Nat) (hty : hasFields fs vs = true) (hl : lookupVal fs vs i = none) :
    encPref (cellAt (specFields fs vs) i) = Enc.null := by
  rw [cellAt_gap fs vs hty i ((lookupVal_none fs vs i hty).1 hl)]
  rfl

theorem le_maxPresent (fs : Fields) (vs : List Val) (hacc : acceptedFields fs = true) (hty : hasFields fs vs = true)
    (i : Nat) (a : FAttr) (t : FTy) (v : Val) (hl : lookupVal fs vs i = some (a, t, v)) (hn : isNilField a t v = false) :
    ∃ m, maxPresent (specFields fs vs) = some m ∧ i ≤ m := by
  obtain ⟨_, hai, hmem⟩ := lookupVal_mem fs vs i a t v hl
  rw [C08.fields_spec fs vs hacc hty] at hmem
  obtain ⟨q, hq, hqe⟩ := List.mem_map.1 hmem
  have e : q.nil = false := by rw [← hn]; exact congrArg Piece.nil hqe
  have e2 : q.idx = i := by rw [← hai]; exact congrArg Piece.idx hqe
  cases hm : maxPresent (specFields fs vs) with
  | none => rw [maxPresent_none hm q hq] at e; cases e
  | some m => exact ⟨m, rfl, e2 ▸ maxPresent_ge hm q hq e⟩

/-! ### variant rows -/

/-- the `body` of `decVars`: the row of a variant after its index has been matched. -/
def varBody (e : EAttr) (va : VAttr) (fs : Fields) : Dec (List Val) :=
  match va.shape with
  | .unit =>
      if e.indexOnly then pure []
      else do tagCheck va.tag; Dec.skip; pure []
  | _ => do tagCheck va.tag; fieldsDec (va.enc.getD (e.enc.getD .array)) (decFields fs)

theorem decVars_cons (e : EAttr) (va : VAttr) (fs : Fields) (rest : Variants) :
    decVars e ((va, fs) :: rest) = ⟨va, varBody e va fs⟩ :: decVars e rest := by
  simp only [decVars, varBody]
  rfl

theorem acceptedVars_mem (e : EAttr) : ∀ (us : Variants) (vb : VAttr) (gs : Fields), acceptedVars e us = true → (vb, gs) ∈ us →
    vb.idx < U32 ∧ tagOk vb.tag = true ∧ acceptedFields gs = true ∧ (liveIdxs gs).Nodup ∧
    (vb.shape = .unit → gs = []) ∧ (e.indexOnly = true → vb.shape = .unit)
  | [], _, _, _, h => by simp at h
  | (va, fs) :: rest, vb, gs, ha, h => by
    simp only [acceptedVars, Bool.and_eq_true, decide_eq_true_eq] at ha
    obtain ⟨⟨⟨⟨⟨⟨hidx, htag⟩, hacc⟩, hnd⟩, hunit⟩, hio⟩, hrest⟩ := ha
    rcases List.mem_cons.1 h with e1 | h
    · cases e1
      refine ⟨hidx, htag, hacc, nodupNat_nodup _ hnd, ?_, ?_⟩
      · intro hs; simpa [hs] using hunit
      · intro hi; simpa [hi] using hio
    · exact acceptedVars_mem e rest vb gs hrest h

def nthFields : Variants → Nat → Fields
  | [], _ => []
  | (_, fs) :: _, 0 => fs
  | _ :: rest, k + 1 => nthFields rest k

theorem hasVars_nth : ∀ (vars : Variants) (k : Nat) (vs : List Val), hasVars vars k vs = true →
    ∃ va, vars[k]? = some (va, nthFields vars k) ∧ hasFields (nthFields vars k) vs = true ∧
      defaultsVars vars k vs = defaultsFields (nthFields vars k) vs
  | [], _, _, h => by simp [hasVars] at h
  | (va, fs) :: rest, 0, vs, h => by
    simp only [hasVars] at h
    exact ⟨va, by simp [nthFields], by simpa [nthFields] using h, by simp [defaultsVars, nthFields]⟩
  | (va, fs) :: rest, k + 1, vs, h => by
    simp only [hasVars] at h
    obtain ⟨va', h1, h2, h3⟩ := hasVars_nth rest k vs h
    exact ⟨va', by simpa [nthFields] using h1, by simpa [nthFields] using h2, by simpa [defaultsVars, nthFields] using h3⟩

theorem hasFields_nth (vars : Variants) (k : Nat) (vs : List Val) (h : hasVars vars k vs = true) :
    hasFields (nthFields vars k) vs = true :=
  let ⟨_, _, h, _⟩ := hasVars_nth vars k vs h; h

theorem acceptedFields_nth (e : EAttr) : ∀ (vars : Variants) (k : Nat), acceptedVars e vars = true →
    acceptedFields (nthFields vars k) = true
  | [], _, _ => rfl
  | (va, fs) :: rest, 0, ha => (acceptedVars_mem e _ va fs ha List.mem_cons_self).2.2.1
  | (va, fs) :: rest, k + 1, ha => by
    simp only [acceptedVars, Bool.and_eq_true] at ha
    exact acceptedFields_nth e rest k ha.2

theorem findVariant_findVar (e : EAttr) : ∀ (us : Variants) (p i pos : Nat) (vb : VAttr) (gs : Fields),
    findVar us p i = some (pos, vb, gs) →
    ∀ bs, findVariant (decVars e us) p i bs = (do let vs ← varBody e vb gs; pure (Val.enum pos vs) : Dec Val) bs
  | [], _, _, _, _, _, h => by simp [findVar] at h
  | (va, fs) :: rest, p, i, pos, vb, gs, h => by
    intro bs
    simp only [findVar] at h
    rw [decVars_cons]
    simp only [findVariant]
    split at h
    · rename_i hc
      cases h
      simp only [hc, if_true]
    · rename_i hc
      simp only [hc]
      exact findVariant_findVar e rest (p + 1) i pos vb gs h bs

theorem findVar_none (us : Variants) (p i : Nat) : findVar us p i = none ↔ i ∉ us.map (·.1.idx) := by
  fun_induction findVar us p i with
  | case1 => simp
  | case2 va fs rest pos i hc => simp only [beq_iff_eq] at hc; simp [hc]
  | case3 va fs rest pos i hc ih =>
    simp only [beq_iff_eq] at hc
    have : ¬ i = va.idx := fun e => hc e.symm
    simp [ih, this]

theorem findVar_mem : ∀ (us : Variants) (p i pos : Nat) (vb : VAttr) (gs : Fields),
    findVar us p i = some (pos, vb, gs) → (vb, gs) ∈ us ∧ vb.idx = i
  | [], _, _, _, _, _, h => by simp [findVar] at h
  | (va, fs) :: rest, p, i, pos, vb, gs, h => by
    simp only [findVar] at h
    split at h
    · rename_i hc
      cases h
      exact ⟨by simp, by simpa using hc⟩
    · obtain ⟨h1, h2⟩ := findVar_mem rest (p + 1) i pos vb gs h
      exact ⟨by simp [h1], h2⟩

theorem findVar_nth : ∀ (vars : Variants) (k pos : Nat) (va : VAttr) (fs : Fields),
    (vars.map (·.1.idx)).Nodup → vars[k]? = some (va, fs) → findVar vars pos va.idx = some (pos + k, va, fs)
  | [], _, _, _, _, _, h => by simp at h
  | (va', fs') :: rest, 0, pos, va, fs, _, h => by
    simp at h
    obtain ⟨rfl, rfl⟩ := h
    simp [findVar]
  | (va', fs') :: rest, k + 1, pos, va, fs, hnd, h => by
    simp at h
    have hnd' : va'.idx ∉ rest.map (·.1.idx) ∧ (rest.map (·.1.idx)).Nodup := List.nodup_cons.1 hnd
    have hne : va'.idx ≠ va.idx := fun e => hnd'.1 (e ▸ List.mem_map.2 ⟨(va, fs), List.mem_of_getElem? h, rfl⟩)
    rw [findVar, if_neg (by simpa using hne), findVar_nth rest k (pos + 1) va fs hnd'.2 h, Nat.add_assoc, Nat.add_comm 1 k]

theorem findVariant_nth (e : EAttr) (vars : Variants) (k pos : Nat) (va : VAttr) (fs : Fields)
    (hnd : (vars.map (·.1.idx)).Nodup) (h : vars[k]? = some (va, fs)) :
    ∀ bs, findVariant (decVars e vars) pos va.idx bs = (do let vs ← varBody e va fs; pure (Val.enum (pos + k) vs) : Dec Val) bs :=
  findVariant_findVar e vars pos va.idx (pos + k) va fs (findVar_nth vars k pos va fs hnd h)

end Minicbor.Derive

namespace Minicbor.C09
open Minicbor.Derive Minicbor.Dec

/-! ### enum rows -/

def varIdx : Variants → Nat → Nat
  | [], _ => 0
  | (va, _) :: _, 0 => va.idx
  | _ :: rest, k + 1 => varIdx rest k

def rowBytes (e : EAttr) : Variants → Nat → List Derive.Val → Bytes
  | [], _, _ => []
  | (va, fs) :: _, 0, vs =>
      let enc := va.enc.getD (e.enc.getD .array)
      match va.shape with
      | .unit => if e.indexOnly then [] else tagBytes va.tag ++ emptyBody enc
      | _ => tagBytes va.tag ++ frame enc (encFields fs vs)
  | _ :: rest, k + 1, vs => rowBytes e rest k vs

theorem encVars_eq (e : EAttr) : ∀ (vars : Variants) (k : Nat) (vs : List Derive.Val),
    acceptedVars e vars = true → hasVars vars k vs = true →
    encVars e vars k vs =
      (if e.indexOnly then [] else Enc.array 2) ++ (Enc.u32 (varIdx vars k) ++ rowBytes e vars k vs)
  | [], _, _, _, h => by simp [hasVars] at h
  | (va, fs) :: rest, 0, vs, ha, _ => by
    simp only [acceptedVars, Bool.and_eq_true] at ha
    have hio := ha.1.2
    cases hsh : va.shape <;> cases hix : e.indexOnly <;>
      simp [encVars, varIdx, rowBytes, hsh, hix] <;> simp [hix, hsh] at hio
  | (va, fs) :: rest, k + 1, vs, ha, hv => by
    simp only [acceptedVars, Bool.and_eq_true] at ha
    simp only [hasVars] at hv
    simp only [encVars, varIdx, rowBytes]
    exact encVars_eq e rest k vs ha.2 hv

theorem row_nth (e : EAttr) : ∀ (vars : Variants) (k : Nat) (vs : List Derive.Val) (va : VAttr) (fs : Fields),
    vars[k]? = some (va, fs) → varIdx vars k = va.idx ∧ rowBytes e vars k vs = rowBytes e [(va, fs)] 0 vs
  | [], _, _, _, _, h => by simp at h
  | _ :: _, 0, _, _, _, h => by
    simp at h
    subst h
    exact ⟨rfl, rfl⟩
  | _ :: rest, k + 1, vs, va, fs, h => by
    simpa [varIdx, rowBytes] using row_nth e rest k vs va fs (by simpa using h)

theorem findVariant_unknown : ∀ (vds : List VDec) (pos i : Nat) (r : Bytes), (∀ vd ∈ vds, vd.a.idx ≠ i) →
    findVariant vds pos i r = .err .variant r
  | [], _, _, _, _ => rfl
  | vd :: vds, pos, i, r, h => by
    have : (vd.a.idx == i) = false := by simpa using h vd (by simp)
    simp only [findVariant, this, Bool.false_eq_true, if_false]
    exact findVariant_unknown vds (pos + 1) i r (fun v hv => h v (by simp [hv]))

theorem decVars_idx (e : EAttr) : ∀ (vars : Variants) (vd : VDec), vd ∈ decVars e vars → vd.a.idx ∈ vars.map (·.1.idx)
  | [], vd, h => by simp [decVars] at h
  | (va, fs) :: rest, vd, h => by
    simp only [decVars, List.mem_cons] at h
    rcases h with rfl | h
    · simp
    · simp only [List.map_cons, List.mem_cons]; right; exact decVars_idx e rest vd h

theorem noClashVars_nth : ∀ (vars : Variants) (k : Nat) (vs : List Derive.Val),
    noClashVars vars k vs = noClashFields (nthFields vars k) vs
  | [], _, _ => by simp [noClashVars, nthFields, noClashFields]
  | _ :: _, 0, _ => rfl
  | _ :: rest, k + 1, vs => by
    simp only [noClashVars, nthFields]
    exact noClashVars_nth rest k vs

end Minicbor.C09
