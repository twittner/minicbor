/-
  Lemmas for the `AsyncWriter` model: what the `sync` loop does to the frame in the buffer,
  for every sink script (induction over scripts of arbitrary length and content).
-/
import Minicbor.Lemmas.FrameIO

namespace Minicbor.Frame

theorem syncLoop_done (B : Bytes) (ml o : Nat) (out : Bytes) (sc : List Ev) (h : o ≥ B.length) :
    syncLoop ⟨.writeFrom o, B, ml⟩ out sc = (.ready (.ok ()), ⟨.none, B, ml⟩, ⟨out, sc⟩) := by
  rw [syncLoop]; simp only [h, if_true]

theorem syncLoop_idle (B : Bytes) (ml : Nat) (out : Bytes) (sc : List Ev) :
    syncLoop ⟨.none, B, ml⟩ out sc = (.ready (.ok ()), ⟨.none, B, ml⟩, ⟨out, sc⟩) := by
  rw [syncLoop]

theorem syncLoop_cons (B : Bytes) (ml o : Nat) (out : Bytes) (ev : Ev) (sc : List Ev) (h : o < B.length) :
    syncLoop ⟨.writeFrom o, B, ml⟩ out (ev :: sc) =
      match ev with
      | .pend => (.pending, ⟨.writeFrom o, B, ml⟩, ⟨out, sc⟩)
      | .intr => (.ready (.error (.io .interrupted)), ⟨.writeFrom o, B, ml⟩, ⟨out, sc⟩)
      | .fail => (.ready (.error (.io .other)), ⟨.writeFrom o, B, ml⟩, ⟨out, sc⟩)
      | .zero => (.ready (.error (.io .writeZero)), ⟨.writeFrom o, B, ml⟩, ⟨out, sc⟩)
      | .io k =>
        if min k (B.length - o) = 0 then (.ready (.error (.io .writeZero)), ⟨.writeFrom o, B, ml⟩, ⟨out, sc⟩)
        else syncLoop ⟨.writeFrom (o + min k (B.length - o)), B, ml⟩
          (out ++ (B.drop o).take (min k (B.length - o))) sc := by
  conv => lhs; rw [syncLoop]
  cases ev <;> simp [Nat.not_le.mpr h]

theorem syncLoop_spec (B : Bytes) (ml : Nat) : ∀ (sc : List Ev) (o : Nat) (out : Bytes), o < B.length →
    (∃ sc', syncLoop ⟨.writeFrom o, B, ml⟩ out sc =
        (.ready (.ok ()), ⟨.none, B, ml⟩, ⟨out ++ B.drop o, sc'⟩)) ∨
    (∃ x o' sc', syncLoop ⟨.writeFrom o, B, ml⟩ out sc =
        (x, ⟨.writeFrom o', B, ml⟩, ⟨out ++ (B.drop o).take (o' - o), sc'⟩) ∧
      o ≤ o' ∧ o' < B.length ∧ (x = .pending ∨ ∃ k, x = .ready (.error (.io k)))) := by
  intro sc
  induction sc with
  | nil =>
    intro o out h
    exact .inr ⟨.pending, o, [], by simp [syncLoop, Nat.not_le.mpr h], Nat.le_refl _, h, .inl rfl⟩
  | cons ev sc ih =>
    intro o out h
    rw [syncLoop_cons B ml o out ev sc h]
    have stop : ∀ x : Poll (Except FErr Unit), (x = .pending ∨ ∃ k, x = .ready (.error (.io k))) →
        ∃ x' o' sc', (x, (⟨.writeFrom o, B, ml⟩ : AWCore), (⟨out, sc⟩ : Snk)) =
          (x', ⟨.writeFrom o', B, ml⟩, ⟨out ++ (B.drop o).take (o' - o), sc'⟩) ∧
          o ≤ o' ∧ o' < B.length ∧ (x' = .pending ∨ ∃ k, x' = .ready (.error (.io k))) :=
      fun x hx => ⟨x, o, sc, by simp, Nat.le_refl _, h, hx⟩
    cases ev with
    | pend => exact .inr (stop _ (.inl rfl))
    | intr | fail | zero => exact .inr (stop _ (.inr ⟨_, rfl⟩))
    | io k =>
      dsimp only
      split
      · exact .inr (stop _ (.inr ⟨_, rfl⟩))
      · generalize hnn : min k (B.length - o) = n at *
        by_cases hend : o + n = B.length
        · refine .inl ⟨sc, ?_⟩
          rw [syncLoop_done B ml (o + n) _ sc (by omega), List.take_of_length_le (by simp; omega)]
        · rcases ih (o + n) (out ++ (B.drop o).take n) (by omega) with ⟨sc', h1⟩ | ⟨x, o', sc', h1, h2, h3, h4⟩
          · refine .inl ⟨sc', ?_⟩
            rw [h1, List.append_assoc, ← List.drop_drop, List.take_append_drop]
          · refine .inr ⟨x, o', sc', ?_, by omega, h3, h4⟩
            rw [h1, List.append_assoc, ← List.drop_drop, ← List.take_add,
              show n + (o' - (o + n)) = o' - o by omega]

end Minicbor.Frame
