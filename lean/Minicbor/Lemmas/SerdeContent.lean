/-
  Lemmas for C17: the second pass, behind serde's `Content` buffer.  `cv v` is what the buffer holds for
  `ser v`, a function of `v` alone, so reading back from the buffer is stated like reading back from the wire
  with `cv` in place of `ser`: if the element readers return `v` on `cv v` (`AllRtC`, `PairsRtC`), so do the
  loops and the struct visitor over them.  The tables of field and variant readers are all `zipWith`s over
  the names, so a lookup in any of them is `findShape` (`find_zipWith`).
-/
import Minicbor.Lemmas.SerdeWire

namespace Minicbor.C17
open Minicbor.Serde Minicbor.Dec

@[simp] theorem cres_ok_bind (a : α) (f : α → CRes β) : (CRes.ok a >>= f) = f a := rfl
@[simp] theorem cres_pure (a : α) : (pure a : CRes α) = .ok a := rfl

theorem cvs_nil : cvs [] = [] := rfl
theorem cvs_cons (x : SVal) (xs : List SVal) : cvs (x :: xs) = cv x :: cvs xs := rfl
theorem cv_str (s : Bytes) : cv (.str s) = .str s := rfl
theorem cv_seq (k : Bool) (xs : List SVal) : cv (.seq k xs) = .seq (cvs xs) := by cases k <;> rfl
theorem cv_tuple (xs : List SVal) : cv (.tuple xs) = .seq (cvs xs) := rfl
theorem cv_tupleStruct (xs : List SVal) : cv (.tupleStruct xs) = .seq (cvs xs) := rfl
theorem cv_map (k : Bool) (kvs : List SVal) : cv (.map k kvs) = .map (cvs kvs) := by cases k <;> rfl
theorem cv_struct (kvs : List SVal) : cv (.struct kvs) = .map (cvs kvs) := rfl

theorem cv_int (k : IntKind) (v : Int) : ∃ k', cv (.int k v) = .int k' v := by
  unfold cv toW intW
  split
  · exact ⟨_, by simp only [cOfW]; congr 1; omega⟩
  · exact ⟨_, by simp only [cOfW]; congr 1; omega⟩

theorem cv_ne_none (v : SVal) (hok : vok v = true) (hn : nullLike v = false) : cv v ≠ .none := by
  intro h
  have hw : toW v = .simple 22 := by
    have hany := toW_anyOk v hok
    unfold cv at h
    cases hv : toW v <;> rw [hv] at h hany <;> simp only [cOfW] at h <;> try cases h
    · cases hany
    · split at h
      · rename_i hn; simp at hn; rw [hn]
      · cases h
  rw [toW_null v hw] at hn; cases hn


theorem fromC_int (k k' : IntKind) (own : Bool) (v : Int) :
    fromC (.int k) own (.int k' v) = if k.lo ≤ v && v ≤ k.hi then pure (.int k v) else .fail := rfl
theorem fromC_newtype (t : SType) (own : Bool) (c : Content) :
    fromC (.newtype t) own c = (fromC t own c >>= fun v => pure (.newtypeStruct v)) := rfl
theorem fromC_seq (k : Bool) (t : SType) (own : Bool) (xs : List Content) :
    fromC (.seq k t) own (.seq xs) = (cEach (fromC t own) xs >>= fun vs => pure (.seq k vs)) := rfl
theorem fromC_tuple (ts : List SType) (own : Bool) (xs : List Content) :
    fromC (.tuple ts) own (.seq xs) = (cAll (fromCs ts own) xs >>= fun vs => pure (.tuple vs)) := rfl
theorem fromC_tupleStruct (ts : List SType) (own : Bool) (xs : List Content) :
    fromC (.tupleStruct ts) own (.seq xs) = (cAll (fromCs ts own) xs >>= fun vs => pure (.tupleStruct vs)) := rfl
theorem fromC_map (k : Bool) (kt vt : SType) (own : Bool) (kvs : List Content) :
    fromC (.map k kt vt) own (.map kvs) = (cPairs (fromC kt own) (fromC vt own) kvs >>= fun es => pure (.map k (mkMap [] es))) := rfl
theorem fromC_struct (names : List Bytes) (ts : List SType) (own : Bool) (c : Content) :
    fromC (.struct names ts) own c = (cStruct (fieldCs names ts own) true c >>= fun kvs => pure (.struct kvs)) := rfl
theorem fromC_enum (names : List Bytes) (vs : List VShape) (own : Bool) (c : Content) :
    fromC (.enum names vs) own c = cEnum (varCs names vs own) c := rfl

theorem varC_newtype (n : Bytes) (t : SType) (own : Bool) (c : Content) :
    varC n (.newtype t) own (some c) = (fromC t own c >>= fun v => pure (.newtypeVariant n v)) := rfl
theorem varC_tuple (n : Bytes) (ts : List SType) (own : Bool) (xs : List Content) :
    varC n (.tuple ts) own (some (.seq xs)) = (cAll (fromCs ts own) xs >>= fun vs => pure (.tupleVariant n vs)) := rfl
theorem varC_struct (n : Bytes) (names : List Bytes) (ts : List SType) (own : Bool) (c : Content) :
    varC n (.struct names ts) own (some c) = (cStruct (fieldCs names ts own) true c >>= fun kvs => pure (.structVariant n kvs)) := rfl

theorem fromC_option_some (t : SType) (own : Bool) (c : Content) (h : c ≠ .none) :
    fromC (.option t) own c = (fromC t own c >>= fun v => pure (.some v)) := by
  cases c <;> first | rfl | exact absurd rfl h

def AllRtC : List (Content → CRes SVal) → List SVal → Prop
  | f :: fs, v :: vs => f (cv v) = .ok v ∧ AllRtC fs vs
  | [], [] => True
  | _, _ => False

theorem allRtC_length : (fs : List (Content → CRes SVal)) → (vs : List SVal) → AllRtC fs vs → fs.length = vs.length
  | [], [], _ => rfl
  | [], _ :: _, h | _ :: _, [], h => h.elim
  | _ :: fs, _ :: vs, h => by simp [allRtC_length fs vs h.2]

theorem cAll_rt : (fs : List (Content → CRes SVal)) → (vs : List SVal) → AllRtC fs vs → cAll fs (cvs vs) = .ok vs
  | [], [], _ => rfl
  | [], _ :: _, h | _ :: _, [], h => h.elim
  | f :: fs, v :: vs, h => by simp [cvs_cons, cAll, h.1, cAll_rt fs vs h.2]

theorem cEach_rt (f : Content → CRes SVal) : (vs : List SVal) → (∀ v ∈ vs, f (cv v) = .ok v) → cEach f (cvs vs) = .ok vs
  | [], _ => rfl
  | v :: vs, h => by
    simp [cvs_cons, cEach, h v (by simp), cEach_rt f vs (fun x hx => h x (by simp [hx]))]

def PairsRtC (fk fv : Content → CRes SVal) : List SVal → Prop
  | k :: v :: rest => fk (cv k) = .ok k ∧ fv (cv v) = .ok v ∧ PairsRtC fk fv rest
  | [] => True
  | [_] => False

theorem cPairs_rt (fk fv : Content → CRes SVal) : (kvs : List SVal) → PairsRtC fk fv kvs → cPairs fk fv (cvs kvs) = .ok kvs
  | [], _ => rfl
  | [_], h => h.elim
  | k :: v :: rest, h => by
    simp [cvs_cons, cPairs, h.1, h.2.1, cPairs_rt fk fv rest h.2.2]

def cKvs : List Bytes → List SVal → List Content
  | n :: ns, v :: vs => .str n :: cv v :: cKvs ns vs
  | _, _ => []

theorem cvs_mkKvs : (ns : List Bytes) → (vs : List SVal) → cvs (mkKvs ns vs) = cKvs ns vs
  | [], _ | _ :: _, [] => rfl
  | n :: ns, v :: vs => by simp only [mkKvs, cvs_cons, cKvs, cvs_mkKvs ns vs, cv_str]

theorem cStructLoop_rt (all : List FieldDec) (hnd : (all.map (·.name)).Nodup) :
    (suf : List FieldDec) → (vs : List SVal) → (∀ f ∈ suf, f ∈ all) → (suf.map (·.name)).Nodup →
    AllRtC (suf.map (·.fromC)) vs → ∀ (fd : Found), (∀ n ∈ suf.map (·.name), fd.has n = false) →
    cStructLoop all (cKvs (suf.map (·.name)) vs) fd = .ok (fd ++ pairsOf (suf.map (·.name)) vs)
  | [], [], _, _, _, fd, _ => by simp [cKvs, cStructLoop, pairsOf]
  | [], _ :: _, _, _, h, _, _ | _ :: _, [], _, _, h, _, _ => h.elim
  | f :: suf, v :: vs, hsub, hnds, hrt, fd, hfresh => by
    have ih := cStructLoop_rt all hnd suf vs (fun g hg => hsub g (by simp [hg])) (List.nodup_cons.mp hnds).2 hrt.2
      (fd ++ [(f.name, v)]) (fresh_cons v hnds hfresh)
    simp only [List.map_cons, cKvs, cStructLoop, cFieldId, findField_mem all hnd f (hsub f (by simp)),
      hfresh f.name (by simp), Bool.false_eq_true, if_false, hrt.1, cres_ok_bind, ih]
    simp [pairsOf]

theorem cStructMap_rt (fs : List FieldDec) (hnd : (fs.map (·.name)).Nodup) (vs : List SVal)
    (hrt : AllRtC (fs.map (·.fromC)) vs) :
    cStructMap fs (cKvs (fs.map (·.name)) vs) = .ok (mkKvs (fs.map (·.name)) vs) := by
  have hl : fs.length = vs.length := by simpa using allRtC_length _ _ hrt
  have hloop := cStructLoop_rt fs hnd fs vs (fun _ h => h) hnd hrt [] (fun _ _ => rfl)
  have hfin := finish_rt fs vs hl hnd [] [] (fun _ _ => rfl)
  simp only [List.nil_append, List.append_nil] at hloop hfin
  simp [cStructMap, hloop, hfin]


theorem fieldDecs_spec : (names : List Bytes) → (ts : List SType) → names.length = ts.length →
    (fieldDecs names ts).map (·.name) = names ∧ (fieldDecs names ts).map (·.dec) = ts.map de
  | [], [], _ => ⟨rfl, rfl⟩
  | [], _ :: _, h | _ :: _, [], h => by simp at h
  | n :: ns, t :: ts, h =>
    have ih := fieldDecs_spec ns ts (Nat.succ.inj h)
    ⟨congrArg (n :: ·) ih.1, congrArg (de t :: ·) ih.2⟩

theorem fieldCs_spec : (names : List Bytes) → (ts : List SType) → (own : Bool) → names.length = ts.length →
    (fieldCs names ts own).map (·.name) = names ∧ (fieldCs names ts own).map (·.fromC) = fromCs ts own
  | [], [], _, _ => ⟨rfl, rfl⟩
  | [], _ :: _, _, h | _ :: _, [], _, h => by simp at h
  | n :: ns, t :: ts, own, h =>
    have ih := fieldCs_spec ns ts own (Nat.succ.inj h)
    ⟨congrArg (n :: ·) ih.1, congrArg (fromC t own :: ·) ih.2⟩

theorem fieldDecs_wf (names : List Bytes) (ts : List SType) (hl : names.length = ts.length) (hnd : names.Nodup)
    (hok : ∀ n ∈ names, nameOk n = true) : FieldsWf (fieldDecs names ts) := by
  have hn := (fieldDecs_spec names ts hl).1
  exact ⟨hn.symm ▸ hnd, fun f hf => hok _ (hn ▸ List.mem_map_of_mem (f := (·.name)) hf)⟩

theorem struct_body_rt (names : List Bytes) (vals : List SVal) (ts : List SType) (hl : names.length = ts.length)
    (hnd : names.Nodup) (hok : ∀ n ∈ names, nameOk n = true) (hrt : AllRtD (ts.map de) vals) :
    (vals.length < U64 → Reads (deStructBody (fieldDecs names ts))
      (Enc.map ((mkKvs names vals).length / 2) ++ sers (mkKvs names vals)) (mkKvs names vals)) ∧
    Reads (deStructBody (fieldDecs names ts)) (Enc.beginMap ++ (sers (mkKvs names vals) ++ Enc.end)) (mkKvs names vals) := by
  have hs := fieldDecs_spec names ts hl
  have hvl : ts.length = vals.length := by simpa using allRtD_length _ _ hrt
  have := deStructBody_rt (fieldDecs names ts) (fieldDecs_wf names ts hl hnd hok) vals (hs.2.symm ▸ hrt)
  have hh := mkKvs_half names vals (by omega)
  rw [hs.1, ← hh] at this
  exact ⟨fun h => this.1 (hh ▸ h), this.2⟩

/-- the shape a variant name selects (first match, as the derived `__FieldVisitor`). -/
def findShape : List Bytes → List VShape → Bytes → Option VShape
  | n' :: ns, s :: ss, n => if n' == n then some s else findShape ns ss n
  | _, _, _ => none

theorem find_zipWith {δ : Type} (mk : Bytes → VShape → δ) (name : δ → Bytes) (hname : ∀ n s, name (mk n s) = n) :
    (names : List Bytes) → (vs : List VShape) → (n : Bytes) →
    (List.zipWith mk names vs).find? (fun d => name d == n) = (findShape names vs n).map (mk n)
  | [], _, _ | _ :: _, [], _ => by simp [findShape]
  | n' :: ns, s :: ss, n => by
    simp only [List.zipWith_cons_cons, List.find?, hname, findShape]
    by_cases h : n' = n
    · subst h; simp
    · have : (n' == n) = false := by simpa using h
      simp [this, find_zipWith mk name hname ns ss n]

theorem varDecs_eq : (names : List Bytes) → (vs : List VShape) →
    varDecs names vs = List.zipWith (fun n s => ⟨n, deVar n s, varC n s true⟩) names vs
  | [], [] | [], _ :: _ | _ :: _, [] => rfl
  | _ :: ns, _ :: ss => congrArg (_ :: ·) (varDecs_eq ns ss)

theorem varCs_eq (own : Bool) : (names : List Bytes) → (vs : List VShape) →
    varCs names vs own = List.zipWith (fun n s => ⟨n, fail .custom, varC n s own⟩) names vs
  | [], [] | [], _ :: _ | _ :: _, [] => rfl
  | _ :: ns, _ :: ss => congrArg (_ :: ·) (varCs_eq own ns ss)

theorem itagDecs_eq (tag : Bytes) : (names : List Bytes) → (vs : List VShape) →
    itagDecs tag names vs = List.zipWith (fun n s => ⟨n, fail .custom, itagC tag n s⟩) names vs
  | [], _ | _ :: _, [] => rfl
  | _ :: ns, _ :: ss => congrArg (_ :: ·) (itagDecs_eq tag ns ss)

theorem adjDecs_eq : (names : List Bytes) → (vs : List VShape) → adjDecs names vs = List.zipWith adjDec names vs
  | [], [] | [], _ :: _ | _ :: _, [] => rfl
  | _ :: ns, _ :: ss => congrArg (_ :: ·) (adjDecs_eq ns ss)

theorem findVar_varDecs (names : List Bytes) (vs : List VShape) (n : Bytes) :
    findVar (varDecs names vs) n = (findShape names vs n).map (fun s => ⟨n, deVar n s, varC n s true⟩) := by
  rw [varDecs_eq]; exact find_zipWith _ VarDec.name (fun _ _ => rfl) names vs n

theorem findVar_varCs (names : List Bytes) (vs : List VShape) (own : Bool) (n : Bytes) :
    findVar (varCs names vs own) n = (findShape names vs n).map (fun s => ⟨n, fail .custom, varC n s own⟩) := by
  rw [varCs_eq]; exact find_zipWith _ VarDec.name (fun _ _ => rfl) names vs n

theorem findVar_itagDecs (tag : Bytes) (names : List Bytes) (vs : List VShape) (n : Bytes) :
    findVar (itagDecs tag names vs) n = (findShape names vs n).map (fun s => ⟨n, fail .custom, itagC tag n s⟩) := by
  rw [itagDecs_eq]; exact find_zipWith _ VarDec.name (fun _ _ => rfl) names vs n

theorem adjDec_name (n : Bytes) (s : VShape) : (adjDec n s).name = n := by cases s <;> rfl

theorem findAdj_adjDecs (names : List Bytes) (vs : List VShape) (n : Bytes) :
    findAdj (adjDecs names vs) n = (findShape names vs n).map (adjDec n) := by
  rw [adjDecs_eq]; exact find_zipWith _ AdjDec.name adjDec_name names vs n


theorem cEnum_unit (vds : List VarDec) {n : Bytes} {vd : VarDec} (hfind : findVar vds n = some vd) :
    cEnum vds (.str n) = vd.fromC none := by
  simp only [cEnum, hfind]

theorem cEnum_content (vds : List VarDec) {n : Bytes} {vd : VarDec} (c : Content) (hfind : findVar vds n = some vd) :
    cEnum vds (.map [.str n, c]) = vd.fromC (some c) := by
  simp only [cEnum, cVarId, hfind]

theorem struct_fromC (names : List Bytes) (vals : List SVal) (ts : List SType) (own : Bool) (hl : names.length = ts.length)
    (hnd : names.Nodup) (hrt : AllRtC (fromCs ts own) vals) (seqOk : Bool) :
    cStruct (fieldCs names ts own) seqOk (.map (cvs (mkKvs names vals))) = .ok (mkKvs names vals) := by
  have hs := fieldCs_spec names ts own hl
  have h := cStructMap_rt (fieldCs names ts own) (hs.1.symm ▸ hnd) vals (hs.2.symm ▸ hrt)
  rw [hs.1] at h
  simp only [cStruct, cvs_mkKvs, h]

def payloadC : SVal → Option Content
  | .newtypeVariant _ x => some (cv x)
  | .tupleVariant _ xs => some (.seq (cvs xs))
  | .structVariant _ kvs => some (.map (cvs kvs))
  | _ => none

theorem firstOk_at (c : Content) (v : SVal) : (vs : List VShape) → (i : Nat) → (s : VShape) → vs[i]? = some s →
    (∀ j, j < i → ∀ s', vs[j]? = some s' → untaggedC s' c = .fail) → untaggedC s c = .ok v →
    firstOk (untaggedCs vs) c = .ok v
  | [], _, _, h, _, _ => by simp at h
  | s0 :: ss, 0, s, h, _, hok => by
    simp at h; subst h
    simp [untaggedCs, firstOk, hok]
  | s0 :: ss, i + 1, s, h, hfail, hok => by
    have h0 := hfail 0 (by omega) s0 (by simp)
    have ih := firstOk_at c v ss i s (by simpa using h) (fun j hj s' hs' => hfail (j + 1) (by omega) s' (by simpa using hs')) hok
    simp [untaggedCs, firstOk, h0, ih]

end Minicbor.C17
