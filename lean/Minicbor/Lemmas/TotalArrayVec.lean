/-
  For C02: the `ArrayVec` bookkeeping model (Minicbor/ArrayVec.lean) drops or moves out every
  pushed element exactly once.
-/
import Minicbor.ArrayVec

namespace Minicbor.ArrayVec

/-- the first `len` slots are the elements pushed so far, the others are uninitialised. -/
def Inv (a : AV) (done : List Nat) : Prop :=
  a.buf = done.map some ++ List.replicate (a.cap - done.length) none ∧ a.len = done.length ∧
    done.length ≤ a.cap

theorem Inv.new (n : Nat) : Inv (AV.new n) [] := by
  simp [Inv, AV.new]

theorem Inv.dropSlots {a : AV} {done : List Nat} (h : Inv a done) : a.dropSlots = done.map some := by
  obtain ⟨hb, hl, _⟩ := h
  unfold AV.dropSlots
  rw [hb, hl]
  have : done.length = (done.map some).length := by simp
  rw [this, List.take_left']
  rfl

theorem Inv.push_ok {a : AV} {done : List Nat} (h : Inv a done) (hlt : done.length < a.cap) (id : Nat) :
    ∃ a', a.push id = (a', none) ∧ Inv a' (done ++ [id]) ∧ a'.cap = a.cap := by
  obtain ⟨hb, hl, hle⟩ := h
  refine ⟨⟨a.cap, a.buf.set a.len (some id), a.len + 1⟩, ?_, ⟨?_, ?_, ?_⟩, rfl⟩
  · unfold AV.push; rw [hl]; simp [hlt]
  · show a.buf.set a.len (some id) = _
    rw [hb, hl]
    have hlen : (done.map some).length = done.length := by simp
    have : a.cap - done.length = (a.cap - (done ++ [id]).length) + 1 := by simp; omega
    rw [this, List.replicate_succ]
    rw [List.set_append_right _ _ (by simp)]
    simp
  · simp [hl]
  · simp; omega

theorem Inv.push_full {a : AV} {done : List Nat} (h : Inv a done) (hfull : done.length = a.cap) (id : Nat) :
    a.push id = (a, some id) := by
  obtain ⟨_, hl, _⟩ := h
  unfold AV.push; rw [hl]; simp [hfull]

theorem pushAll_eq {a : AV} {done : List Nat} (h : Inv a done) (p ids : List Nat) (k : Nat)
    (hk : done.length + k = a.cap) :
    ∃ a', pushAll a p ids = (a', p ++ ids.take (k + 1), ids[k]?) ∧ Inv a' (done ++ ids.take k) ∧ a'.cap = a.cap := by
  induction ids generalizing a done p k with
  | nil => exact ⟨a, by simp [pushAll], by simpa using h, rfl⟩
  | cons id ids ih =>
    cases k with
    | zero =>
      refine ⟨a, ?_, by simpa using h, rfl⟩
      unfold pushAll; rw [h.push_full (by omega)]; simp
    | succ k =>
      obtain ⟨a1, hp, hi, hc⟩ := h.push_ok (by omega) id
      obtain ⟨a2, hp2, hi2, hc2⟩ := ih hi (p ++ [id]) k (by simp; omega)
      refine ⟨a2, ?_, by simpa using hi2, by omega⟩
      unfold pushAll; rw [hp]; simpa using hp2

/-- `<[T; N]>::decode` in closed form.  More than `N` elements: the `N+1`-th is rejected by `push`, dropped by
    the caller's closure, and the `N` stored ones are dropped by `Drop for ArrayVec`.  Exactly `N` and no iterator
    error: all are moved out, no destructor runs.  Otherwise (fewer, or an element failed to decode): everything
    stored so far is dropped by `Drop for ArrayVec`, nothing is moved out. -/
theorem decodeArr_eq (n : Nat) (ids : List Nat) (e : Bool) :
    decodeArr n ids e = match ids[n]? with
      | some rej => ⟨none, some rej :: (ids.take n).map some, ids.take (n + 1)⟩
      | none => if e = false ∧ ids.length = n then ⟨some (ids.map some), [], ids⟩ else ⟨none, ids.map some, ids⟩ := by
  obtain ⟨a', hp, hi, hc⟩ := pushAll_eq (Inv.new n) [] ids n (by simp [AV.new])
  simp only [List.nil_append, show (AV.new n).cap = n from rfl] at hp hi hc
  unfold decodeArr
  rw [hp]
  cases hn : ids[n]? with
  | some rej => simp [hi.dropSlots]
  | none =>
    have hle : ids.length ≤ n := by simpa using hn
    rw [List.take_of_length_le hle] at hi
    rw [List.take_of_length_le (by omega)]
    cases e with
    | true => simp [hi.dropSlots]
    | false =>
      by_cases hl : ids.length = n
      · simp [AV.intoArray, hi.2.1, hc, hl, hi.1]
      · simp [AV.intoArray, hi.2.1, hc, hl, hi.dropSlots]

theorem arrayvec_ledger (n : Nat) (ids : List Nat) (iterErr : Bool) :
    let o := decodeArr n ids iterErr
    o.pushed = ids.take (n + 1) ∧
    (o.dropped ++ (o.array.getD [])).Perm (o.pushed.map some) ∧
    (o.array.isSome ↔ (ids.length = n ∧ iterErr = false)) ∧
    (o.array.isSome → o.dropped = [] ∧ o.array = some (ids.map some)) := by
  intro o
  have ho : o = _ := decodeArr_eq n ids iterErr
  rw [ho]
  cases hn : ids[n]? with
  | some rej =>
    have : n < ids.length := (List.getElem?_eq_some_iff.1 hn).1
    refine ⟨rfl, ?_, by simp; omega, by simp⟩
    simp only [Option.getD_none, List.append_nil]
    rw [List.take_add_one, hn]
    simp only [Option.toList_some, List.map_append, List.map_cons, List.map_nil]
    exact (List.perm_append_singleton _ _).symm
  | none =>
    have hle : ids.length ≤ n := by simpa using hn
    have ht : ids.take (n + 1) = ids := List.take_of_length_le (by omega)
    simp only
    split
    · rename_i h
      exact ⟨ht.symm, by simp, by simp [h.1, h.2], by simp⟩
    · rename_i h
      refine ⟨ht.symm, by simp, ?_, by simp⟩
      simp only [Option.isSome_none, Bool.false_eq_true, false_iff]
      exact fun h' => h ⟨h'.2, h'.1⟩

theorem count_map_some (id : Nat) (l : List Nat) : (l.map some).count (some id) = l.count id := by
  induction l with
  | nil => rfl
  | cons a l ih => simp [List.count_cons, ih]

theorem arrayvec_count (n : Nat) (ids : List Nat) (iterErr : Bool) (hnd : ids.Nodup) (id : Nat) :
    let o := decodeArr n ids iterErr
    (o.dropped ++ (o.array.getD [])).count (some id) = (if id ∈ ids.take (n + 1) then 1 else 0) ∧
    none ∉ o.dropped ++ (o.array.getD []) := by
  intro o
  obtain ⟨h1, h2, _, _⟩ := arrayvec_ledger n ids iterErr
  have h1' : o.pushed = ids.take (n + 1) := h1
  have h2' : (o.dropped ++ (o.array.getD [])).Perm (o.pushed.map some) := h2
  constructor
  · rw [h2'.count_eq, count_map_some, h1']
    exact ((List.take_sublist _ _).nodup hnd).count
  · rw [h2'.mem_iff]; simp

end Minicbor.ArrayVec
