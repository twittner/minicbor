/-
  For C02: the loop combinators of Loops.lean, generic in the element decoder `m`.  If `m` never
  panics and every successful `m` consumes at least one byte, then the fuel (`remaining + 1`) of
  the indefinite-length loops is never exhausted.
-/
import Minicbor.Lemmas.TotalAcc

namespace Minicbor.Dec

theorem SizedBy.cons_tail {m : Dec (List α)} {sz : α → Nat} {x : α} {c : Nat}
    (hm : SizedBy c (listSz sz) m) :
    SizedBy (sz x + c) (listSz sz) (m >>= fun xs => Pure.pure (x :: xs)) :=
  hm.fmap fun _ => by simp; omega

/-! ### repeatN -/

theorem NoPanic.repeatN {m : Dec α} (hm : NoPanic m) (n : Nat) : NoPanic (Dec.repeatN m n) :=
  NoPanic.rules.repeatN hm n

theorem Suffix.repeatN {m : Dec α} (hm : Suffix m) (n : Nat) : Suffix (Dec.repeatN m n) :=
  Suffix.rules.repeatN hm n

theorem Sized.repeatN {m : Dec α} {sz : α → Nat} (hm : Sized sz m) (n : Nat) :
    Sized (listSz sz) (Dec.repeatN m n) := by
  induction n with
  | zero => unfold Dec.repeatN; exact SizedBy.pure (Nat.zero_le _)
  | succ n ih =>
    unfold Dec.repeatN
    exact SizedBy.bind hm (fun x => SizedBy.cons_tail ih)

/-- a count-driven loop whose count exceeds the remaining input fails within the first
    `remaining + 1` iterations: a hostile count does not matter beyond that. -/
theorem repeatN_cutoff {m : Dec α} (hc : Consumes m 1) (bs : Bytes) (n n' : Nat)
    (h : bs.length < n) (h' : bs.length < n') : Dec.repeatN m n bs = Dec.repeatN m n' bs := by
  induction n generalizing bs n' with
  | zero => omega
  | succ n ih =>
    cases n' with
    | zero => omega
    | succ n' =>
      unfold Dec.repeatN
      rw [Dec.bind_run, Dec.bind_run]
      cases hmb : m bs with
      | ok x r =>
        have := hc bs x r hmb
        simp only [Dec.bind_run]
        rw [ih r n' (by omega) (by omega)]
      | err e r => rfl
      | panic => rfl

theorem repeatN_ok_le {m : Dec α} (hc : Consumes m 1) (bs : Bytes) (n : Nat) (l : List α) (r : Bytes)
    (h : Dec.repeatN m n bs = .ok l r) : n + r.length ≤ bs.length := by
  induction n generalizing bs l with
  | zero => unfold Dec.repeatN at h; cases h; simp
  | succ n ih =>
    unfold Dec.repeatN at h
    obtain ⟨x, r1, h1, h⟩ := bind_ok_inv h
    obtain ⟨xs, r2, h2, h⟩ := bind_ok_inv h
    have := hc bs x r1 h1
    cases h
    have := ih r1 xs h2
    omega

/-! ### untilBreak -/

theorem AtRules.untilBreak {S : ∀ {α : Type}, Dec α → Dec α → Bytes → Prop} (h : AtRules S) {m : Dec α}
    (hm : ∀ bs, S m m bs) (hc : Consumes m 1) :
    ∀ f1 f2 bs, bs.length < f1 → bs.length < f2 → S (Dec.untilBreak m f1) (Dec.untilBreak m f2) bs
  | 0, _, _, h1, _ => absurd h1 (Nat.not_lt_zero _)
  | _ + 1, 0, _, _, h2 => absurd h2 (Nat.not_lt_zero _)
  | f1 + 1, f2 + 1, bs, h1, h2 => h.bind (h.of_noPanic NoPanic.current bs) fun b r hb => by
      cases Keeps.current bs b r hb
      split
      · exact h.of_noPanic (NoPanic.rules.fmap (k := 1) _ NoPanic.read) bs
      · refine h.bind (hm bs) fun x r' hx => ?_
        have := hc bs x r' hx
        exact h.bind (untilBreak h hm hc f1 f2 r' (by omega) (by omega)) fun _ _ _ => h.of_noPanic (NoPanic.pure _) _

theorem untilBreak_ne_panic {m : Dec α} (hm : NoPanic m) (hc : Consumes m 1) (fuel : Nat) (bs : Bytes)
    (h : bs.length < fuel) : Dec.untilBreak m fuel bs ≠ .panic :=
  AtRules.nePanic.untilBreak hm hc fuel fuel bs h h

theorem Suffix.untilBreak {m : Dec α} (hm : Suffix m) (fuel : Nat) : Suffix (Dec.untilBreak m fuel) :=
  Suffix.rules.untilBreak hm fuel fuel (Nat.le_refl _)

/-- the `+ 1` is the break byte. -/
theorem Sized.untilBreak {m : Dec α} {sz : α → Nat} (hm : Sized sz m) (fuel : Nat) :
    Sized (fun l => listSz sz l + 1) (Dec.untilBreak m fuel) := by
  induction fuel with
  | zero => unfold Dec.untilBreak; exact SizedBy.panic _ _
  | succ f ih =>
    unfold Dec.untilBreak
    refine SizedBy.bindC Consumes.current (fun b => ?_)
    refine ite_pres ?_ ?_
    · exact SizedBy.bindC Consumes.read (fun _ => SizedBy.pure (by simp))
    · exact SizedBy.bind hm fun x => ih.fmap fun _ => by simp; omega

/-! ### indefinite strings -/

theorem Sized.chunk (text : Bool) : Sized (fun b : Bytes => 1 + b.length) (if text then Dec.str else Dec.bytes) :=
  ite_pres Sized.str Sized.bytes

theorem Sized.chunkLoop (text : Bool) (fuel : Nat) :
    Sized (listSz fun b : Bytes => 1 + b.length) (Dec.chunkLoop text fuel) := by
  rw [chunkLoop_eq_untilBreak]
  exact (Sized.untilBreak (Sized.chunk text) fuel).weaken (fun _ => by omega)

theorem Sized.stringIter (text : Bool) :
    Sized (listSz fun b : Bytes => 1 + b.length) (Dec.stringIter text) := by
  unfold Dec.stringIter
  refine SizedBy.bindC Consumes.read (fun b => ?_)
  refine ite_pres (SizedBy.typeMismatch _ _ _) ?_
  refine ite_pres ?_ ?_
  · refine SizedBy.bindC Consumes.remaining (fun r => ?_)
    exact (Sized.chunkLoop text _).weaken (fun _ => by omega)
  · refine SizedBy.bindC (Consumes.rules.unsigned _) (fun n => ?_)
    refine SizedBy.bindC (Consumes.rules.u64ToUsize _) (fun n => ?_)
    refine ite_pres (SizedBy.pure (Nat.zero_le _)) ?_
    refine SizedBy.bind (SizedBy.readSlice _ _) (fun d => ?_)
    refine ite_pres (SizedBy.fail _ _ _) (SizedBy.pure ?_)
    simp

/-! ### arrayIter / mapIter -/

theorem NoPanic.arrayIter {m : Dec α} (hm : NoPanic m) (hc : Consumes m 1) : NoPanic (Dec.arrayIter m) :=
  NoPanic.bind NoPanic.array fun
    | some n => NoPanic.repeatN hm n
    | none => NoPanic.withRemaining Nat.one_pos (untilBreak_ne_panic hm hc)

theorem Suffix.arrayIter {m : Dec α} (hm : Suffix m) : Suffix (Dec.arrayIter m) :=
  Suffix.rules.arrayIter hm

theorem Sized.arrayIter {m : Dec α} {sz : α → Nat} (hm : Sized sz m) :
    Sized (fun l => 1 + listSz sz l) (Dec.arrayIter m) := by
  unfold Dec.arrayIter
  refine SizedBy.bindC Consumes.array (fun o => ?_)
  split
  · exact (Sized.repeatN hm _).weaken (fun _ => by omega)
  · refine SizedBy.bindC Consumes.remaining (fun r => ?_)
    exact (Sized.untilBreak hm _).weaken (fun _ => by omega)

theorem EoiNil.arrayIter (m : Dec α) : EoiNil (Dec.arrayIter m) := EoiNil.bind _ EoiNil.array

theorem Sized.pairOf {mk mv : Dec α} {sz : α → Nat} (hk : Sized sz mk) (hv : Sized sz mv) :
    Sized (listSz sz) (pairOf mk mv) := by
  unfold Dec.pairOf
  exact SizedBy.bind hk fun k => hv.fmap fun _ => by simp; omega

theorem Consumes.pairOf {mk mv : Dec α} (hck : Consumes mk 1) (hcv : Consumes mv 0) :
    Consumes (Dec.pairOf mk mv) 1 :=
  Consumes.rules.bindR hck fun _ => hcv.map_pure

theorem NoPanic.mapIter {mk mv : Dec α} (hk : NoPanic mk) (hv : NoPanic mv) (hck : Consumes mk 1)
    (hcv : Consumes mv 0) : NoPanic (Dec.mapIter mk mv) :=
  have hp := NoPanic.rules.pairOf hk hv
  NoPanic.bind NoPanic.map fun
    | some n => NoPanic.rules.fmap (k := 0) _ (NoPanic.repeatN hp n)
    | none => NoPanic.withRemaining (loop := fun f => Dec.untilBreak (Dec.pairOf mk mv) f >>= fun xs => Pure.pure xs.flatten)
        Nat.one_pos fun fuel bs h =>
          bind_ne_panic (untilBreak_ne_panic hp (Consumes.pairOf hck hcv) fuel bs h) fun _ _ _ => nofun

theorem Suffix.mapIter {mk mv : Dec α} (hk : Suffix mk) (hv : Suffix mv) : Suffix (Dec.mapIter mk mv) :=
  Suffix.rules.mapIter hk hv

theorem SizedBy.map_flatten {m : Dec (List (List α))} {sz : α → Nat} {c : Nat}
    (hm : SizedBy c (listSz (listSz sz)) m) :
    SizedBy c (listSz sz) (m >>= fun xs => Pure.pure xs.flatten) :=
  hm.fmap fun _ => by rw [listSz_flatten]; omega

theorem Sized.mapIter {mk mv : Dec α} {sz : α → Nat} (hk : Sized sz mk) (hv : Sized sz mv) :
    Sized (fun l => 1 + listSz sz l) (Dec.mapIter mk mv) := by
  rw [mapIter_eq]
  have hp := Sized.pairOf hk hv
  refine SizedBy.bindC Consumes.rules.map (fun o => ?_)
  split
  · exact (SizedBy.map_flatten (Sized.repeatN hp _)).weaken (fun _ => by omega)
  · refine SizedBy.bindC Consumes.remaining (fun r => ?_)
    have h1 : SizedBy 0 (listSz (listSz sz)) (Dec.untilBreak (Dec.pairOf mk mv) (r.length + 1)) :=
      (Sized.untilBreak hp _).weaken (fun _ => by omega)
    exact (SizedBy.map_flatten h1).weaken (fun _ => by omega)

theorem EoiNil.mapIter (mk mv : Dec α) : EoiNil (Dec.mapIter mk mv) := by
  rw [mapIter_eq]; exact EoiNil.bind _ EoiNil.map

/-! ### [T; N] -/

theorem AtRules.arrayNIndef {S : ∀ {α : Type}, Dec α → Dec α → Bytes → Prop} (h : AtRules S) {m : Dec α}
    (hm : ∀ bs, S m m bs) (hc : Consumes m 1) (n : Nat) :
    ∀ f1 f2 k bs, bs.length < f1 → bs.length < f2 → S (Dec.arrayNIndef m n f1 k) (Dec.arrayNIndef m n f2 k) bs
  | 0, _, _, _, h1, _ => absurd h1 (Nat.not_lt_zero _)
  | _ + 1, 0, _, _, _, h2 => absurd h2 (Nat.not_lt_zero _)
  | f1 + 1, f2 + 1, k, bs, h1, h2 => h.bind (h.of_noPanic NoPanic.current bs) fun b r hb => by
      cases Keeps.current bs b r hb
      split
      · exact h.of_noPanic (NoPanic.bind NoPanic.read fun _ => ite_pres (NoPanic.fail _) (NoPanic.pure _)) bs
      · refine h.bind (hm bs) fun x r' hx => ?_
        have := hc bs x r' hx
        split
        · exact h.of_noPanic (NoPanic.fail _) r'
        · exact h.bind (arrayNIndef h hm hc n f1 f2 (k + 1) r' (by omega) (by omega)) fun _ _ _ =>
            h.of_noPanic (NoPanic.pure _) _

theorem arrayNIndef_ne_panic {m : Dec α} (hm : NoPanic m) (hc : Consumes m 1) (n fuel have_ : Nat) (bs : Bytes)
    (h : bs.length < fuel) : Dec.arrayNIndef m n fuel have_ bs ≠ .panic :=
  AtRules.nePanic.arrayNIndef hm hc n fuel fuel have_ bs h h

theorem Suffix.arrayNIndef {m : Dec α} (hm : Suffix m) (n fuel have_ : Nat) :
    Suffix (Dec.arrayNIndef m n fuel have_) :=
  Suffix.rules.arrayNIndef hm n fuel fuel (Nat.le_refl _) have_

theorem Sized.arrayNIndef {m : Dec α} {sz : α → Nat} (hm : Sized sz m) (n fuel have_ : Nat) :
    Sized (fun l => listSz sz l + 1) (Dec.arrayNIndef m n fuel have_) := by
  induction fuel generalizing have_ with
  | zero => unfold Dec.arrayNIndef; exact SizedBy.panic _ _
  | succ f ih =>
    unfold Dec.arrayNIndef
    refine SizedBy.bindC Consumes.current (fun b => ?_)
    refine ite_pres ?_ ?_
    · exact SizedBy.bindC Consumes.read (fun _ => ite_pres (SizedBy.fail _ _ _) (SizedBy.pure (by simp)))
    · refine SizedBy.bind hm (fun x => ?_)
      exact ite_pres (SizedBy.fail _ _ _) ((ih _).fmap fun _ => by simp; omega)

theorem NoPanic.arrayN {m : Dec α} (hm : NoPanic m) (hc : Consumes m 1) (n : Nat) : NoPanic (Dec.arrayN m n) :=
  NoPanic.bind NoPanic.array fun
    | some k => ite_pres
        (NoPanic.bind (NoPanic.repeatN hm k) fun _ => ite_pres (NoPanic.fail _) (NoPanic.pure _))
        (NoPanic.bind (NoPanic.repeatN hm (n + 1)) fun _ => NoPanic.fail _)
    | none => NoPanic.withRemaining Nat.one_pos fun fuel bs h => arrayNIndef_ne_panic hm hc n fuel 0 bs h

theorem Suffix.arrayN {m : Dec α} (hm : Suffix m) (n : Nat) : Suffix (Dec.arrayN m n) :=
  Suffix.rules.arrayN hm n

theorem Sized.arrayN {m : Dec α} {sz : α → Nat} (hm : Sized sz m) (n : Nat) :
    Sized (fun l => 1 + listSz sz l) (Dec.arrayN m n) := by
  unfold Dec.arrayN
  refine SizedBy.bindC Consumes.array (fun o => ?_)
  split
  · refine ite_pres ?_ ?_
    · refine SizedBy.bind ((Sized.repeatN hm _).weaken (sz' := fun l => 1 + listSz sz l) (c' := 1) (fun _ => by omega)) (fun xs => ?_)
      exact ite_pres (SizedBy.fail _ _ _) (SizedBy.pure (Nat.le_refl _))
    · exact SizedBy.bindC (k := 0) ((Sized.repeatN hm _).to_consumes (k := 0) (fun _ => Nat.zero_le _)) (fun _ => SizedBy.fail _ _ _)
  · refine SizedBy.bindC Consumes.remaining (fun r => ?_)
    exact (Sized.arrayNIndef hm _ _ _).weaken (fun _ => by omega)

theorem EoiNil.arrayN (m : Dec α) (n : Nat) : EoiNil (Dec.arrayN m n) := EoiNil.bind _ EoiNil.array

/-! ### skipUntilBreak, seqAll, decode_fields! -/

theorem AtRules.skipUntilBreak {S : ∀ {α : Type}, Dec α → Dec α → Bytes → Prop} (h : AtRules S) :
    ∀ f1 f2 bs, bs.length < f1 → bs.length < f2 → S (Dec.skipUntilBreak f1) (Dec.skipUntilBreak f2) bs
  | 0, _, _, h1, _ => absurd h1 (Nat.not_lt_zero _)
  | _ + 1, 0, _, _, h2 => absurd h2 (Nat.not_lt_zero _)
  | f1 + 1, f2 + 1, bs, h1, h2 => h.bind (h.of_noPanic NoPanic.datatype bs) fun ty r hty => by
      cases Keeps.datatype bs ty r hty
      split
      · exact h.of_noPanic (NoPanic.skip true) bs
      · refine h.bind (h.of_noPanic (NoPanic.skip true) bs) fun u r' hs => ?_
        have := Consumes.skip true bs u r' hs
        exact skipUntilBreak h f1 f2 r' (by omega) (by omega)

theorem skipUntilBreak_ne_panic (fuel : Nat) (bs : Bytes) (h : bs.length < fuel) :
    Dec.skipUntilBreak fuel bs ≠ .panic :=
  AtRules.nePanic.skipUntilBreak fuel fuel bs h h

theorem Sized.seqAll {ms : List (Dec α)} {sz : α → Nat} (h : ∀ m ∈ ms, Sized sz m) :
    Sized (listSz sz) (Dec.seqAll ms) := by
  induction ms with
  | nil => unfold Dec.seqAll; exact SizedBy.pure (Nat.zero_le _)
  | cons m ms ih =>
    unfold Dec.seqAll
    have h1 := h m (List.mem_cons_self ..)
    have h2 := ih (fun m' hm' => h m' (List.mem_cons_of_mem _ hm'))
    exact SizedBy.bind h1 (fun x => SizedBy.cons_tail h2)

theorem Sized.fieldsDef {ms : List (Dec α)} {sz : α → Nat} (h : ∀ m ∈ ms, Sized sz m) (n : Nat) :
    Sized (listSz sz) (Dec.fieldsDef ms n) := by
  induction ms generalizing n with
  | nil =>
    unfold Dec.fieldsDef
    exact SizedBy.bindC (k := 0) (Consumes.rules.repeatN (Consumes.rules.skip true) n) (fun _ => SizedBy.pure (Nat.zero_le _))
  | cons m ms ih =>
    have h1 := h m (List.mem_cons_self ..)
    have h2 := ih (fun m' hm' => h m' (List.mem_cons_of_mem _ hm'))
    cases n with
    | zero => unfold Dec.fieldsDef; exact SizedBy.fail _ _ _
    | succ n => unfold Dec.fieldsDef; exact SizedBy.bind h1 (fun x => SizedBy.cons_tail (h2 n))

theorem fieldsIndef_ne_panic {ms : List (Dec α)} (h : ∀ m ∈ ms, NoPanic m) (hs : ∀ m ∈ ms, Consumes m 0)
    (fuel : Nat) (bs : Bytes) (hf : bs.length < fuel) : Dec.fieldsIndef ms fuel bs ≠ .panic := by
  induction ms generalizing bs with
  | nil =>
    unfold Dec.fieldsIndef
    apply bind_ne_panic (skipUntilBreak_ne_panic fuel bs hf)
    intro _ _ _; simp
  | cons m ms ih =>
    unfold Dec.fieldsIndef
    apply bind_ne_panic (NoPanic.datatype _)
    intro ty r hty
    have hr := Consumes.datatype bs ty r hty
    split
    · apply bind_ne_panic (NoPanic.skip _ _)
      intro _ _ _; simp
    · apply bind_ne_panic (h m (List.mem_cons_self ..) _)
      intro v r' hv
      have := hs m (List.mem_cons_self ..) r v r' hv
      apply bind_ne_panic (ih (fun m' hm' => h m' (List.mem_cons_of_mem _ hm'))
        (fun m' hm' => hs m' (List.mem_cons_of_mem _ hm')) r' (by omega))
      intro _ _ _; simp

theorem Sized.fieldsIndef {ms : List (Dec α)} {sz : α → Nat} (h : ∀ m ∈ ms, Sized sz m) (fuel : Nat) :
    Sized (listSz sz) (Dec.fieldsIndef ms fuel) := by
  induction ms with
  | nil =>
    unfold Dec.fieldsIndef
    exact SizedBy.bindC (k := 0) (Consumes.rules.skipUntilBreak fuel fuel (Nat.le_refl _)) (fun _ => SizedBy.pure (Nat.zero_le _))
  | cons m ms ih =>
    have h1 := h m (List.mem_cons_self ..)
    have h2 := ih (fun m' hm' => h m' (List.mem_cons_of_mem _ hm'))
    unfold Dec.fieldsIndef
    refine SizedBy.bindC Consumes.datatype (fun ty => ?_)
    refine ite_pres ?_ ?_
    · exact SizedBy.bindC (k := 0) (Consumes.rules.skip true) (fun _ => SizedBy.fail _ _ _)
    · exact SizedBy.bind h1 (fun x => SizedBy.cons_tail h2)

theorem NoPanic.fieldsDec {ms : List (Dec α)} (h : ∀ m ∈ ms, NoPanic m) (hs : ∀ m ∈ ms, Consumes m 0) :
    NoPanic (Dec.fieldsDec ms) :=
  NoPanic.bind NoPanic.array fun
    | some n => NoPanic.rules.fieldsDef (NoPanic.skip true) h n
    | none => NoPanic.withRemaining Nat.one_pos (fieldsIndef_ne_panic h hs)

theorem Suffix.fieldsDec {ms : List (Dec α)} (h : ∀ m ∈ ms, Suffix m) : Suffix (Dec.fieldsDec ms) :=
  Suffix.rules.fieldsDec h

theorem Sized.fieldsDec {ms : List (Dec α)} {sz : α → Nat} (h : ∀ m ∈ ms, Sized sz m) :
    Sized (fun l => 1 + listSz sz l) (Dec.fieldsDec ms) := by
  unfold Dec.fieldsDec
  refine SizedBy.bindC Consumes.array (fun o => ?_)
  split
  · exact (Sized.fieldsDef h _).weaken (fun _ => by omega)
  · refine SizedBy.bindC Consumes.remaining (fun r => ?_)
    exact (Sized.fieldsIndef h _).weaken (fun _ => by omega)


theorem fieldsDef_length {ms : List (Dec α)} {n : Nat} {bs : Bytes} {l : List α} {r : Bytes}
    (h : Dec.fieldsDef ms n bs = .ok l r) : l.length = ms.length := by
  induction ms generalizing n bs l r with
  | nil =>
    unfold Dec.fieldsDef at h
    obtain ⟨_, _, _, h2⟩ := bind_ok_inv h
    cases h2; rfl
  | cons m ms ih =>
    cases n with
    | zero => unfold Dec.fieldsDef at h; cases h
    | succ n =>
      unfold Dec.fieldsDef at h
      obtain ⟨x, r1, _, h⟩ := bind_ok_inv h
      obtain ⟨xs, r2, h2, h⟩ := bind_ok_inv h
      have := ih h2
      cases h; simp [this]

theorem fieldsIndef_length {ms : List (Dec α)} {fuel : Nat} {bs : Bytes} {l : List α} {r : Bytes}
    (h : Dec.fieldsIndef ms fuel bs = .ok l r) : l.length = ms.length := by
  induction ms generalizing bs l r with
  | nil =>
    unfold Dec.fieldsIndef at h
    obtain ⟨_, _, _, h2⟩ := bind_ok_inv h
    cases h2; rfl
  | cons m ms ih =>
    unfold Dec.fieldsIndef at h
    obtain ⟨ty, r0, _, h⟩ := bind_ok_inv h
    split at h
    · obtain ⟨_, _, _, h⟩ := bind_ok_inv h
      cases h
    · obtain ⟨x, r1, _, h⟩ := bind_ok_inv h
      obtain ⟨xs, r2, h2, h⟩ := bind_ok_inv h
      have := ih h2
      cases h; simp [this]

theorem fieldsDec_length {ms : List (Dec α)} {bs : Bytes} {l : List α} {r : Bytes}
    (h : Dec.fieldsDec ms bs = .ok l r) : l.length = ms.length := by
  unfold Dec.fieldsDec at h
  obtain ⟨o, r0, _, h⟩ := bind_ok_inv h
  split at h
  · exact fieldsDef_length h
  · obtain ⟨_, _, _, h⟩ := bind_ok_inv h
    exact fieldsIndef_length h

theorem EoiNil.fieldsDec (ms : List (Dec α)) : EoiNil (Dec.fieldsDec ms) := EoiNil.bind _ EoiNil.array

/-! ### enum variants -/

theorem NoPanic.pickVariant {ms : List (Dec Val)} (h : ∀ m ∈ ms, NoPanic m) (i : Nat) :
    NoPanic (Dec.pickVariant ms i) :=
  NoPanic.rules.pickVariant h i

theorem Suffix.pickVariant {ms : List (Dec Val)} (h : ∀ m ∈ ms, Suffix m) (i : Nat) :
    Suffix (Dec.pickVariant ms i) :=
  Suffix.rules.pickVariant h i

end Minicbor.Dec
