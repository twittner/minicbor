/-
  `Token::decode` and the `Tokenizer` iterator (`Dec.token`, `tokenize`, `tokens` of
  Minicbor/Token.lean) on arbitrary bytes: `Dec.token` never panics, a successful call consumes at
  least one byte, the fuel of `tokenize` is never exhausted and does not matter once it exceeds the
  input length.
-/
import Minicbor.Lemmas.Steps
import Minicbor.Lemmas.DecRulesTy

namespace Minicbor.Dec


theorem NoPanic.datatype : NoPanic Dec.datatype := NoPanic.rules.datatype
theorem Consumes.datatype : Consumes Dec.datatype 0 := Consumes.rules.datatype

theorem datatype_nil : Dec.datatype [] = .err .eoi [] := rfl

theorem NoPanic.bool : NoPanic Dec.bool := NoPanic.rules.bool
theorem NoPanic.simple : NoPanic Dec.simple := NoPanic.rules.simple
theorem Consumes.simple : Consumes Dec.simple 1 := Consumes.rules.simple

theorem NoPanic.token : NoPanic Dec.token := NoPanic.rules.token
theorem Consumes.token : Consumes Dec.token 1 := Consumes.rules.token

theorem token_nil : Dec.token [] = .err .eoi [] := rfl

end Minicbor.Dec

namespace Minicbor
open Dec


def TokItem.isTok : TokItem → Bool
  | .tok _ => true
  | .err _ => false

theorem tokenize_spec (fuel : Nat) (bs : Bytes) (h : bs.length < fuel) :
    ∃ (ts : List Token) (tail : List TokItem),
      tokenize fuel bs = some (ts.map TokItem.tok ++ tail) ∧
      (tail = [] ∨ ∃ e, e ≠ Err.eoi ∧ tail = [TokItem.err e]) ∧
      ts.length + tail.length ≤ bs.length := by
  induction fuel generalizing bs with
  | zero => omega
  | succ f ih =>
    unfold tokenize
    cases ht : Dec.token bs with
    | ok t rest =>
      have hc := Consumes.token bs t rest ht
      obtain ⟨ts, tail, h1, h2, h3⟩ := ih rest (by omega)
      refine ⟨t :: ts, tail, ?_, h2, ?_⟩
      · simp [h1]
      · simp only [List.length_cons]; omega
    | err e rest =>
      by_cases he : e = .eoi
      · subst he
        exact ⟨[], [], by simp, Or.inl rfl, by simp⟩
      · refine ⟨[], [.err e], by cases e <;> first | exact absurd rfl he | rfl, Or.inr ⟨e, he, rfl⟩, ?_⟩
        -- an error other than end-of-input needs a byte
        cases bs with
        | nil => rw [token_nil] at ht; cases ht; exact absurd rfl he
        | cons b tl => simp
    | panic => exact absurd ht (NoPanic.token bs)

theorem tokenize_fuel (f1 f2 : Nat) (bs : Bytes) (h1 : bs.length < f1) (h2 : bs.length < f2) :
    tokenize f1 bs = tokenize f2 bs := by
  induction f1 generalizing f2 bs with
  | zero => omega
  | succ f1 ih =>
    cases f2 with
    | zero => omega
    | succ f2 =>
      unfold tokenize
      cases ht : Dec.token bs with
      | ok t rest =>
        have hc := Consumes.token bs t rest ht
        simp only []
        rw [ih f2 rest (by omega) (by omega)]
      | err e rest => cases e <;> rfl
      | panic => rfl

theorem tokens_nil : tokens [] = some [] := rfl

theorem tokens_cons (bs : Bytes) (t : Token) (rest : Bytes) (h : Dec.token bs = .ok t rest) :
    tokens bs = (tokens rest).map (TokItem.tok t :: ·) := by
  have hc := Consumes.token bs t rest h
  unfold tokens
  conv => lhs; unfold tokenize
  simp only [h]
  rw [tokenize_fuel bs.length (rest.length + 1) rest (by omega) (by omega)]

theorem tokens_steps {ts : List Token} {bs rest : Bytes} (h : Steps Dec.token ts bs rest) :
    tokens bs = (tokens rest).map (ts.map TokItem.tok ++ ·) := by
  induction ts generalizing bs with
  | nil => cases h; simp
  | cons t ts ih =>
    obtain ⟨m, hm, hs⟩ := h
    rw [tokens_cons bs t m hm, ih hs]
    cases tokens rest <;> simp

theorem tokens_steps_all {ts : List Token} {bs : Bytes} (h : Steps Dec.token ts bs []) :
    tokens bs = some (ts.map TokItem.tok) := by
  rw [tokens_steps h, tokens_nil]; simp

end Minicbor
