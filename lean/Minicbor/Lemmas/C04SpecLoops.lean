/-
  For `C04.typed_sound`: maps, fixed-size arrays and tuples against the specification-side loops
  of Lemmas/C04Interp.lean.
-/
import Minicbor.Lemmas.C04Spec
import Minicbor.Lemmas.DecRulesTy

namespace Minicbor.C04
open Dec

theorem Is.of_eq {x y : Res α} {o : Option α} {rest : Bytes} (e : x = y) (h : Is y o rest) : Is x o rest := e ▸ h

theorem Is.ite_none {x : Res α} {c : Prop} [Decidable c] {o : Option α} {rest : Bytes}
    (h1 : c → Is x o rest) (h2 : ¬ c → NotOk x) : Is x (if c then o else none) rest := by
  split
  · exact h1 ‹_›
  · exact h2 ‹_›

/-- `interpPairs` before flattening: `Dec.mapIter` collects `[k, v]` pairs and flattens at the end
    (`mapIter_eq`), so the loop lemmas are about this one and `interpPairs_eq` carries them over. -/
def interpPairs2 (fk fv : WItem → Option α) : List WItem → Option (List (List α))
  | [] => some []
  | k :: v :: rest =>
      (fk k).bind fun a => (fv v).bind fun b => (interpPairs2 fk fv rest).bind fun c => some ([a, b] :: c)
  | [_] => none

theorem interpPairs_eq (fk fv : WItem → Option α) :
    ∀ xs, interpPairs fk fv xs = (interpPairs2 fk fv xs).map List.flatten
  | [] => rfl
  | [_] => rfl
  | k :: v :: rest => by
    simp only [interpPairs, interpPairs2, interpPairs_eq fk fv rest]
    cases fk k <;> cases fv v <;> cases interpPairs2 fk fv rest <;> simp

theorem pair_step {mk mv : Dec α} {fk fv : WItem → Option α} (hk : Spec mk fk) (hv : Spec mv fv)
    (k v : WItem) (hvk : k.Valid) (hvv : v.Valid) (hfk : Fits k) (hfv : Fits v) (tail rest : Bytes)
    (cont : List α → Dec (List (List α))) (o : Option (List (List α)))
    (hc : ∀ p, Is (cont p tail) (o.bind fun c => some (p :: c)) rest) :
    Is ((pairOf mk mv >>= cont) (encW k ++ (encW v ++ tail)))
      ((fk k).bind fun a => (fv v).bind fun b => o.bind fun c => some ([a, b] :: c)) rest := by
  unfold Dec.pairOf
  rw [Dec.bind_assoc]
  refine Is.bind (hk k _ hvk hfk) (fun a _ => ?_)
  rw [Dec.bind_assoc]
  refine Is.bind (hv v _ hvv hfv) (fun b _ => ?_)
  rw [Dec.bind_run]
  exact hc [a, b]

theorem repeatN_pairs_spec {mk mv : Dec α} {fk fv : WItem → Option α} (hk : Spec mk fk) (hv : Spec mv fv) :
    ∀ (kvs : List WItem) (rest : Bytes), GoodL kvs → kvs.length % 2 = 0 →
      Is (repeatN (pairOf mk mv) (kvs.length / 2) (encWs kvs ++ rest)) (interpPairs2 fk fv kvs) rest
  | [], rest, _, _ => by simp [repeatN, interpPairs2, encWs, Is]
  | [_], _, _, he => by simp at he
  | k :: v :: kvs, rest, h, he => by
    obtain ⟨hvk, hfk, h⟩ := h.cons
    obtain ⟨hvv, hfv, h⟩ := h.cons
    have e : (k :: v :: kvs).length / 2 = kvs.length / 2 + 1 := by simp; omega
    simp only [e, repeatN, encWs, List.append_assoc, interpPairs2]
    refine pair_step hk hv k v hvk hvv hfk hfv _ rest _ _ (fun p => ?_)
    refine Is.bind (repeatN_pairs_spec hk hv kvs rest h (by simp at he; omega)) (fun c _ => ?_)
    simp [Is]

theorem untilBreak_pairs_spec {mk mv : Dec α} {fk fv : WItem → Option α} (hk : Spec mk fk) (hv : Spec mv fv) :
    ∀ (kvs : List WItem) (rest : Bytes) (fuel : Nat), GoodL kvs → kvs.length % 2 = 0 → kvs.length < fuel →
      Is (untilBreak (pairOf mk mv) fuel (encWs kvs ++ 0xff :: rest)) (interpPairs2 fk fv kvs) rest
  | _, _, 0, _, _, hfu => by omega
  | [], rest, n + 1, _, _, _ => by simp [untilBreak_break, interpPairs2, encWs, Is]
  | [_], _, _, _, he, _ => by simp at he
  | k :: v :: kvs, rest, n + 1, h, he, hfu => by
    obtain ⟨hvk, hfk, h⟩ := h.cons
    obtain ⟨hvv, hfv, h⟩ := h.cons
    simp only [encWs, List.append_assoc, interpPairs2]
    obtain ⟨b, tl, hb, hne⟩ := (encW_noBrk k hvk).append (encW v ++ (encWs kvs ++ 0xff :: rest))
    rw [hb, untilBreak_cons n b tl hne, ← hb]
    refine pair_step hk hv k v hvk hvv hfk hfv _ rest _ _ (fun p => ?_)
    refine Is.bind (untilBreak_pairs_spec hk hv kvs rest n h (by simp at he; omega) (by simp at hfu; omega))
      (fun c _ => ?_)
    simp [Is]

/-- `map_iter_with`, drained. -/
theorem Spec.mapIter {mk mv : Dec α} {fk fv : WItem → Option α} (hk : Spec mk fk) (hv : Spec mv fv) :
    Spec (Dec.mapIter mk mv) (fun w => (entries w).bind (interpPairs fk fv)) := by
  intro w rest hval hf
  have ha := acc_is .map w hval rest
  rw [mapIter_eq]
  cases w
  case map wd kvs =>
    have hvl := valid_entries (w := .map wd kvs) rfl hval
    simp only [view, after, Is] at ha
    simp only [entries, Option.bind_some, interpPairs_eq]
    rw [Dec.bind_run, show Dec.map _ = _ from ha]
    exact Is.map List.flatten (repeatN_pairs_spec hk hv kvs rest ⟨hvl.1, fits_entries (w := .map wd kvs) rfl hf⟩ hvl.2)
  case mapI kvs =>
    have hvl := valid_entries (w := .mapI kvs) rfl hval
    simp only [view, after, Is, List.append_assoc, List.singleton_append] at ha
    simp only [entries, Option.bind_some, interpPairs_eq]
    rw [Dec.bind_run, show Dec.map _ = _ from ha]
    simp only [Dec.bind_run, Dec.remaining]
    exact Is.map List.flatten (untilBreak_pairs_spec hk hv kvs rest _ ⟨hvl.1, fits_entries (w := .mapI kvs) rfl hf⟩
      hvl.2 (encWs_fuel kvs rest))
  all_goals exact NotOk.bind_left ha

theorem _root_.Minicbor.Dec.ite_run {α : Type} (c : Prop) [Decidable c] (f g : Dec α) (x : Bytes) :
    (if c then f else g) x = if c then f x else g x := by split <;> rfl

theorem arrayNIndef_cons {m : Dec α} (n fuel k : Nat) (b : UInt8) (tl : Bytes) (hb : b ≠ 0xff) :
    arrayNIndef m n (fuel + 1) k (b :: tl) =
      (m >>= fun x => if k ≥ n then Dec.fail .message
        else arrayNIndef m n fuel (k + 1) >>= fun xs => Pure.pure (x :: xs)) (b :: tl) := by
  simp [arrayNIndef, Dec.bind_run, hb]

theorem arrayNIndef_spec {m : Dec α} {f : WItem → Option α} (hs : Spec m f) (n : Nat) :
    ∀ (xs : List WItem) (rest : Bytes) (fuel k : Nat), GoodL xs → xs.length < fuel → k ≤ n →
      Is (arrayNIndef m n fuel k (encWs xs ++ 0xff :: rest)) (if k + xs.length = n then interpAll f xs else none) rest
  | _, _, 0, _, _, hfu, _ => by omega
  | [], rest, fu + 1, k, _, _, hk => by
    simp only [encWs, List.nil_append, List.length_nil, Nat.add_zero, interpAll]
    by_cases hkn : k = n
    · subst hkn; simp [arrayNIndef, Dec.bind_run, Is]
    · have : k < n := by omega
      rw [if_neg hkn]
      simp [arrayNIndef, Dec.bind_run, this]
      exact NotOk.err
  | x :: xs, rest, fu + 1, k, h, hfu, hk => by
    obtain ⟨hvx, hfx, hxs⟩ := h.cons
    simp only [encWs, List.append_assoc, interpAll, List.length_cons]
    obtain ⟨b, tl, he, hb⟩ := (encW_noBrk x hvx).append (encWs xs ++ 0xff :: rest)
    rw [he, arrayNIndef_cons n fu k b tl hb, ← he]
    have hx := hs x (encWs xs ++ 0xff :: rest) hvx hfx
    by_cases hkn : k + (xs.length + 1) = n
    · rw [if_pos hkn]
      refine Is.bind hx (fun v _ => ?_)
      have hlt : ¬ k ≥ n := by omega
      rw [Dec.ite_run, if_neg hlt]
      have ih := arrayNIndef_spec hs n xs rest fu (k + 1) hxs (by simpa using hfu) (by omega)
      rw [if_pos (by omega)] at ih
      refine Is.bind ih (fun vs _ => ?_)
      simp [Is]
    · rw [if_neg hkn]
      refine Is.bind_notOk hx (fun v _ => ?_)
      by_cases hge : k ≥ n
      · rw [Dec.ite_run, if_pos hge]; exact NotOk.err
      · rw [Dec.ite_run, if_neg hge]
        have ih := arrayNIndef_spec hs n xs rest fu (k + 1) hxs (by simpa using hfu) (by omega)
        rw [if_neg (by omega)] at ih
        exact NotOk.bind_left ih

theorem option_bind_some' (o : Option α) : (o.bind fun a => some a) = o := by cases o <;> rfl

/-- `[T; N]::decode`. -/
theorem Spec.arrayN {m : Dec α} {f : WItem → Option α} (hs : Spec m f) (n : Nat) :
    Spec (Dec.arrayN m n) (fun w => (elems w).bind fun xs => if xs.length = n then interpAll f xs else none) := by
  unfold Dec.arrayN
  refine Spec.ofElems (loop := fun fuel => arrayNIndef m n fuel 0) (fun xs rest h => ?_) (fun xs rest fuel h hfu => ?_)
  · have hr := repeatN_spec hs xs rest h
    by_cases hn : xs.length = n
    · rw [if_pos hn]
      have h1 : xs.length ≤ n := by omega
      have h2 : ¬ xs.length < n := by omega
      simp only [h1, if_true]
      refine (Is.bind hr (g := fun vs => some vs) (fun vs _ => ?_)).congr (option_bind_some' _)
      rw [Dec.ite_run, if_neg h2]; simp [Is]
    · rw [if_neg hn]
      by_cases hle : xs.length ≤ n
      · have hlt : xs.length < n := by omega
        simp only [hle, if_true, hlt]
        exact NotOk.bind_fail
      · simp only [hle, if_false]
        exact NotOk.bind_fail
  · simpa using arrayNIndef_spec hs n xs rest fuel 0 h hfu (by omega)

theorem interpZip_length_ne : ∀ (fs : List (WItem → Option α)) (xs : List WItem), fs.length ≠ xs.length →
    interpZip fs xs = none
  | [], [], h => by simp at h
  | [], _ :: _, _ => rfl
  | _ :: _, [], _ => rfl
  | f :: fs, x :: xs, h => by
    simp only [interpZip, interpZip_length_ne fs xs (by simpa using h)]
    cases f x <;> rfl

inductive SpecL : List (Dec α) → List (WItem → Option α) → Prop where
  | nil : SpecL [] []
  | cons {m : Dec α} {f : WItem → Option α} {ms : List (Dec α)} {fs : List (WItem → Option α)} :
      Spec m f → SpecL ms fs → SpecL (m :: ms) (f :: fs)

theorem seqAll_spec {ms : List (Dec α)} {fs : List (WItem → Option α)} (h : SpecL ms fs) :
    ∀ (xs : List WItem) (rest : Bytes), GoodL xs → xs.length = ms.length →
      Is (seqAll ms (encWs xs ++ rest)) (interpZip fs xs) rest := by
  induction h with
  | nil =>
    intro xs rest _ hl
    cases List.eq_nil_of_length_eq_zero hl
    simp [seqAll, interpZip, encWs, Is]
  | cons hmf _ ih =>
    intro xs rest hg hl
    cases xs with
    | nil => simp at hl
    | cons x xs =>
      obtain ⟨hx, hfx, hxs⟩ := hg.cons
      simp only [seqAll, interpZip, encWs, List.append_assoc]
      exact Is.cons (hmf x _ hx hfx) (ih xs rest hxs (by simpa using hl))

theorem SpecL.length {ms : List (Dec α)} {fs : List (WItem → Option α)} (h : SpecL ms fs) :
    ms.length = fs.length := by
  induction h with
  | nil => rfl
  | cons _ _ ih => simp [ih]

/-- the tuple impls: a definite array of exactly `L` elements. -/
theorem Spec.tup {ms : List (Dec α)} {fs : List (WItem → Option α)} (h : SpecL ms fs) (g : List α → β)
    (L : Nat) (hL : L = ms.length) :
    Spec (do let n ← Dec.array
             if n != some L then Dec.fail .message
             else do let vs ← seqAll ms; pure (g vs))
      (fun w => (elemsDef w).bind fun xs => (interpZip fs xs).map g) := by
  refine Spec.ofElemsDef (fun xs rest hg => ?_) (fun bs => by simp; exact NotOk.err)
  by_cases hn : xs.length = L
  · simp only [hn, bne_self_eq_false, Bool.false_eq_true, if_false]
    exact Is.map g (seqAll_spec h xs rest hg (by omega))
  · have : (some xs.length != some L) = true := by simp [hn]
    simp only [this, if_true]
    have hlen := h.length
    rw [interpZip_length_ne fs xs (by omega)]
    exact NotOk.err

end Minicbor.C04
