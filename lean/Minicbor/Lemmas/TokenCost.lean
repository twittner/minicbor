/-
  Byte accounting for `Token::decode` on arbitrary input: the rendering of a token is never larger than a constant
  times the bytes its decoding consumed (`token_paid`), because the argument of a head is tied to the bytes the
  head occupied (`HeadArg`) and a byte or text string token carries exactly bytes that were consumed.  So the cost
  `tc` (Lemmas/DisplayBound.lean) of everything the tokenizer yields is linear in the input length
  (`tokenize_cost`): the input side of `C19.display_bounded`.
-/
import Minicbor.Lemmas.TokenHeads
import Minicbor.Lemmas.TotalAcc
import Minicbor.Lemmas.DisplayBound

namespace Minicbor
open Dec C19

/-! ### the value a head carries against the bytes it occupied -/

/-- `n` was the argument of a head between `bs` and what is left, `r`: below 24 if one byte was consumed, below 2^32
    if at least two, below 2^64 if nine. -/
def HeadArg (n : Nat) (bs r : Bytes) : Prop :=
  n < 24 ∧ r.length + 1 ≤ bs.length ∨ n < 4294967296 ∧ r.length + 2 ≤ bs.length ∨
    n < 18446744073709551616 ∧ r.length + 9 ≤ bs.length

theorem HeadArg.zero {n : Nat} {bs r : Bytes} (h : HeadArg n bs r) : HeadArg 0 bs r := by
  unfold HeadArg at *; omega

/-- `unsigned` is called with the initial byte `x` already read. -/
theorem Dec.unsigned_arg {b x : UInt8} {bs r : Bytes} {n : Nat} (h : Dec.unsigned b bs = .ok n r) :
    HeadArg n (x :: bs) r := by
  unfold Dec.unsigned at h
  unfold HeadArg
  simp only [List.length_cons]
  split at h
  · obtain ⟨rfl, rfl⟩ := Dec.pure_ok_inv h
    omega
  split at h
  · obtain ⟨y, h1, rfl⟩ := Dec.map_ok_inv h
    have := Dec.read_ok_inv h1
    have := y.toNat_lt
    subst_vars; simp only [List.length_cons]; omega
  have slice : ∀ {k}, (k = 2 ∨ k = 4 ∨ k = 8) →
      (readSlice k >>= fun xs => (pure (fromBe xs) : Dec Nat)) bs = .ok n r →
      n < 4294967296 ∧ r.length + 2 ≤ bs.length + 1 ∨
        n < 18446744073709551616 ∧ r.length + 9 ≤ bs.length + 1 := fun hk h => by
    obtain ⟨xs, h1, rfl⟩ := Dec.map_ok_inv h
    obtain ⟨hl, rfl⟩ := Dec.readSlice_ok_inv h1
    have := fromBe_lt xs
    simp only [List.length_append]
    rcases hk with rfl | rfl | rfl <;> rw [hl] at this <;> omega
  split at h
  · exact .inr (slice (.inl rfl) h)
  split at h
  · exact .inr (slice (.inr (.inl rfl)) h)
  split at h
  · exact .inr (slice (.inr (.inr rfl)) h)
  · exact (typeMismatch_not_ok _ _ _ _ h).elim

theorem Dec.tryAs_ok_inv {v m : Nat} {bs r : Bytes} {n : Nat} (h : Dec.tryAs v m bs = .ok n r) :
    n = v ∧ r = bs := by
  unfold Dec.tryAs at h
  split at h
  · exact Dec.pure_ok_inv h
  · cases h

theorem Dec.intAcc_arg {t : IntTy} {bs r : Bytes} {v : Int} (h0 : Dec.intAcc t bs = .ok v r) :
    ∃ n : Nat, HeadArg n bs r ∧ (v = n ∨ v = -1 - n) := by
  unfold Dec.intAcc at h0
  obtain ⟨b, r1, rfl, h⟩ := Dec.read_bind_ok_inv h0
  dsimp only at h
  split at h
  · obtain ⟨v1, r2, hu, h⟩ := Dec.bind_ok_inv h
    obtain ⟨v2, h3, rfl⟩ := Dec.map_ok_inv h
    obtain ⟨rfl, rfl⟩ := Dec.tryAs_ok_inv h3
    exact ⟨_, Dec.unsigned_arg hu, .inl rfl⟩
  split at h
  · obtain ⟨v1, r2, hu, h⟩ := Dec.bind_ok_inv h
    obtain ⟨v2, h3, rfl⟩ := Dec.map_ok_inv h
    obtain ⟨rfl, rfl⟩ := Dec.tryAs_ok_inv h3
    exact ⟨_, Dec.unsigned_arg hu, .inr rfl⟩
  · exact (typeMismatch_not_ok _ _ _ _ h).elim

theorem Dec.tag_arg {bs r : Bytes} {n : Nat} (h0 : Dec.tag bs = .ok n r) : HeadArg n bs r := by
  unfold Dec.tag at h0
  obtain ⟨x, r1, rfl, h⟩ := Dec.read_bind_ok_inv h0
  split at h
  · exact (typeMismatch_not_ok _ _ _ _ h).elim
  · exact Dec.unsigned_arg h

theorem Dec.container_arg {maj : Nat} {bs r : Bytes} {n : Nat} (h0 : Dec.container maj bs = .ok (some n) r) :
    HeadArg n bs r := by
  unfold Dec.container at h0
  obtain ⟨x, r1, rfl, h⟩ := Dec.read_bind_ok_inv h0
  split at h
  · exact (typeMismatch_not_ok _ _ _ _ h).elim
  split at h
  · cases h
  · obtain ⟨n', h2, e⟩ := Dec.map_ok_inv h
    cases e
    exact Dec.unsigned_arg h2

theorem Dec.simple_arg {bs r : Bytes} {n : Nat} (h0 : Dec.simple bs = .ok n r) : HeadArg n bs r := by
  unfold Dec.simple at h0
  obtain ⟨x, r1, rfl, h⟩ := Dec.read_bind_ok_inv h0
  unfold HeadArg
  dsimp only at h
  split at h
  · rename_i hc
    obtain ⟨e, rfl⟩ := Dec.pure_ok_inv h
    simp only [Bool.and_eq_true, decide_eq_true_eq] at hc
    simp only [List.length_cons]; omega
  split at h
  · obtain ⟨y, h1, rfl⟩ := Dec.map_ok_inv h
    cases Dec.read_ok_inv h1
    have := y.toNat_lt
    simp only [List.length_cons]; omega
  · exact (typeMismatch_not_ok _ _ _ _ h).elim

/-! ### a float token occupies at least three bytes -/

theorem Dec.Consumes.readSlice_n (n : Nat) : Consumes (Dec.readSlice n) n := by
  intro bs a r h
  obtain ⟨hl, rfl⟩ := Dec.readSlice_ok_inv h
  simp only [List.length_append]; omega

theorem Dec.Consumes.f16_3 : Consumes Dec.f16 3 :=
  Consumes.bind (j := 1) (k := 2) Consumes.read fun _ =>
    Consumes.ite (Consumes.rules.typeMismatch _ _) (Consumes.map_pure (Consumes.readSlice_n 2))

theorem Dec.Consumes.f32_3 : Consumes (Dec.f32 true) 3 :=
  Consumes.rules.bindL Consumes.current fun _ => Consumes.ite Consumes.f16_3 <| Consumes.ite
    (Consumes.bind (j := 1) (k := 2) Consumes.read fun _ =>
      (Consumes.map_pure (Consumes.readSlice_n 4)).mono (by omega))
    (Consumes.rules.typeMismatch _ _)

theorem Dec.Consumes.f64_3 : Consumes (Dec.f64 true) 3 :=
  Consumes.rules.bindL Consumes.current fun _ => Consumes.ite (Consumes.map_pure Consumes.f16_3) <| Consumes.ite
    (Consumes.map_pure Consumes.f32_3) <| Consumes.ite
    (Consumes.bind (j := 1) (k := 2) Consumes.read fun _ =>
      (Consumes.map_pure (Consumes.readSlice_n 8)).mono (by omega))
    (Consumes.rules.typeMismatch _ _)

/-! ### sizes of renderings -/

theorem nat_len_k (n k : Nat) (hk : 0 < k) (h : n < 10 ^ k) : (toString n).length ≤ k := by
  rw [Nat.toString_eq_repr, Nat.length_repr_le_iff hk]; exact h

theorem len_minus : "-".length = 1 := by decide

theorem int_len_k (v : Int) (k : Nat) (hk : 0 < k) (h1 : -(10 ^ k : Int) < v) (h2 : v < 10 ^ k) :
    (toString v).length ≤ k + 1 := by
  rw [Int.toString_eq_repr, Int.repr_eq_if]
  split
  · have := (Nat.length_repr_le_iff (n := v.toNat) hk).mpr (by
      have : ((v.toNat : Nat) : Int) < ((10 ^ k : Nat) : Int) := by
        rw [Int.toNat_of_nonneg (by assumption)]; simpa using h2
      exact Int.ofNat_lt.mp this)
    omega
  · rw [String.length_append, len_minus]
    have := (Nat.length_repr_le_iff (n := (-v).toNat) hk).mpr (by
      have : (((-v).toNat : Nat) : Int) < ((10 ^ k : Nat) : Int) := by
        rw [Int.toNat_of_nonneg (by omega)]; simp only [Int.natCast_pow, Int.cast_ofNat_Int]; omega
      exact Int.ofNat_lt.mp this)
    omega

/-- two digits for one byte, ten for two to five, twenty for nine. -/
theorem HeadArg.digits {n : Nat} {bs r : Bytes} (h : HeadArg n bs r) :
    (toString n).length ≤ 20 ∧ (toString n).length + 6 + 8 * r.length ≤ 8 * bs.length := by
  rcases h with ⟨_, _⟩ | ⟨_, _⟩ | ⟨_, _⟩
  · have := nat_len_k n 2 (by omega) (by omega); omega
  · have := nat_len_k n 10 (by omega) (by omega); omega
  · have := nat_len_k n 20 (by omega) (by omega); omega

theorem HeadArg.int_digits {n : Nat} {v : Int} {bs r : Bytes} (h : HeadArg n bs r) (hv : v = n ∨ v = -1 - n) :
    (toString v).length ≤ 21 ∧ (toString v).length + 5 + 8 * r.length ≤ 8 * bs.length := by
  rcases h with ⟨_, _⟩ | ⟨_, _⟩ | ⟨_, _⟩
  · have := int_len_k v 2 (by omega) (by omega) (by omega); omega
  · have := int_len_k v 10 (by omega) (by omega) (by omega); omega
  · have := int_len_k v 20 (by omega) (by omega) (by omega); omega

theorem hex2_len (b : UInt8) : (hex2 b).length = 2 := by
  simp [hex2]

theorem len_sp : " ".length = 1 := by decide
theorem len_h : "h'".length = 2 := by decide
theorem len_q : "'".length = 1 := by decide
theorem len_dq : "\"".length = 1 := by decide
theorem len_simple : "simple(".length = 7 := by decide
theorem len_true : "true".length = 4 := by decide
theorem len_false : "false".length = 5 := by decide
theorem len_null : "null".length = 4 := by decide
theorem len_undefined : "undefined".length = 9 := by decide

theorem intercalate_hex_len (b : Bytes) : (" ".intercalate (b.map hex2)).length ≤ 3 * b.length := by
  induction b with
  | nil => simp
  | cons x xs ih =>
    cases xs with
    | nil => simp [hex2_len]
    | cons y ys =>
      simp only [List.map_cons, String.intercalate_cons_cons, String.length_append, hex2_len, len_sp] at ih ⊢
      simp only [List.length_cons] at ih ⊢
      omega

def Token.rsize (t : Token) : Nat := renderedLength t.render

theorem rsize_bytes (b : Bytes) : Token.rsize (.bytes b) ≤ 3 * b.length + 3 := by
  have := intercalate_hex_len b
  simp only [Token.rsize, Token.render, renderedLength_cons, renderedLength_nil, Piece.rlen,
    String.length_append, len_h, len_q]
  omega

theorem rsize_string (b : Bytes) : Token.rsize (.string b) = b.length + 2 := by
  simp only [Token.rsize, Token.render, renderedLength_cons, renderedLength_nil, Piece.rlen, len_dq]
  omega

theorem rsize_lits :
    Token.rsize (.bool true) = 4 ∧ Token.rsize (.bool false) = 5 ∧ Token.rsize .brk = 1 ∧
    Token.rsize .null = 4 ∧ Token.rsize .undefined = 9 ∧ Token.rsize .beginBytes = 3 ∧
    Token.rsize .beginString = 3 ∧ Token.rsize .beginArray = 3 ∧ Token.rsize .beginMap = 3 := by
  simp [Token.rsize, Token.render, Piece.rlen, len_true, len_false, len_null, len_undefined]

theorem rsize_headed (n : Nat) :
    Token.rsize (.array n) = (toString n).length + 3 ∧ Token.rsize (.map n) = (toString n).length + 3 ∧
    Token.rsize (.tag n) = (toString n).length + 3 ∧ Token.rsize (.simple n) = (toString n).length + 8 := by
  simp [Token.rsize, Token.render, Piece.rlen, String.length_append, toString_str, len_simple]
  omega

/-! ### one lemma per shape of token -/

/-- the two bounds for a rendering of size `s`: three bytes of text per consumed input byte plus a
    constant; and, counting the 5 the potential function `tc` charges per token, sixteen per input byte
    without a constant. -/
def Paid (s : Nat) (bs rest : Bytes) : Prop :=
  s + 3 * rest.length ≤ 3 * bs.length + 32 ∧ s + 5 + 16 * rest.length ≤ 16 * bs.length

/-- a token of one byte: `undefined` is the longest rendering. -/
theorem Paid.small {s : Nat} {bs rest : Bytes} (hs : s ≤ 9) (hc : rest.length + 1 ≤ bs.length) :
    Paid s bs rest := by
  unfold Paid; omega

/-- a number of `d` characters with its sign, in at most eight characters of text. -/
theorem Paid.num {s d k : Nat} {bs rest : Bytes} (hk : k ≤ 8) (hs : s = d + k)
    (hd : d ≤ 21 ∧ d + 5 + 8 * rest.length ≤ 8 * bs.length) : Paid s bs rest := by
  unfold Paid; omega

theorem Paid.nat {c : Nat → Token} {ity : IntTy} {bs rest : Bytes} {t : Token}
    (hr : ∀ n, (c n).render = [.lit (toString n)])
    (h : (intAcc ity >>= fun v => pure (c v.toNat)) bs = .ok t rest) : Paid t.rsize bs rest := by
  obtain ⟨v, h1, rfl⟩ := Dec.map_ok_inv h
  obtain ⟨n, ha, hv⟩ := Dec.intAcc_arg h1
  have hd : HeadArg v.toNat bs rest := by
    rcases hv with rfl | rfl
    · exact ha
    · rw [show (-1 - (n : Int)).toNat = 0 by omega]; exact ha.zero
  exact .num (d := (toString v.toNat).length) (k := 0) (by omega) (by simp [Token.rsize, hr, Piece.rlen])
    (by have := hd.digits; omega)

theorem Paid.int {c : Int → Token} {ity : IntTy} {bs rest : Bytes} {t : Token}
    (hr : ∀ v, (c v).render = [.lit (toString v)])
    (h : (intAcc ity >>= fun v => pure (c v)) bs = .ok t rest) : Paid t.rsize bs rest := by
  obtain ⟨v, h1, rfl⟩ := Dec.map_ok_inv h
  obtain ⟨n, ha, hv⟩ := Dec.intAcc_arg h1
  exact .num (d := (toString v).length) (k := 0) (by omega) (by simp [Token.rsize, hr, Piece.rlen])
    (ha.int_digits hv)

theorem Paid.headed {n k : Nat} {bs rest : Bytes} {t : Token} (ha : HeadArg n bs rest) (hk : k ≤ 8)
    (hr : t.rsize = (toString n).length + k) : Paid t.rsize bs rest :=
  .num hk hr (by have := ha.digits; omega)

theorem Paid.float {m : Dec Nat} {c : Nat → Token} {bs rest : Bytes} {t : Token}
    (hr : ∀ x, (c x).rsize = 32) (hm : Consumes m 3)
    (h : (m >>= fun x => pure (c x)) bs = .ok t rest) : Paid t.rsize bs rest := by
  obtain ⟨x, h1, rfl⟩ := Dec.map_ok_inv h
  have := hm _ _ _ h1
  have := hr x
  unfold Paid; omega

theorem token_paid {bs rest : Bytes} {t : Token} (h : Dec.token bs = .ok t rest) :
    Paid t.rsize bs rest := by
  have hc := Consumes.token bs t rest h
  rw [Dec.token_eq] at h
  obtain ⟨ty, r', hd, h⟩ := Dec.bind_ok_inv h
  cases Keeps.datatype bs ty r' hd
  cases ty <;> simp only [Dec.tokenArm] at h
  case bool =>
    obtain ⟨b, _, rfl⟩ := Dec.map_ok_inv h
    cases b
    · exact .small (by rw [rsize_lits.2.1]; omega) hc
    · exact .small (by rw [rsize_lits.1]; omega) hc
  case u8 => exact .nat (c := .u8) (fun _ => rfl) h
  case u16 => exact .nat (c := .u16) (fun _ => rfl) h
  case u32 => exact .nat (c := .u32) (fun _ => rfl) h
  case u64 => exact .nat (c := .u64) (fun _ => rfl) h
  case i8 => exact .int (c := .i8) (fun _ => rfl) h
  case i16 => exact .int (c := .i16) (fun _ => rfl) h
  case i32 => exact .int (c := .i32) (fun _ => rfl) h
  case i64 => exact .int (c := .i64) (fun _ => rfl) h
  case int => exact .int (c := .int) (fun _ => rfl) h
  case f16 => exact .float (c := .f16) (fun _ => rfl) Consumes.f16_3 h
  case f32 => exact .float (c := .f32) (fun _ => rfl) Consumes.f32_3 h
  case f64 => exact .float (c := .f64) (fun _ => rfl) Consumes.f64_3 h
  case bytes =>
    obtain ⟨b, h1, rfl⟩ := Dec.map_ok_inv h
    have : (1 + b.length) + rest.length ≤ 0 + bs.length := Sized.bytes _ _ _ h1
    have := rsize_bytes b
    unfold Paid; omega
  case string =>
    obtain ⟨b, h1, rfl⟩ := Dec.map_ok_inv h
    have : (1 + b.length) + rest.length ≤ 0 + bs.length := Sized.str _ _ _ h1
    have := rsize_string b
    unfold Paid; omega
  case tag =>
    obtain ⟨n, h1, rfl⟩ := Dec.map_ok_inv h
    exact .headed (Dec.tag_arg h1) (by omega) (rsize_headed n).2.2.1
  case simple =>
    obtain ⟨n, h1, rfl⟩ := Dec.map_ok_inv h
    exact .headed (Dec.simple_arg h1) (by omega) (rsize_headed n).2.2.2
  case array | map =>
    obtain ⟨o, r1, h1, h2⟩ := Dec.bind_ok_inv h
    cases o with
    | none => cases h2
    | some n =>
      obtain ⟨rfl, rfl⟩ := Dec.pure_ok_inv h2
      exact .headed (k := 3) (Dec.container_arg h1) (by omega) (by simp only [rsize_headed])
  case unknown => cases h
  all_goals
    obtain ⟨u, _, rfl⟩ := Dec.map_ok_inv h
    exact .small (by simp only [rsize_lits]; omega) hc

theorem token_rsize {bs rest : Bytes} {t : Token} (h : Dec.token bs = .ok t rest) :
    Token.rsize t + 3 * rest.length ≤ 3 * bs.length + 32 :=
  (token_paid h).1

theorem token_rsize16 {bs rest : Bytes} {t : Token} (h : Dec.token bs = .ok t rest) :
    Token.rsize t + 5 + 16 * rest.length ≤ 16 * bs.length :=
  (token_paid h).2

theorem tokenize_cost (fuel : Nat) (bs : Bytes) (items : List TokItem)
    (h : tokenize fuel bs = some items) : tcs items ≤ 16 * bs.length := by
  induction fuel generalizing bs items with
  | zero => cases h
  | succ f ih =>
    unfold tokenize at h
    cases ht : Dec.token bs with
    | ok t rest =>
      rw [ht] at h
      simp only [Option.map_eq_some_iff] at h
      obtain ⟨items', h1, rfl⟩ := h
      have := ih rest items' h1
      have := token_rsize16 ht
      simp only [tcs, tc, Token.rsize] at *; omega
    | err e rest =>
      rw [ht] at h
      cases bs with
      | nil => cases ht; cases h; simp [tcs]
      | cons b tl =>
        have : tcs items ≤ 5 := by
          cases e <;> cases h <;> simp [tcs, tc]
        simp only [List.length_cons]; omega
    | panic => rw [ht] at h; cases h

end Minicbor
