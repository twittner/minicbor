/-
  What a balanced call sequence writes (`Balanced ts ws`, Balanced.lean): exactly the encodings of
  the items it denotes, each well-formed.  One call is `Token.enc`, i.e. one `Encoder` method.
-/
import Minicbor.Lemmas.BalancedIff
import Minicbor.Lemmas.BalancedSpec
import Minicbor.Lemmas.FloatHalf
import Minicbor.Lemmas.TypesStart

namespace Minicbor

theorem encodeTokens_append (a b : List Token) :
    encodeTokens (a ++ b) = encodeTokens a ++ encodeTokens b := by
  induction a with
  | nil => rfl
  | cons t ts ih => simp [encodeTokens, ih]

theorem validAll_append (a b : List WItem) : validAll (a ++ b) = (validAll a && validAll b) := by
  induction a with
  | nil => simp [validAll]
  | cons x xs ih => simp [validAll, ih, Bool.and_assoc]

theorem fits_lt64 {w : Width} {n : Nat} (h : w.fits n = true) : n < 18446744073709551616 := by
  have := Width.fits_lt w n h; omega

theorem enc_bytesTok (b : Bytes) (h : b.length < 18446744073709551616) :
    (Token.bytes b).enc = headW 2 (prefWidth b.length) b.length ++ b :=
  C03.bytes_pref b h

theorem enc_stringTok (b : Bytes) (h : b.length < 18446744073709551616) :
    (Token.string b).enc = headW 3 (prefWidth b.length) b.length ++ b :=
  C03.str_pref b h

theorem enc_arrayTok (n : Nat) (h : n < 18446744073709551616) :
    (Token.array n).enc = headW 4 (prefWidth n) n :=
  C03.array_pref n h

theorem enc_mapTok (n : Nat) (h : n < 18446744073709551616) :
    (Token.map n).enc = headW 5 (prefWidth n) n :=
  C03.map_pref n h

theorem enc_tagTok (n : Nat) (h : n < 18446744073709551616) :
    (Token.tag n).enc = headW 6 (prefWidth n) n :=
  C03.tag_pref n h

theorem intW_eq (v : Int) : intW v = prefTree (C03.intItem v) := by
  unfold intW C03.intItem; split <;> rfl

/-- `simple(20..=31)` is excepted (K1): `Encoder::simple` writes it as `f8 nn`, which is not well-formed. -/
theorem scalar_denote {t : Token} {w : WItem} (hs : scalarW t = some w) (hok : t.callOk)
    (hr : t.reservedSimple = false) : t.enc = encW w ∧ w.valid = true := by
  cases t <;> simp only [scalarW, Option.some.injEq, reduceCtorEq] at hs <;> subst hs
  case bool b => cases b <;> exact ⟨rfl, rfl⟩
  case null | undefined => exact ⟨rfl, rfl⟩
  case u8 n =>
    have h : n < 256 := of_decide_eq_true hok
    exact ⟨C03.u8_pref n h, prefWidth_fits n (by omega)⟩
  case u16 n =>
    have h : n < 65536 := of_decide_eq_true hok
    exact ⟨C03.u16_pref n h, prefWidth_fits n (by omega)⟩
  case u32 n =>
    have h : n < 4294967296 := of_decide_eq_true hok
    exact ⟨C03.u32_pref n h, prefWidth_fits n (by omega)⟩
  case u64 n =>
    have h : n < 18446744073709551616 := of_decide_eq_true hok
    exact ⟨C03.u64_pref n h, prefWidth_fits n h⟩
  case i8 v | i16 v | i32 v | i64 v | int v =>
    rw [intW_eq]
    exact ⟨IntKind.enc_pref _ v hok, intItem_valid _ v hok⟩
  case f16 x => exact ⟨rfl, decide_eq_true (f32ToF16_lt x (of_decide_eq_true hok))⟩
  case f32 x | f64 x => exact ⟨rfl, hok⟩
  case bytes b => exact ⟨C03.bytes_pref b hok, prefWidth_fits _ hok⟩
  case string b =>
    exact ⟨C03.str_pref b hok.1, by simp only [WItem.valid, prefWidth_fits _ hok.1, hok.2, Bool.and_self]⟩
  case simple n =>
    refine C03.simple_pref_partial n (of_decide_eq_true hok) ?_
    simp only [Token.reservedSimple, Bool.and_eq_false_iff, decide_eq_false_iff_not] at hr
    omega

/-- the `bytes` / `str` calls (`mk`) between `begin_bytes` / `begin_str` and `end`. -/
theorem enc_chunks {mk : Bytes → Token} {maj : Nat} {text : Bool}
    (hmk : ∀ b, (mk b).callOk → (mk b).enc = headW maj (prefWidth b.length) b.length ++ b ∧
      ((prefWidth b.length).fits b.length && (!text || validUtf8 b)) = true)
    (cs : List Bytes) (h : ∀ t ∈ cs.map mk, t.callOk) :
    encodeTokens (cs.map mk) = encChunks maj (prefChunks cs) ∧ chunksValid text (prefChunks cs) = true := by
  induction cs with
  | nil => exact ⟨rfl, rfl⟩
  | cons c cs ih =>
    rw [List.map_cons, List.forall_mem_cons] at h
    obtain ⟨i1, i2⟩ := ih h.2
    obtain ⟨e, v⟩ := hmk c h.1
    simp only [prefChunks] at i1 i2
    exact ⟨by simp only [List.map_cons, encodeTokens, prefChunks, encChunks, e, i1],
      by simp only [prefChunks, List.map_cons, chunksValid, v, i2, Bool.and_self]⟩

def Token.good (t : Token) : Prop := t.callOk ∧ t.reservedSimple = false

theorem Balanced.denote {ts : List Token} {ws : List WItem} (h : Balanced ts ws)
    (hg : ∀ t ∈ ts, t.good) : encodeTokens ts = encWs ws ∧ validAll ws = true := by
  induction h with
  | nil => exact ⟨rfl, rfl⟩
  | @scalar t w ts ws hs _ ih =>
    rw [List.forall_mem_cons] at hg
    obtain ⟨e, v⟩ := ih hg.2
    obtain ⟨e1, v1⟩ := scalar_denote hs hg.1.1 hg.1.2
    exact ⟨by simp only [encodeTokens, encWs, e, e1], by simp only [validAll, v, v1, Bool.and_self]⟩
  | @array n xt ts xs ws _ hl _ ihx ih =>
    simp only [List.forall_mem_cons, List.forall_mem_append] at hg
    have hn : n < 18446744073709551616 := of_decide_eq_true hg.1.1
    obtain ⟨ex, vx⟩ := ihx hg.2.1
    obtain ⟨e, v⟩ := ih hg.2.2
    subst hl
    constructor
    · simp only [encodeTokens, encodeTokens_append, encWs, encW, ex, e, enc_arrayTok _ hn,
        List.append_assoc]
    · simp only [validAll, WItem.valid, prefWidth_fits _ hn, vx, v, Bool.and_self]
  | @map n xt ts kvs ws _ hl _ ihx ih =>
    simp only [List.forall_mem_cons, List.forall_mem_append] at hg
    have hn : n < 18446744073709551616 := of_decide_eq_true hg.1.1
    obtain ⟨ex, vx⟩ := ihx hg.2.1
    obtain ⟨e, v⟩ := ih hg.2.2
    have h2 : kvs.length / 2 = n := by omega
    have h3 : kvs.length % 2 = 0 := by omega
    constructor
    · simp only [encodeTokens, encodeTokens_append, encWs, encW, ex, e, enc_mapTok _ hn, h2,
        List.append_assoc]
    · simp [validAll, WItem.valid, prefWidth_fits _ hn, vx, v, h2, h3]
  | @tag n xt ts x ws _ _ ihx ih =>
    simp only [List.forall_mem_cons, List.forall_mem_append] at hg
    have hn : n < 18446744073709551616 := of_decide_eq_true hg.1.1
    obtain ⟨ex, vx⟩ := ihx hg.2.1
    obtain ⟨e, v⟩ := ih hg.2.2
    simp only [encWs, List.append_nil, validAll, Bool.and_true] at ex vx
    constructor
    · simp only [encodeTokens, encodeTokens_append, encWs, encW, ex, e, enc_tagTok _ hn,
        List.append_assoc]
    · simp only [validAll, WItem.valid, prefWidth_fits _ hn, vx, v, Bool.and_self]
  | @arrayI xt ts xs ws _ _ ihx ih =>
    simp only [List.forall_mem_cons, List.forall_mem_append] at hg
    obtain ⟨ex, vx⟩ := ihx hg.2.1
    obtain ⟨e, v⟩ := ih hg.2.2.2
    constructor
    · simp only [encodeTokens, encodeTokens_append, encWs, encW, ex, e]
      simp [Token.enc, Enc.beginArray, Enc.end]
    · simp only [validAll, WItem.valid, vx, v, Bool.and_self]
  | @mapI xt ts kvs ws _ he _ ihx ih =>
    simp only [List.forall_mem_cons, List.forall_mem_append] at hg
    obtain ⟨ex, vx⟩ := ihx hg.2.1
    obtain ⟨e, v⟩ := ih hg.2.2.2
    constructor
    · simp only [encodeTokens, encodeTokens_append, encWs, encW, ex, e]
      simp [Token.enc, Enc.beginMap, Enc.end]
    · simp [validAll, WItem.valid, vx, v, he]
  | @bytesI cs ts ws _ ih =>
    simp only [List.forall_mem_cons, List.forall_mem_append] at hg
    obtain ⟨ex, vx⟩ := enc_chunks (maj := 2) (text := false)
      (fun b hb => ⟨enc_bytesTok b hb, by simp [prefWidth_fits _ hb]⟩) cs (fun t ht => (hg.2.1 t ht).1)
    obtain ⟨e, v⟩ := ih hg.2.2.2
    constructor
    · simp only [encodeTokens, encodeTokens_append, encWs, encW, ex, e]
      simp [Token.enc, Enc.beginBytes, Enc.end]
    · simp only [validAll, WItem.valid, vx, v, Bool.and_self]
  | @textI cs ts ws _ ih =>
    simp only [List.forall_mem_cons, List.forall_mem_append] at hg
    obtain ⟨ex, vx⟩ := enc_chunks (maj := 3) (text := true)
      (fun b hb => ⟨enc_stringTok b hb.1, by simp [prefWidth_fits _ hb.1, hb.2]⟩) cs (fun t ht => (hg.2.1 t ht).1)
    obtain ⟨e, v⟩ := ih hg.2.2.2
    constructor
    · simp only [encodeTokens, encodeTokens_append, encWs, encW, ex, e]
      simp [Token.enc, Enc.beginStr, Enc.end]
    · simp only [validAll, WItem.valid, vx, v, Bool.and_self]

end Minicbor
