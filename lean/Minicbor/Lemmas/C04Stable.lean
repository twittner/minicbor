/-
  Stability under extension of the input: behind C04's "strict prefixes fail with end of input", and,
  through its success half (`Stable.ok_ext`; `Ext` as a predicate), where bytes are appended to an input
  that decodes (C06, Lemmas/ItemStart.lean).

  `Stable m`: if `m` succeeds on `bs`, it succeeds on `bs ++ q` with the same value and `q` appended to
  the remaining input; if it fails with a class other than end of input, it fails on `bs ++ q` with the
  same class at the same place.  So only end of input can change when bytes are appended
  (`Stable.prefix_eoi`).

  The relation is stated between two actions (`ExtRel m m'`) so that fuelled loops, whose fuel is
  computed from the length of the remaining input, can be related at two different fuels.
  `ExtRel.rules` makes it a `LoopRules` instance (Lemmas/DecRules.lean); for `decodeT` see
  Lemmas/TotalTy.lean.
-/
import Minicbor.Lemmas.DecRules

namespace Minicbor.Dec

/-- `panic ↦ True`: a fuelled loop at fuel 0 is `panic`, and has to be related to the same loop at a
    larger fuel (`LoopRules.panic`). -/
def Res.ExtTo (q : Bytes) : Res α → Res α → Prop
  | .ok a r, y => y = .ok a (r ++ q)
  | .err e r, y => e = .eoi ∨ y = .err e (r ++ q)
  | .panic, _ => True

def ExtRel (m m' : Dec α) : Prop := ∀ bs q, Res.ExtTo q (m bs) (m' (bs ++ q))

abbrev Stable (m : Dec α) : Prop := ExtRel m m

namespace ExtRel

theorem pure (a : α) : ExtRel (Pure.pure a : Dec α) (Pure.pure a) := by
  intro bs q; rfl

theorem fail (e : Err) : ExtRel (Dec.fail e : Dec α) (Dec.fail e) := by
  intro bs q; exact .inr rfl

theorem panic (m' : Dec α) : ExtRel (Dec.panic : Dec α) m' := by
  intro bs q; trivial

theorem read : ExtRel Dec.read Dec.read := by
  intro bs q
  cases bs with
  | nil => exact .inl rfl
  | cons b bs => rfl

theorem current : ExtRel Dec.current Dec.current := by
  intro bs q
  cases bs with
  | nil => exact .inl rfl
  | cons b bs => rfl

theorem peek : ExtRel Dec.peek Dec.peek := by
  intro bs q
  match bs with
  | [] => exact .inl rfl
  | [_] => exact .inl rfl
  | _ :: _ :: _ => rfl

theorem readSlice (n : Nat) : ExtRel (Dec.readSlice n) (Dec.readSlice n) := by
  intro bs q
  unfold Dec.readSlice
  by_cases hn : n ≤ bs.length
  · have : n ≤ (bs ++ q).length := by simp; omega
    simp only [hn, this, if_true, Res.ExtTo, List.take_append_of_le_length hn,
      List.drop_append_of_le_length hn]
  · simp only [hn, if_false]; exact .inl rfl

theorem bind {m m' : Dec α} {f g : α → Dec β} (hm : ExtRel m m') (hf : ∀ a, ExtRel (f a) (g a)) :
    ExtRel (m >>= f) (m' >>= g) := by
  intro bs q
  rw [Dec.bind_run, Dec.bind_run]
  have h := hm bs q
  cases hmb : m bs with
  | ok a r =>
    rw [hmb] at h; simp only [Res.ExtTo] at h
    rw [h]; exact hf a r q
  | err e r =>
    rw [hmb] at h; simp only [Res.ExtTo] at h
    rcases h with h | h
    · exact .inl h
    · rw [h]; exact .inr rfl
  | panic => trivial

end ExtRel

theorem Stable.withRemaining {loop : Nat → Dec α} (c : Nat)
    (h : ∀ f f', f ≤ f' → ExtRel (loop f) (loop f')) :
    Stable (Dec.remaining >>= fun r => loop (r.length + c)) := by
  intro bs q
  simp only [Dec.bind_run, Dec.remaining]
  exact h _ _ (by simp) bs q

theorem ExtRel.rules : LoopRules (fun _ => @ExtRel) :=
  { pure := ExtRel.pure, fail := fun _ => ExtRel.fail, read := ExtRel.read, current := ExtRel.current
    peek := ExtRel.peek, readSlice := ExtRel.readSlice
    bind := ExtRel.bind, weaken := id, bind₂ := ExtRel.bind, panic := fun _ => ExtRel.panic
    withRemaining := Stable.withRemaining }


theorem Stable.ok_ext {m : Dec α} (hs : Stable m) {bs : Bytes} {a : α} {r : Bytes} (q : Bytes)
    (h : m bs = .ok a r) : m (bs ++ q) = .ok a (r ++ q) := by
  have := hs bs q; rw [h] at this; exact this

theorem Stable.err_ext {m : Dec α} (hs : Stable m) {bs : Bytes} {e : Err} {r : Bytes} (q : Bytes)
    (h : m bs = .err e r) (hne : e ≠ .eoi) : m (bs ++ q) = .err e (r ++ q) := by
  have := hs bs q; rw [h] at this
  rcases this with h1 | h1
  · exact absurd h1 hne
  · exact h1

theorem Stable.prefix_eoi {m : Dec α} (hs : Stable m) (hp : NoPanic m) {p q : Bytes} {a : α} {r0 : Bytes}
    (h : m (p ++ q) = .ok a r0) (hlen : r0.length < q.length) : ∃ r, m p = .err .eoi r := by
  cases hmp : m p with
  | ok a' r =>
    rw [hs.ok_ext q hmp] at h
    injection h with _ h2
    rw [← h2] at hlen; simp at hlen; omega
  | err e r =>
    by_cases he : e = .eoi
    · subst he; exact ⟨r, rfl⟩
    · rw [hs.err_ext q hmp he] at h; cases h
  | panic => exact absurd hmp (hp p)

theorem Stable.prefix_eoi_nil {m : Dec α} (hs : Stable m) (hp : NoPanic m) {p q : Bytes} {a : α}
    (h : m (p ++ q) = .ok a []) (hq : q ≠ []) : ∃ r, m p = .err .eoi r :=
  hs.prefix_eoi hp h (by cases q with | nil => exact absurd rfl hq | cons _ _ => simp)

theorem Stable.prefix_eoi_of_isPrefix {m : Dec α} (hs : Stable m) (hp : NoPanic m) {p bs : Bytes} {a : α}
    (h : m bs = .ok a []) (hpre : p <+: bs) (hne : p ≠ bs) : ∃ r, m p = .err .eoi r := by
  obtain ⟨q, rfl⟩ := hpre
  exact hs.prefix_eoi_nil hp h fun e => hne (by rw [e, List.append_nil])

theorem Stable.intAcc (t : IntTy) : Stable (Dec.intAcc t) := ExtRel.rules.intAcc t
theorem Stable.container (maj : Nat) : Stable (Dec.container maj) := ExtRel.rules.container maj
theorem Stable.undefined : Stable Dec.undefined := ExtRel.rules.undefined
theorem Stable.simple : Stable Dec.simple := ExtRel.rules.simple
theorem Stable.datatype : Stable Dec.datatype := ExtRel.rules.datatype

theorem ExtRel.chunkLoop (text : Bool) (f f' : Nat) (hf : f ≤ f') :
    ExtRel (Dec.chunkLoop text f) (Dec.chunkLoop text f') :=
  ExtRel.rules.chunkLoop text f f' hf

theorem ExtRel.skipLoop (alloc : Bool) (f f' : Nat) (hf : f ≤ f') (s : SkipSt) :
    ExtRel (Dec.skipLoop alloc f s) (Dec.skipLoop alloc f' s) :=
  ExtRel.rules.skipLoop alloc f f' hf s

/- the success half of `Stable m` (`Stable.ok_ext`). -/
def Ext (m : Dec α) : Prop :=
  ∀ bs a r q, m bs = .ok a r → m (bs ++ q) = .ok a (r ++ q)

theorem Ext.current : Ext Dec.current := fun _ _ _ q => Stable.ok_ext ExtRel.current q
theorem Ext.intAcc (t : IntTy) : Ext (Dec.intAcc t) := fun _ _ _ q => (Stable.intAcc t).ok_ext q
theorem Ext.container (maj : Nat) : Ext (Dec.container maj) := fun _ _ _ q => (Stable.container maj).ok_ext q

end Minicbor.Dec
