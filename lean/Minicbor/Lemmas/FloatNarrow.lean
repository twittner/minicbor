/-
  The two narrowing conversions by fields: `f32ToF16` (`half::f16::from_f32`) and `f64ToF32` (Rust's `f64 as f32`).
  On every finite pattern each computes `rneBits` (`f32ToF16_sig`, `f64ToF32_sig`), hence rounds to nearest,
  ties to even, into the narrower format (`f32ToF16_rounds`, `f64ToF32_rounds`: instances of `rneBits_rounds`);
  on an infinity or a NaN it keeps the sign and sets the quiet bit (`f32ToF16_special`, `f64ToF32_special`).
-/
import Minicbor.Lemmas.FloatFields

namespace Minicbor

/-- the round-up test of `half::f16::from_f32` (round bit set, and sticky bits or an odd quotient) is `rneShift`'s
    (remainder above half, or half and an odd quotient). -/
theorem halfTest_iff (man sh : Nat) (hsh : 0 < sh) :
    (man / 2 ^ (sh - 1) % 2 == 1 && (man % 2 ^ (sh - 1) != 0 || man / (2 * 2 ^ (sh - 1)) % 2 == 1)) = true ↔
      (man % 2 ^ sh > 2 ^ (sh - 1) ∨ (man % 2 ^ sh = 2 ^ (sh - 1) ∧ man / 2 ^ sh % 2 = 1)) := by
  have hp : 2 ^ sh = 2 ^ (sh - 1) * 2 := by rw [← Nat.pow_succ, Nat.succ_eq_add_one, Nat.sub_add_cancel hsh]
  have ht : man % 2 ^ (sh - 1) < 2 ^ (sh - 1) := Nat.mod_lt _ (Nat.two_pow_pos _)
  rw [hp, Nat.mul_comm 2, Nat.mod_mul, ← Nat.div_div_eq_div_mul]
  simp only [Bool.and_eq_true, Bool.or_eq_true, beq_iff_eq, bne_iff_ne, ne_eq]
  generalize man % 2 ^ (sh - 1) = t at *
  generalize man / 2 ^ (sh - 1) = b
  generalize 2 ^ (sh - 1) = P at *
  rcases Nat.mod_two_eq_zero_or_one b with h | h <;> rw [h] <;> omega

theorem f32ToF16_sig (s e M : Nat) (he : e < 254) (hM : M < 16777216) (hn : e ≠ 0 → 8388608 ≤ M) :
    f32ToF16 (s * 2147483648 + (e * 8388608 + M)) = s * 32768 + rneBits 1024 13 112 142 e M := by
  have hsmall : ∀ sh, 25 ≤ sh → rneShift M sh = 0 := fun sh h =>
    rneShift_small M sh (by omega) (Nat.lt_of_lt_of_le hM (Nat.pow_le_pow_right (n := 2) (by decide) (show 24 ≤ sh - 1 by omega)))
  obtain ⟨eF, m, h1, h2, h3, hc⟩ := fields_of_sig (S := 2147483648) (NE := 256) (by decide) s e M (by omega) hM hn
  unfold f32ToF16 rneBits
  simp only [h1, h2, h3]
  rcases hc with ⟨rfl, rfl, rfl⟩ | ⟨rfl, rfl⟩
  · rw [if_neg (by decide), if_neg (by decide), if_pos (by decide), if_pos (by decide), if_neg (by decide),
      if_neg (by decide), hsmall _ (by decide), Nat.add_zero]
  · have h255 : (e + 1 == 255) = false := by simpa using Nat.ne_of_lt (Nat.succ_lt_succ he)
    simp only [h255, Bool.false_eq_true, if_false, Nat.add_comm m]
    by_cases c1 : 142 ≤ e
    · rw [if_pos (by omega), if_pos c1]
    · rw [if_neg (by omega), if_neg c1]
      by_cases c2 : 112 ≤ e
      · -- normal result: the test looks at the mantissa without its leading bit, which is a multiple of the unit
        have t := halfTest_iff m 13 (by decide)
        simp only [Nat.reducePow, Nat.reduceSub, Nat.reduceMul] at t
        rw [if_neg (by omega), if_pos c2, rneShift_pos _ 13 (by decide)]
        simp only [t, Nat.reducePow]
        rw [show (8388608 + m) % 8192 = m % 8192 by omega, show (8388608 + m) / 8192 = 1024 + m / 8192 by omega,
          show (1024 + m / 8192) % 2 = m / 8192 % 2 by omega]
        split <;> omega
      · rw [if_pos (by omega), if_neg c2]
        by_cases c3 : e + 1 < 102
        · rw [if_pos c3, hsmall _ (by omega), Nat.add_zero]
        · have hsh : 0 < 126 - (e + 1) := by omega
          rw [if_neg c3, show 112 + 13 - e = 126 - (e + 1) by omega, rneShift_pos _ _ hsh]
          simp only [halfTest_iff _ _ hsh]
          split <;> simp only [Nat.add_assoc]

theorem f32ToF16_special (s M : Nat) (hM : M < 8388608) :
    f32ToF16 (s * 2147483648 + 0x7F800000 + M) =
      if M = 0 then s * 32768 + 0x7C00
      else s * 32768 + 0x7C00 + (if M / 8192 / 512 % 2 = 1 then M / 8192 else M / 8192 + 512) := by
  obtain ⟨h1, h2, h3⟩ := fields_of (S := 2147483648) (NE := 256) (by decide) s 255 M (by decide) hM
  simp only [Nat.reduceMul] at h1 h2 h3
  unfold f32ToF16
  simp only [h1, h2, h3, beq_iff_eq, if_true]

theorem f32ToF16_rounds (e M : Nat) (hM : M < 16777216) (hn : e ≠ 0 → 8388608 ≤ M) :
    Rounds 1024 1050 0x7BFF (M * 2 ^ (e + 925)) (rneBits 1024 13 112 142 e M) :=
  rneBits_rounds 1024 1050 13 112 142 925 0x7BFF e M (by decide) (by decide) (by decide) (by decide) (by decide)
    (by decide) (by decide) hM hn

theorem f64ToF32_sig (s e M : Nat) (he : e < 2046) (hM : M < 9007199254740992) (hn : e ≠ 0 → 4503599627370496 ≤ M) :
    f64ToF32 (s * 9223372036854775808 + (e * 4503599627370496 + M)) =
      s * 2147483648 + rneBits 8388608 29 896 1150 e M := by
  obtain ⟨eF, mF, h1, h2, h3, hc⟩ := fields_of_sig (S := 9223372036854775808) (NE := 2048) (by decide) s e M (by omega) hM hn
  -- the model's own normalisation `(E, M)` of exponent and mantissa is binade (plus one) and significand
  have hE : (if (eF == 0) = true then 1 else eF) = e + 1 := by simp only [beq_iff_eq]; split <;> omega
  have hMm : (if (eF == 0) = true then mF else 4503599627370496 + mF) = M := by
    simp only [beq_iff_eq]; split <;> omega
  have hne : (eF == 2047) = false := by rw [beq_eq_false_iff_ne]; omega
  unfold f64ToF32 rneBits
  simp only [h1, h2, h3, hne, hE, hMm, Bool.false_eq_true, if_false]
  by_cases c1 : 1150 ≤ e
  · rw [if_pos (by omega), if_pos (by omega), if_pos c1]
  · rw [if_neg c1]
    by_cases c2 : 896 ≤ e
    · -- the rounded significand has 24 bits, or is `2 ^ 24` after a carry
      have hr : 8388608 ≤ rneShift M 29 ∧ rneShift M 29 ≤ 16777216 := by
        have := rneShift_bounds M 29 (by decide)
        rw [show (2 : Nat) ^ 29 = 536870912 from rfl] at this
        omega
      generalize rneShift M 29 = r at hr
      clear hc hM hn  -- `omega` is several times dearer with them in sight
      rw [if_pos (by omega), if_pos c2]
      split <;> omega
    · rw [if_neg (by omega), if_neg c2, show 926 - (e + 1) = 896 + 29 - e by omega]

theorem f64ToF32_special (s M : Nat) (hM : M < 4503599627370496) :
    f64ToF32 (s * 9223372036854775808 + 0x7FF0000000000000 + M) =
      if M = 0 then s * 2147483648 + 0x7F800000
      else s * 2147483648 + 0x7F800000 + (if M / 536870912 ≥ 4194304 then M / 536870912 else M / 536870912 + 4194304) := by
  obtain ⟨h1, h2, h3⟩ := fields_of (S := 9223372036854775808) (NE := 2048) (by decide) s 2047 M (by decide) hM
  simp only [Nat.reduceMul] at h1 h2 h3
  unfold f64ToF32
  simp only [h1, h2, h3, beq_iff_eq, if_true]

theorem f64ToF32_rounds (e M : Nat) (hM : M < 9007199254740992) (hn : e ≠ 0 → 4503599627370496 ≤ M) :
    Rounds 8388608 925 0x7F7FFFFF (M * 2 ^ (e + 0)) (rneBits 8388608 29 896 1150 e M) :=
  rneBits_rounds 8388608 925 29 896 1150 0 0x7F7FFFFF e M (by decide) (by decide) (by decide) (by decide) (by decide)
    (by decide) (by decide) hM hn

end Minicbor
