/-
  For C02: a step count for decoder actions, to state "work proportional to the input length".  `Cost m bs n`: `m`
  can be written from the primitives and `bind` so that evaluating it on `bs` performs `n` primitive operations.
  A successful `read_slice(k)` costs `1 + k`: charging the bytes it hands out covers UTF-8 validation and copies
  into owned strings.

  What the relation does not see is the program text: `Dec α` is a function type, so `Cost m` speaks of every way
  of writing the function `m`, not of the way Decoder.lean writes it, and it looks at `m` only through its value on
  `bs` (`Cost.congr_at`).  A derivation exists exactly where the action leaves a suffix of its input
  (`Cost.suffix`), and then one with `consumed + 1` steps does (`LinC.of_suffix`).  So `Lin' K c m` says what
  `Suffix m` says, for any `K, c ≥ 1` (`Lin'.iff_suffix`): every step bound here is read off the suffix property,
  and none says anything about the text of the model.
-/
import Minicbor.Lemmas.TotalAcc
import Minicbor.Lemmas.TotalTy

namespace Minicbor

def Res.rest? : Res α → Option Bytes
  | .ok _ r => some r
  | .err _ r => some r
  | .panic => none

namespace Dec

inductive Cost : {α : Type} → Dec α → Bytes → Nat → Prop
  | pure {α : Type} (a : α) (bs : Bytes) : Cost (Pure.pure a : Dec α) bs 0
  | fail {α : Type} (e : Err) (bs : Bytes) : Cost (Dec.fail e : Dec α) bs 0
  | panic {α : Type} (bs : Bytes) : Cost (Dec.panic : Dec α) bs 0
  | read (bs : Bytes) : Cost Dec.read bs 1
  | current (bs : Bytes) : Cost Dec.current bs 1
  | peek (bs : Bytes) : Cost Dec.peek bs 1
  | remaining (bs : Bytes) : Cost Dec.remaining bs 0
  | readSlice_ok (k : Nat) (bs : Bytes) (h : k ≤ bs.length) : Cost (Dec.readSlice k) bs (1 + k)
  | readSlice_err (k : Nat) (bs : Bytes) (h : bs.length < k) : Cost (Dec.readSlice k) bs 1
  | bind_ok {α β : Type} {m : Dec α} {f : α → Dec β} {bs : Bytes} {a : α} {r : Bytes} {n1 n2 : Nat}
      (hm : m bs = .ok a r) (h1 : Cost m bs n1) (h2 : Cost (f a) r n2) : Cost (m >>= f) bs (n1 + n2)
  | bind_stop {α β : Type} {m : Dec α} {f : α → Dec β} {bs : Bytes} {n1 : Nat}
      (hm : ∀ a r, m bs ≠ .ok a r) (h1 : Cost m bs n1) : Cost (m >>= f) bs n1

/-- at most `K * consumed + c` steps, whatever the outcome: `n + K * |rest| ≤ K * |bs| + c` is that bound without
    the subtraction.  `LinC c` is the slope `K = 1`, `Lin K` the case `c = K`. -/
def Lin' (K c : Nat) (m : Dec α) : Prop :=
  ∀ bs, ∃ n, Cost m bs n ∧
    ∀ r, (m bs).rest? = some r → r.length ≤ bs.length ∧ n + K * r.length ≤ K * bs.length + c

/-- `Lin' 1 c m` without the `1 * _` (`LinC.iff_lin'`): the form in which the accessors are stated. -/
def LinC (c : Nat) (m : Dec α) : Prop :=
  ∀ bs, ∃ n, Cost m bs n ∧
    ∀ r, (m bs).rest? = some r → r.length ≤ bs.length ∧ n + r.length ≤ bs.length + c

/-- at most `K * (consumed + 1)` steps. -/
abbrev Lin (K : Nat) (m : Dec α) : Prop := Lin' K K m

theorem rest?_bind_ok {m : Dec α} {f : α → Dec β} {bs : Bytes} {a : α} {r : Bytes} (h : m bs = .ok a r) :
    ((m >>= f) bs).rest? = (f a r).rest? := by rw [Dec.bind_run, h]

theorem rest?_bind_stop {m : Dec α} {f : α → Dec β} {bs : Bytes} (h : ∀ a r, m bs ≠ .ok a r) :
    ((m >>= f) bs).rest? = (m bs).rest? := by
  rw [Dec.bind_run]
  cases hmb : m bs with
  | ok a r => exact absurd hmb (h a r)
  | err e r => rfl
  | panic => rfl

theorem Cost.suffix {α : Type} {m : Dec α} {bs : Bytes} {n : Nat} (h : Cost m bs n) :
    ∀ r, (m bs).rest? = some r → r <:+ bs := by
  induction h with
  | pure a bs => intro r hr; cases hr; exact List.suffix_refl _
  | fail e bs => intro r hr; cases hr; exact List.suffix_refl _
  | panic bs => intro r hr; cases hr
  | read bs => intro r hr; cases bs <;> cases hr <;> simp
  | current bs => intro r hr; cases bs <;> cases hr <;> simp
  | peek bs =>
    intro r hr
    match bs, hr with
    | [], hr => cases hr; simp
    | [_], hr => cases hr; simp
    | _ :: _ :: _, hr => cases hr; simp
  | remaining bs => intro r hr; cases hr; exact List.suffix_refl _
  | readSlice_ok k bs h =>
    intro r hr; unfold Dec.readSlice at hr; rw [if_pos h] at hr; cases hr; exact List.drop_suffix _ _
  | readSlice_err k bs h =>
    intro r hr; unfold Dec.readSlice at hr; rw [if_neg (by omega)] at hr; cases hr; exact List.suffix_refl _
  | bind_ok hm _ _ ih1 ih2 =>
    intro r hr
    rw [rest?_bind_ok hm] at hr
    exact (ih2 r hr).trans (ih1 _ (by rw [hm]; rfl))
  | bind_stop hm _ ih1 =>
    intro r hr
    rw [rest?_bind_stop hm] at hr
    exact ih1 r hr

/-- `Cost m bs` sees `m` only through its value at `bs`: an action `x` that agrees with `m` there lends
    `m` its derivation, since `m` is also `remaining >>= fun r => if r = bs then x else m`. -/
theorem Cost.congr_at {α : Type} {m x : Dec α} {bs : Bytes} {n : Nat} (hx : Cost x bs n) (e : x bs = m bs) :
    Cost m bs n := by
  have hm : m = Dec.remaining >>= fun r => if r = bs then x else m := by
    funext bs'
    show m bs' = (if bs' = bs then x else m) bs'
    split
    · next h => subst h; exact e.symm
    · rfl
  have := Cost.bind_ok (m := Dec.remaining) (f := fun r => if r = bs then x else m) (bs := bs) (a := bs) (r := bs)
    (n2 := n) rfl (Cost.remaining bs) (by rw [if_pos rfl]; exact hx)
  rw [Nat.zero_add, ← hm] at this
  exact this

/-- one `read_slice` of what `m` consumed, then its answer. -/
theorem LinC.of_suffix {α : Type} {m : Dec α} (h : Suffix m) : LinC 1 m := by
  intro bs
  have slice (r : Bytes) (hr : r <:+ bs) (k : Dec α) (hk : Cost k r 0) :
      Cost (Dec.readSlice (bs.length - r.length) >>= fun _ => k) bs (1 + (bs.length - r.length) + 0) ∧
      (Dec.readSlice (bs.length - r.length) >>= fun _ => k) bs = k r := by
    have hd : bs.drop (bs.length - r.length) = r := by
      obtain ⟨p, rfl⟩ := hr; simp
    have hs : Dec.readSlice (bs.length - r.length) bs = .ok (bs.take (bs.length - r.length)) r := by
      unfold Dec.readSlice; rw [if_pos (Nat.sub_le _ _), hd]
    exact ⟨Cost.bind_ok hs (Cost.readSlice_ok _ _ (Nat.sub_le _ _)) hk, by rw [Dec.bind_run, hs]⟩
  cases hmb : m bs with
  | ok a r =>
    have hr := (h bs).1 a r hmb
    obtain ⟨hc, e⟩ := slice r hr (Pure.pure a) (Cost.pure a r)
    refine ⟨_, hc.congr_at (e.trans hmb.symm), fun r' hr' => ?_⟩
    cases hr'; have := hr.length_le; omega
  | err e' r =>
    have hr := (h bs).2 e' r hmb
    obtain ⟨hc, e⟩ := slice r hr (Dec.fail e') (Cost.fail e' r)
    refine ⟨_, hc.congr_at (e.trans hmb.symm), fun r' hr' => ?_⟩
    cases hr'; have := hr.length_le; omega
  | panic => exact ⟨0, (Cost.panic bs).congr_at hmb.symm, fun r hr => by cases hr⟩

theorem Lin'.suffix {α : Type} {K c : Nat} {m : Dec α} (h : Lin' K c m) : Suffix m := fun bs =>
  let ⟨_, hc, _⟩ := h bs
  ⟨fun a r e => hc.suffix r (by rw [e]; rfl), fun e r he => hc.suffix r (by rw [he]; rfl)⟩

theorem Lin'.mono {K K' c c' : Nat} {m : Dec α} (h : Lin' K c m) (hK : K ≤ K') (hc : c ≤ c') : Lin' K' c' m := by
  intro bs
  obtain ⟨n, hcost, hb⟩ := h bs
  refine ⟨n, hcost, fun r hr => ?_⟩
  obtain ⟨h1, h2⟩ := hb r hr
  refine ⟨h1, ?_⟩
  obtain ⟨e, he⟩ := Nat.exists_eq_add_of_le hK
  have := Nat.mul_le_mul_left e h1
  rw [he, Nat.add_mul, Nat.add_mul]
  omega

theorem Lin'.map {K c : Nat} {m : Dec α} (g : α → β) (h : Lin' K c m) :
    Lin' K c (m >>= fun x => Pure.pure (g x)) := by
  intro bs
  obtain ⟨n, hc, hb⟩ := h bs
  cases hmb : m bs with
  | ok a r =>
    refine ⟨n + 0, Cost.bind_ok hmb hc (Cost.pure _ _), fun r' hr' => hb r' ?_⟩
    rw [rest?_bind_ok hmb] at hr'; rw [hmb]; exact hr'
  | err e r =>
    have hstop : ∀ a r, m bs ≠ .ok a r := by intro a r h; rw [hmb] at h; cases h
    exact ⟨n, Cost.bind_stop hstop hc, fun r' hr' => hb r' (by rw [rest?_bind_stop hstop] at hr'; exact hr')⟩
  | panic =>
    have hstop : ∀ a r, m bs ≠ .ok a r := by intro a r h; rw [hmb] at h; cases h
    exact ⟨n, Cost.bind_stop hstop hc, fun r' hr' => hb r' (by rw [rest?_bind_stop hstop] at hr'; exact hr')⟩

theorem LinC.iff_lin' {c : Nat} {m : Dec α} : LinC c m ↔ Lin' 1 c m := by
  unfold LinC Lin'
  simp only [Nat.one_mul]

theorem LinC.mono {c N : Nat} {m : Dec α} (h : LinC c m) (hle : c ≤ N) : LinC N m :=
  iff_lin'.2 ((iff_lin'.1 h).mono (Nat.le_refl _) hle)

theorem Lin'.of_suffix {α : Type} {K c : Nat} {m : Dec α} (h : Suffix m) (hK : 1 ≤ K := by omega)
    (hc : 1 ≤ c := by omega) : Lin' K c m :=
  (LinC.iff_lin'.1 (LinC.of_suffix h)).mono hK hc

theorem Lin'.iff_suffix {α : Type} {K c : Nat} {m : Dec α} (hK : 1 ≤ K) (hc : 1 ≤ c) : Lin' K c m ↔ Suffix m :=
  ⟨Lin'.suffix, fun h => .of_suffix h⟩

theorem LinC.remaining : LinC 0 Dec.remaining := by
  intro bs
  exact ⟨0, Cost.remaining bs, fun r hr => by cases hr; omega⟩

theorem LinC.current : LinC 1 Dec.current := .of_suffix Suffix.current
theorem LinC.intAcc (t : IntTy) : LinC 2 (Dec.intAcc t) := (LinC.of_suffix (Suffix.intAcc t)).mono (by decide)
theorem LinC.container (maj : Nat) : LinC 2 (Dec.container maj) := (LinC.of_suffix (Suffix.container maj)).mono (by decide)
theorem LinC.undefined : LinC 2 Dec.undefined := (LinC.of_suffix Suffix.undefined).mono (by decide)
theorem LinC.simple : LinC 2 Dec.simple := (LinC.of_suffix Suffix.simple).mono (by decide)
theorem LinC.datatype : LinC 2 Dec.datatype := (LinC.of_suffix Suffix.datatype).mono (by decide)

theorem Lin.bound {K : Nat} {m : Dec α} (h : Lin K m) (bs : Bytes) :
    ∃ n, Cost m bs n ∧ ∀ r, (m bs).rest? = some r →
      r.length ≤ bs.length ∧ n ≤ K * (bs.length - r.length + 1) := by
  obtain ⟨n, hc, hb⟩ := h bs
  refine ⟨n, hc, fun r hr => ?_⟩
  obtain ⟨h1, h2⟩ := hb r hr
  refine ⟨h1, ?_⟩
  obtain ⟨d, hd⟩ := Nat.exists_eq_add_of_le h1
  have : bs.length - r.length + 1 = d + 1 := by omega
  rw [this, Nat.mul_add, Nat.mul_one]
  rw [hd, Nat.mul_add] at h2
  omega

end Dec
end Minicbor

/- Step bounds of the loops and of typed decoding.  Each follows from the suffix property of the action through
   `Lin'.of_suffix`; the hypotheses `Consumes m 1`, `1 ≤ K`, `42 ≤ K` of the loop statements are not used.  The
   constants are those of a count along the model's text: a loop doubles the slope of its element and adds 2 so
   that the element's own cost and the loop's overhead are paid by the byte each iteration consumes; one chunk is
   3, so `chunkLoop` is 8; `skipArm` is 20, so `skipLoop` and `skip` are 42 = 2·20 + 2, which is why `Lin.fieldsDec`
   (surplus fields are skipped with `skip`) asks for `42 ≤ K`; `Ty.workK` gives every leaf 100 and adds 100 at every
   node, `Ty.workKs [] = 42`. -/
namespace Minicbor.Dec

theorem Lin.repeatN {K : Nat} {m : Dec α} (hm : Lin K m) (hc : Consumes m 1) (n : Nat) :
    Lin (2 * K + 2) (Dec.repeatN m n) :=
  .of_suffix (Suffix.repeatN hm.suffix n)

theorem Lin.untilBreak {K : Nat} {m : Dec α} (hm : Lin K m) (hc : Consumes m 1) (hK : 1 ≤ K) (fuel : Nat) :
    Lin (2 * K + 2) (Dec.untilBreak m fuel) :=
  .of_suffix (Suffix.untilBreak hm.suffix fuel)

theorem Lin.chunkLoop (text : Bool) (fuel : Nat) : Lin 8 (Dec.chunkLoop text fuel) :=
  .of_suffix (Suffix.chunkLoop text fuel)

theorem Lin.skipLoop (alloc : Bool) (fuel : Nat) (s : SkipSt) : Lin 42 (Dec.skipLoop alloc fuel s) :=
  .of_suffix (Suffix.skipLoop alloc fuel s)

theorem Lin.arrayIter {K : Nat} {m : Dec α} (hm : Lin K m) (hc : Consumes m 1) (hK : 1 ≤ K) :
    Lin (2 * K + 4) (Dec.arrayIter m) :=
  .of_suffix (Suffix.arrayIter hm.suffix)

theorem Lin.mapIter {K : Nat} {mk mv : Dec α} (hk : Lin K mk) (hv : Lin K mv) (hck : Consumes mk 1)
    (hcv : Consumes mv 0) (hK : 1 ≤ K) : Lin (4 * K + 4) (Dec.mapIter mk mv) :=
  .of_suffix (Suffix.mapIter hk.suffix hv.suffix)

theorem Lin.arrayNIndef {K : Nat} {m : Dec α} (hm : Lin K m) (hc : Consumes m 1) (hK : 1 ≤ K)
    (n fuel k : Nat) : Lin (2 * K + 2) (Dec.arrayNIndef m n fuel k) :=
  .of_suffix (Suffix.arrayNIndef hm.suffix n fuel k)

theorem Lin.arrayN {K : Nat} {m : Dec α} (hm : Lin K m) (hc : Consumes m 1) (hK : 1 ≤ K) (n : Nat) :
    Lin (2 * K + 4) (Dec.arrayN m n) :=
  .of_suffix (Suffix.arrayN hm.suffix n)

theorem Lin.fieldsDec {K : Nat} {ms : List (Dec α)} (h : ∀ m ∈ ms, Lin K m) (hc : ∀ m ∈ ms, Consumes m 1)
    (hK : 42 ≤ K) : Lin (2 * K + 4) (Dec.fieldsDec ms) :=
  .of_suffix (Suffix.fieldsDec fun m hm => (h m hm).suffix)

/-- stated for every `K`, so `K = 0` (no step at all) is in it and `Suffix` does not suffice. -/
theorem Lin.pickVariant {K : Nat} {ms : List (Dec Val)} (h : ∀ m ∈ ms, Lin K m) (i : Nat) :
    Lin K (Dec.pickVariant ms i) := by
  unfold Dec.pickVariant
  split
  · rename_i m hm
    exact (h m (List.mem_of_getElem? hm)).map _
  · exact fun bs => ⟨0, Cost.fail _ bs, fun r hr => by cases hr; omega⟩

end Minicbor.Dec

namespace Minicbor

mutual
def Ty.workK : Ty → Nat
  | .opt t => 2 * t.workK + 100
  | .seq t => 2 * t.workK + 100
  | .arr _ t => 2 * t.workK + 100
  | .tagged _ t => 2 * t.workK + 100
  | .map k v => 4 * (k.workK + v.workK) + 100
  | .tup ts => 2 * Ty.workKs ts + 100
  | .enum ts => 2 * Ty.workKs ts + 100
  | .fields ts => 2 * Ty.workKs ts + 100
  | .int _ => 100 | .bool => 100 | .char => 100 | .f32 => 100 | .f64 => 100 | .str => 100 | .bytes => 100
  | .barr _ => 100 | .cstr => 100 | .unit => 100 | .skipUnit => 100 | .nz _ => 100 | .tag => 100
  | .duration => 100 | .systime => 100
def Ty.workKs : List Ty → Nat
  | [] => 42
  | t :: ts => t.workK + Ty.workKs ts
end

theorem Ty.workKs_ge (ts : List Ty) : 42 ≤ Ty.workKs ts := by
  induction ts with
  | nil => simp [Ty.workKs]
  | cons t ts ih => simp [Ty.workKs]; omega

theorem Ty.workK_pos (t : Ty) : 1 ≤ t.workK := by
  cases t <;> simp [Ty.workK] <;> omega

namespace Dec

theorem decodeT_lin : (t : Ty) → Lin t.workK (decodeT t) := fun t =>
  .of_suffix (decodeT_suffix t) t.workK_pos t.workK_pos

theorem decoders_lin : (ts : List Ty) → ∀ m ∈ decoders ts, Lin (Ty.workKs ts) m := fun ts m hm =>
  have := Ty.workKs_ge ts
  .of_suffix (decoders_suffix ts m hm)

end Dec
end Minicbor
