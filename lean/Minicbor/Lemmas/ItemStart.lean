/-
  What `Decoder::datatype()` answers.  On a head `headW maj w n`, at any width (`headType`, `datatype_headW`);
  on an arbitrary byte (`typeOf_cases`: every outcome of `type_of`); and at the start of a well-formed item
  (`wType`, `datatype_encW`): the one fact behind "an element of an indefinite container is not mistaken for the
  break", "`Option` takes the `Some` branch unless the item is `null`" and the dispatch of serde's `deserialize_any`.
-/
import Minicbor.Lemmas.Accessors
import Minicbor.Lemmas.C04Stable
import Minicbor.Lemmas.Consumes

namespace Minicbor.Dec

/-- the `Type` reported for an initial byte of major type `maj` with additional information
    `ai ≤ 27`, where `Decoder::type_of` does not peek (not major type 1 with `ai ≥ 24`).  The last
    arm is major type 1 with `ai < 24` (`I8`); it also takes every `maj ≥ 8`, which no byte has. -/
def headType (maj ai : Nat) : CType :=
  match maj with
  | 0 => if ai ≤ 24 then .u8 else if ai == 25 then .u16 else if ai == 26 then .u32 else .u64
  | 2 => .bytes
  | 3 => .string
  | 4 => .array
  | 5 => .map
  | 6 => .tag
  | 7 => if ai == 20 || ai == 21 then .bool else if ai == 22 then .null else if ai == 23 then .undefined
         else if ai == 25 then .f16 else if ai == 26 then .f32 else if ai == 27 then .f64 else .simple
  | _ => .i8

/-- what `type_of` answers when there is no next byte to peek at. -/
def typeAt (b : UInt8) : Option CType :=
  match typeOf b [] with
  | .ok t _ => some t
  | _ => none

theorem typeAt_head : ∀ maj : Fin 8, ∀ ai : Fin 28, maj.val ≠ 1 ∨ ai.val < 24 →
    typeAt (u8 (maj.val * 32 + ai.val)) = some (headType maj.val ai.val) := by
  decide +kernel

theorem datatype_of_typeAt {b : UInt8} {ty : CType} (h : typeAt b = some ty) (tl : Bytes) :
    datatype (b :: tl) = .ok ty (b :: tl) := by
  unfold typeAt at h
  split at h
  · rename_i t r hr
    cases h
    have := Stable.ok_ext (ExtRel.rules.typeOf b) (b :: tl) hr
    rwa [Keeps.datatype (b :: tl) _ _ this] at this
  · cases h

theorem datatype_headW (maj : Nat) (w : Width) (n : Nat) (rest : Bytes) (hm : maj < 8)
    (h1 : maj ≠ 1 ∨ w = .w0) (hf : w.fits n = true) :
    datatype (headW maj w n ++ rest) = .ok (headType maj (w.ai n)) (headW maj w n ++ rest) := by
  have hai := Width.ai_le w n hf
  refine datatype_of_typeAt (typeAt_head ⟨maj, hm⟩ ⟨w.ai n, by omega⟩ ?_) _
  rcases h1 with h | rfl
  · exact .inl h
  · exact .inr (by simpa [Width.fits, Width.ai] using hf)

/-- the `Type` reported for a negative integer head: `type_of` peeks at the first argument byte
    to tell whether the value still fits the signed type of the same width. -/
def nintType : Width → Nat → CType
  | .w0, _ => .i8
  | .w1, n => if n < 128 then .i8 else .i16
  | .w2, n => if n < 32768 then .i16 else .i32
  | .w4, n => if n < 2147483648 then .i32 else .i64
  | .w8, n => if n < 9223372036854775808 then .i64 else .int

theorem datatype_nintW (w : Width) (n : Nat) (rest : Bytes) (h : w.fits n = true) :
    datatype (headW 1 w n ++ rest) = .ok (nintType w n) (headW 1 w n ++ rest) := by
  cases w
  · exact datatype_headW 1 .w0 n rest (by decide) (.inr rfl) h
  all_goals simp only [Width.fits, decide_eq_true_eq] at h
  · have e : n % 256 = n := by omega
    simp [headW, datatype, typeOf, Width.ai, Width.bytes, be, nintType, Dec.bind_run, Dec.peek, e]
  · have e : n / 256 % 256 < 128 ↔ n < 32768 := by omega
    simp [headW, datatype, typeOf, Width.ai, Width.bytes, be, nintType, Dec.bind_run, Dec.peek, e]
  · have e : n / 16777216 % 256 < 128 ↔ n < 2147483648 := by omega
    simp [headW, datatype, typeOf, Width.ai, Width.bytes, be, nintType, Dec.bind_run, Dec.peek, e]
  · have e : n / 72057594037927936 % 256 < 128 ↔ n < 9223372036854775808 := by omega
    simp [headW, datatype, typeOf, Width.ai, Width.bytes, be, nintType, Dec.bind_run, Dec.peek, e]

end Minicbor.Dec

namespace Minicbor
open Dec

/-- every outcome of `type_of`: end of input only on the four negative-integer heads `38..3b`, for which alone
    it looks at the next byte. -/
def TypeOfOutcome (b : UInt8) (xs : Bytes) (m : Dec CType) : Prop :=
  (∃ ty, m xs = .ok ty xs ∧ (ty = .null → b.toNat = 0xf6) ∧ (ty = .break → b.toNat = 0xff)) ∨
  (m xs = .err .eoi xs ∧ (0x38 ≤ b.toNat ∧ b.toNat ≤ 0x3b) ∧ xs.length < 2)

theorem TypeOfOutcome.peek (b : UInt8) (xs : Bytes) (t1 t2 : CType) (h : 0x38 ≤ b.toNat ∧ b.toNat ≤ 0x3b)
    (h1 : t1 ≠ .null ∧ t1 ≠ .break) (h2 : t2 ≠ .null ∧ t2 ≠ .break) :
    TypeOfOutcome b xs (do let p ← peek; pure (if p.toNat < 0x80 then t1 else t2)) := by
  match xs with
  | [] => exact .inr ⟨rfl, h, by decide⟩
  | [_] => exact .inr ⟨rfl, h, Nat.lt_succ_self 1⟩
  | _ :: c :: _ =>
    refine .inl ⟨if c.toNat < 0x80 then t1 else t2, rfl, ?_, ?_⟩ <;> split <;> intro e
    · exact absurd e h1.1
    · exact absurd e h2.1
    · exact absurd e h1.2
    · exact absurd e h2.2

theorem typeOf_cases (b : UInt8) (xs : Bytes) : TypeOfOutcome b xs (typeOf b) := by
  unfold typeOf
  -- every arm but the four peeking ones is `pure ty`, and `ty` is `Null` / `Break` in one arm each
  repeat' refine Dec.ite_elim (Q := TypeOfOutcome b xs) (fun hc => ?_) ?_
  all_goals first
    | exact .inl ⟨_, rfl, by intro e; cases e <;> exact eq_of_beq hc, by intro e; cases e <;> exact eq_of_beq hc⟩
    | exact .peek b xs _ _ (by have := eq_of_beq hc; omega) (by decide) (by decide)

theorem datatype_alone (b : UInt8) (h : 0x38 ≤ b.toNat ∧ b.toNat ≤ 0x3b) : datatype [b] = .err .eoi [b] := by
  rw [← u8_toNat_self b]
  rcases (by omega : b.toNat = 0x38 ∨ b.toNat = 0x39 ∨ b.toNat = 0x3a ∨ b.toNat = 0x3b) with e | e | e | e
  · rw [e]; rfl
  · rw [e]; rfl
  · rw [e]; rfl
  · rw [e]; rfl

theorem datatype_head (maj : Nat) (w : Width) (n : Nat) (hm : maj < 8) (h1 : maj ≠ 1 ∨ w = .w0) (hf : w.fits n = true) :
    Peeks datatype (headW maj w n) (headType maj (w.ai n)) :=
  fun rest => datatype_headW maj w n rest hm h1 hf

/-- the `Type` that `datatype` reports at the start of a wire tree. -/
def wType : WItem → CType
  | .uint w n => headType 0 (w.ai n)
  | .nint w n => nintType w n
  | .bytes _ _ => .bytes
  | .bytesI _ => .bytesIndef
  | .text _ _ => .string
  | .textI _ => .stringIndef
  | .array _ _ => .array
  | .arrayI _ => .arrayIndef
  | .map _ _ => .map
  | .mapI _ => .mapIndef
  | .tag _ _ _ => .tag
  | .simple n => if n < 24 then headType 7 n else .simple
  | .f16 _ => .f16
  | .f32 _ => .f32
  | .f64 _ => .f64

theorem datatype_encW (w : WItem) (hv : w.valid = true) : Peeks datatype (encW w) (wType w) := by
  cases w with
  | uint w n => exact datatype_head 0 w n (by omega) (.inl (by omega)) hv
  | nint w n => exact fun rest => datatype_nintW w n rest hv
  | bytes w b => exact (datatype_head 2 w _ (by omega) (.inl (by omega)) hv).append b
  | text w b =>
    simp only [WItem.valid, Bool.and_eq_true] at hv
    exact (datatype_head 3 w _ (by omega) (.inl (by omega)) hv.1).append b
  | array w xs =>
    simp only [WItem.valid, Bool.and_eq_true] at hv
    exact (datatype_head 4 w _ (by omega) (.inl (by omega)) hv.1).append _
  | map w kvs =>
    simp only [WItem.valid, Bool.and_eq_true] at hv
    exact (datatype_head 5 w _ (by omega) (.inl (by omega)) hv.1.2).append _
  | tag w n x =>
    simp only [WItem.valid, Bool.and_eq_true] at hv
    exact (datatype_head 6 w _ (by omega) (.inl (by omega)) hv.1).append _
  | simple n =>
    by_cases h : n < 24
    · simp only [encW, wType, h, if_true]
      exact datatype_head 7 .w0 n (by omega) (.inl (by omega)) (by simpa [Width.fits] using h)
    · simp only [encW, wType, h, if_false]
      exact fun _ => rfl
  | _ => exact fun _ => rfl

theorem headType0_ne (ai : Nat) : headType 0 ai ≠ .null ∧ headType 0 ai ≠ .break := by
  simp only [headType]; (repeat' split) <;> exact ⟨nofun, nofun⟩

theorem nintType_ne (w : Width) (n : Nat) : nintType w n ≠ .null ∧ nintType w n ≠ .break := by
  cases w <;> simp only [nintType] <;> (try split) <;> exact ⟨nofun, nofun⟩

theorem headType7 : ∀ n : Fin 24, headType 7 n.val ≠ .break ∧ (headType 7 n.val = .null → n.val = 22) := by decide

theorem wType_ne (w : WItem) : wType w ≠ .break ∧ (wType w = .null → w = .simple 22) := by
  cases w with
  | uint w n => exact ⟨(headType0_ne _).2, fun h => absurd h (headType0_ne _).1⟩
  | nint w n => exact ⟨(nintType_ne w n).2, fun h => absurd h (nintType_ne w n).1⟩
  | simple n =>
    simp only [wType]
    split
    · rename_i h
      have := headType7 ⟨n, h⟩
      exact ⟨this.1, fun e => congrArg WItem.simple (this.2 e)⟩
    · exact ⟨nofun, nofun⟩
  | _ => exact ⟨nofun, nofun⟩

/-- a well-formed item never starts with the break byte: `datatype` would report `Type::Break`. -/
theorem encW_noBrk (w : WItem) (hv : w.valid = true) : NoBrk (encW w) := by
  have hd := datatype_encW w hv []
  rw [List.append_nil] at hd
  cases he : encW w with
  | nil => rw [he] at hd; cases hd
  | cons b tl =>
    refine ⟨b, tl, rfl, fun hb => (wType_ne w).1 ?_⟩
    rw [he, hb] at hd
    exact (Res.ok.inj hd).1.symm

end Minicbor
