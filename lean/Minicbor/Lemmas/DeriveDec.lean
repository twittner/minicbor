/-
  What the combinators of the generated `Decode` impl do on the bytes the generated `Encode` impl
  wrote (tag checks, the tag and body of a struct, `Option`, `Vec`, the nil-aware codec, the action of one field with its
  bare-`null` test, `runAt` at an index no field has, the `nil()` value of an absent field), the
  break test of the indefinite-length loops (`startNB`), and the values `Option`'s look at the next
  data type excludes (`C09.noClash`, last).  The slot loops are in DeriveSlots.lean /
  DeriveSlotLoops.lean.
-/
import Minicbor.Thm.C08
import Minicbor.Lemmas.TypesStart

namespace Minicbor.Derive

theorem wrapperEnd_false_run (r : Bytes) : wrapperEnd false r = .ok () r := rfl

theorem wrapperEnd_false_bind {α : Type} (m : Dec α) (bs : Bytes) :
    (do let v ← m; wrapperEnd false; pure v : Dec α) bs = m bs := by
  simp only [Dec.bind_run, wrapperEnd_false_run, Dec.pure_run]
  cases m bs <;> rfl
open Minicbor.Dec

def IntK.kind : IntK → IntKind
  | .u8 => .u8 | .u16 => .u16 | .u32 => .u32 | .u64 => .u64
  | .i8 => .i8 | .i16 => .i16 | .i32 => .i32 | .i64 => .i64

theorem IntK.kind_ty (k : IntK) : k.kind.ty = k.ty := by cases k <;> rfl
theorem IntK.kind_enc (k : IntK) (v : Int) : k.kind.enc v = k.enc v := by cases k <;> rfl
theorem IntK.kind_inRange (k : IntK) (v : Int) : k.kind.inRange v = k.inRange v := by
  unfold IntKind.inRange IntK.inRange; rw [IntK.kind_ty]

theorem int_rt (k : IntK) (v : Int) (rest : Bytes) (h : k.inRange v = true) :
    intAcc k.ty (k.enc v ++ rest) = .ok v rest := by
  have := intAcc_enc k.kind v rest (by rw [IntK.kind_inRange]; exact h)
  rwa [IntK.kind_ty, IntK.kind_enc] at this

theorem tagCheck_rt (t : Option Nat) (rest : Bytes) (h : tagOk t = true) :
    tagCheck t (tagBytes t ++ rest) = .ok () rest := by
  cases t with
  | none => rfl
  | some n =>
    have hn : n < 18446744073709551616 := of_decide_eq_true h
    simp [tagCheck, tagBytes, Dec.bind_run, Reads.tag n hn rest]

theorem structDec_run {b : SAttr} {gs : Fields} {bs bs' rest : Bytes} {xs : List Val} (htb : b.transparent = false)
    (ht : tagCheck b.tag bs = .ok () bs') (hf : fieldsDec (b.enc.getD .array) (decFields gs) bs' = .ok xs rest) :
    decTy (.struct b gs) bs = .ok (.struct xs) rest := by
  simp only [decTy, structDec, htb, Bool.false_eq_true, if_false, Dec.bind_run, ht, hf]
  rfl

theorem optionDec_none (dec : Dec Val) (rest : Bytes) : optionDec dec (Enc.null ++ rest) = .ok .none rest := by
  simp [optionDec, Dec.bind_run, datatype_null, skip_null]

theorem optionDec_some (dec : Dec Val) (bs rest : Bytes) (v : Val) (hs : startOk bs = true)
    (hd : dec (bs ++ rest) = .ok v rest) : optionDec dec (bs ++ rest) = .ok (.some v) rest := by
  obtain ⟨ty, h1, h2⟩ := datatype_startOk bs rest hs
  simp [optionDec, Dec.bind_run, h1, h2, hd]

theorem optionDec_err (dec : Dec Val) (bs rest r' : Bytes) (e : Err) (hs : startOk bs = true)
    (hd : dec (bs ++ rest) = .err e r') : optionDec dec (bs ++ rest) = .err e r' := by
  obtain ⟨ty, h1, h2⟩ := datatype_startOk bs rest hs
  simp only [optionDec]
  rw [Dec.bind_run, h1]
  have : (ty == CType.null) = false := by simpa using h2
  simp only [this, Bool.false_eq_true, if_false]
  rw [Dec.bind_run, hd]

theorem startOk_u32 (n : Nat) (h : n < 4294967296) : startOk (Enc.u32 n) = true := by
  rw [C03.u32_pref n h]; exact startOk_head 0 n (by decide)

theorem nilu_rt (i : Int) (rest : Bytes) (h : IntK.u32.inRange i = true) (dec : Dec Val) (enc : Val → Bytes) :
    decWith .nilu dec (encWith .nilu enc (.int i) ++ rest) = .ok (.int i) rest := by
  simp [IntK.inRange, IntK.ty, IntTy.lo, IntTy.hi, IntTy.u32] at h
  have h2 := of_decide_eq_true h.2
  by_cases h0 : i = 0
  · subst h0
    simp [decWith, encWith, Dec.bind_run, datatype_null, skip_null]
  · have hne : (i == 0) = false := by simpa using h0
    obtain ⟨ty, h1, h3⟩ := datatype_startOk (Enc.u32 i.toNat) rest (startOk_u32 _ (by omega))
    have hi := intAcc_u32 i.toNat rest (by omega)
    have hcast : ((i.toNat : Nat) : Int) = i := by omega
    simp [decWith, encWith, hne, Dec.bind_run, h1, h3, hi, hcast]

theorem vecLoopN_rt (dec : Dec Val) (enc : Val → Bytes) (f : Val → Val) :
    ∀ (vs : List Val) (rest : Bytes), (∀ v ∈ vs, ∀ r, dec (enc v ++ r) = .ok (f v) r) →
      vecLoopN dec vs.length ((vs.map enc).flatten ++ rest) = .ok (vs.map f) rest
  | [], rest, _ => by simp [vecLoopN]
  | v :: vs, rest, h => by
    have ih := vecLoopN_rt dec enc f vs rest (fun w hw r => h w (by simp [hw]) r)
    simp only [List.length_cons, vecLoopN, List.map_cons, List.flatten_cons, List.append_assoc, Dec.bind_run,
      h v (by simp), ih]
    rfl

theorem vecDec_rt (dec : Dec Val) (enc : Val → Bytes) (f : Val → Val) (vs : List Val) (rest : Bytes)
    (hl : vs.length < 18446744073709551616) (h : ∀ v ∈ vs, ∀ r, dec (enc v ++ r) = .ok (f v) r) :
    vecDec dec (Enc.array vs.length ++ (vs.map enc).flatten ++ rest) = .ok (.list (vs.map f)) rest := by
  simp only [vecDec, Dec.bind_run, List.append_assoc, Reads.arrayHead vs.length hl _, vecLoopN_rt dec enc f vs rest h]
  rfl

def FieldsRT : Fields → List Val → Prop
  | (a, t) :: fs, v :: vs =>
      (a.skip = false → ∀ r, decWith a.codec (decTy t) (encWith a.codec (encTy t) v ++ r) = .ok (withDefaults t v) r)
        ∧ FieldsRT fs vs
  | _, _ => True

def fdOf (b : FAttr) (u : FTy) : FDec :=
  ⟨b, slotInit u, nilOf b u, defaultOf u, swallows b u, decWith b.codec (decTy u)⟩

theorem decFields_cons (b : FAttr) (u : FTy) (gs : Fields) : decFields ((b, u) :: gs) = fdOf b u :: decFields gs := rfl

theorem mem_liveIdxs_cons {b : FAttr} {u : FTy} {gs : Fields} {c : Nat} :
    c ∈ liveIdxs ((b, u) :: gs) ↔ (b.skip = false ∧ b.idx = c) ∨ c ∈ liveIdxs gs := by
  rw [liveIdxs_cons]
  cases hs : b.skip <;> simp [eq_comm]

theorem nodup_liveIdxs_cons {b : FAttr} {u : FTy} {gs : Fields} (h : (liveIdxs ((b, u) :: gs)).Nodup) :
    (b.skip = false → b.idx ∉ liveIdxs gs) ∧ (liveIdxs gs).Nodup := by
  rw [liveIdxs_cons] at h
  cases hs : b.skip <;> simp_all

theorem encFields_idx_live : ∀ (fs : Fields) (vs : List Val) (p : Piece Bytes), p ∈ encFields fs vs →
    p.idx ∈ liveIdxs fs
  | [], _, _, hp | _ :: _, [], _, hp => by simp [encFields] at hp
  | (a, t) :: fs, v :: vs, p, hp => by
    rw [encFields_cons] at hp
    rw [liveIdxs_cons]
    cases hs : a.skip <;> rw [hs] at hp
    · rcases List.mem_cons.1 hp with rfl | hp
      · exact List.mem_cons_self
      · exact List.mem_cons_of_mem _ (encFields_idx_live fs vs p hp)
    · exact encFields_idx_live fs vs p hp

theorem mem_encFields_idx (fs : Fields) (vs : List Val) (hacc : acceptedFields fs = true)
    (hty : hasFields fs vs = true) (p : Piece Bytes) (hp : p ∈ encFields fs vs) : p.idx < U32 := by
  rw [C08.fields_spec fs vs hacc hty] at hp
  obtain ⟨q, hq, rfl⟩ := List.mem_map.1 hp
  exact (specFields_valid fs vs hacc hty q hq).1

def presentIdx (S : List (Piece Bytes)) (i : Nat) : Bool := S.any (fun p => !p.nil && p.idx == i)

theorem runAt_ne (a : FAttr) (t : FTy) (fs : Fields) (s : Option Val) (ss : Slots) (i : Nat) (bs : Bytes)
    (h : a.skip = false → a.idx ≠ i) :
    runAt (decFields ((a, t) :: fs)) (s :: ss) i bs =
      (do let ss' ← runAt (decFields fs) ss i; pure (s :: ss') : Dec Slots) bs := by
  have : (!a.skip && a.idx == i) = false := by
    cases hs : a.skip
    · simpa using h hs
    · rfl
  simp only [decFields_cons, fdOf, runAt, this, Bool.false_eq_true, if_false]

theorem runAt_miss (c : Nat) (bs r : Bytes) (hskip : Dec.skip true (bs ++ r) = .ok () r) :
    ∀ (fs : Fields) (ss : Slots), c ∉ liveIdxs fs → runAt (decFields fs) ss c (bs ++ r) = .ok ss r
  | [], ss, _ => by
    cases ss <;> simp [decFields, runAt, Dec.bind_run, hskip]
  | (a, t) :: fs, [], _ => by simp [decFields, runAt, Dec.bind_run, hskip]
  | (a, t) :: fs, s :: ss, hc => by
    rw [runAt_ne a t fs s ss c _ fun hs e => hc (mem_liveIdxs_cons.2 (Or.inl ⟨hs, e⟩)),
      Dec.bind_ok _ _ _ _ _ (runAt_miss c bs r hskip fs ss fun hm => hc (mem_liveIdxs_cons.2 (Or.inr hm)))]
    rfl

/-! ### the bare-`null` test of a tagged nil-capable field (K5 repair) -/

theorem bareNull_start (fd : FDec) (bs rest : Bytes) (h : startOk bs = true) :
    bareNull fd (bs ++ rest) = .ok false (bs ++ rest) := by
  unfold bareNull
  split
  · obtain ⟨ty, h1, h2⟩ := datatype_startOk bs rest h
    have : (ty == CType.null) = false := by simpa using h2
    simp [Dec.bind_run, h1, this]
  · rfl

theorem bareNull_untagged (fd : FDec) (bs : Bytes) (h : fd.a.tag = none) : bareNull fd bs = .ok false bs := by
  simp [bareNull, h]

theorem bareNull_tagBytes (fd : FDec) (X : Bytes) (htag : tagOk fd.a.tag = true) :
    bareNull fd (tagBytes fd.a.tag ++ X) = .ok false (tagBytes fd.a.tag ++ X) := by
  cases ht : fd.a.tag with
  | none => exact bareNull_untagged fd _ ht
  | some n => exact bareNull_start fd (Enc.tag n) X (startOk_typeLen 6 n (by decide))

/-- with a negative test the action is the one before the repair. -/
theorem action_of_not_bare (fd : FDec) (bs : Bytes) (h : bareNull fd bs = .ok false bs) :
    action fd bs = (do tagCheck fd.a.tag; catchVariant fd bs : Dec (Option Val)) bs := by
  unfold action
  rw [Dec.bind_run, h]
  rfl

theorem action_bare_null (fd : FDec) (r : Bytes) (ht : fd.a.tag.isSome = true) (hs : fd.swallow = true) :
    action fd (Enc.null ++ r) = .ok none r := by
  unfold action
  have hb : bareNull fd (Enc.null ++ r) = .ok true (Enc.null ++ r) := by
    simp [bareNull, ht, Dec.bind_run, datatype_null, hs]
  rw [Dec.bind_run, hb]
  simp [Dec.bind_run, skip_null]

theorem action_rt (fd : FDec) (v' : Val) (bs r : Bytes) (htag : tagOk fd.a.tag = true)
    (hd : fd.dec (bs ++ r) = .ok v' r) :
    action fd (tagBytes fd.a.tag ++ (bs ++ r)) = .ok (some v') r := by
  rw [action_of_not_bare fd _ (bareNull_tagBytes fd _ htag)]
  rw [Dec.bind_run, tagCheck_rt _ _ htag]
  simp only [catchVariant, hd]

theorem nil_resolves (a : FAttr) (t : FTy) (v : Val) (hc : codecOk a.codec t = true) (hv : hasTy t v = true)
    (hn : isNilField a t v = true) :
    (match slotInit t with
     | some x => some x
     | none => nilOf a t) = some (withDefaults t v) := by
  unfold isNilField at hn
  unfold nilOf
  cases hcd : a.codec <;> rw [hcd] at hn hc
  case nilu =>
    obtain ⟨rfl, i, rfl, _⟩ := nilu_inv hc hv
    have : i = 0 := by simpa [Val.isZero] using hn
    rw [this]; rfl
  all_goals
    obtain ⟨⟨t', rfl⟩, rfl⟩ := option_none_of hn
    rfl

/- The test `Type::Break != d.datatype()?` that guards every iteration of the indefinite-length loops of the
   generated decoder.  At the start of an item that does not begin with `ff`, `datatype()` succeeds without moving
   and does not answer `Break`; at `ff` it answers `Break`, and `skip()` consumes that byte. -/

/-- the first byte is not the break byte, and a negative head whose argument is carried in
    following bytes has at least one of them. -/
def startNB : Bytes → Bool
  | [] => false
  | b :: tl => b.toNat != 0xff && (!(0x38 ≤ b.toNat && b.toNat ≤ 0x3b) || !tl.isEmpty)

theorem startNB_cons (b : UInt8) (tl : Bytes) :
    startNB (b :: tl) = true ↔ b.toNat ≠ 0xff ∧ (0x38 ≤ b.toNat ∧ b.toNat ≤ 0x3b → tl ≠ []) := by
  cases tl <;> simp [startNB] <;> omega

theorem datatype_startNB (bs rest : Bytes) (h : startNB bs = true) :
    ∃ ty, datatype (bs ++ rest) = .ok ty (bs ++ rest) ∧ ty ≠ .break := by
  match bs, h with
  | b :: tl, h =>
    rw [startNB_cons] at h
    rcases typeOf_cases b (b :: (tl ++ rest)) with ⟨ty, ht, _, hb⟩ | ⟨_, hp, hl⟩
    · exact ⟨ty, ht, fun e => h.1 (hb e)⟩
    · have : tl = [] := List.eq_nil_of_length_eq_zero (by simp at hl; omega)
      exact absurd this (h.2 hp)

theorem datatype_break (rest : Bytes) : Dec.datatype (0xff :: rest) = .ok .break (0xff :: rest) := rfl

theorem startNB_append (a b : Bytes) (h : startNB a = true) : startNB (a ++ b) = true := by
  match a, h with
  | x :: tl, h =>
    rw [startNB_cons] at h
    exact (startNB_cons x (tl ++ b)).2 ⟨h.1, fun hp => by simp [h.2 hp]⟩

theorem startNB_length (bs : Bytes) (h : startNB bs = true) : 1 ≤ bs.length := by
  cases bs with
  | nil => simp [startNB] at h
  | cons b tl => simp

theorem startNB_u32 (n : Nat) : startNB (Enc.u32 n) = true := by
  unfold Enc.u32
  (repeat' split) <;> simp [startNB_cons, u8_toNat_mod] <;> omega

end Minicbor.Derive

namespace Minicbor.C09
open Minicbor.Derive

/- `Option<T>::decode` looks at the next data type and takes `Type::Null` for `None`, so a `Some(x)`
whose encoding is `null` (an `Option` nested in an `Option`, an `Option` of a transparent wrapper of a
nil value) cannot come back as `Some`: the documented exclusion of C01.  `noClash` demands of every
`Some(x)` in the value that `datatype()` on the encoding of `x` does not answer `Null` (`startOk`: the
first byte is not `f6`; its second conjunct, that a one-byte negative-integer head is followed by its
argument, holds for every encoding); in the terms of the documented format, that the item of `x` is
not `null` (`startOk_enc_iff`, DeriveReframeIff.lean). -/

mutual
def noClash : FTy → Derive.Val → Bool
  | .option t, .some v => startOk (encTy t v) && noClash t v
  | .vec t, .list vs => vs.all (noClash t)
  | .struct _ fs, .struct vs => noClashFields fs vs
  | .enum _ vars, .enum k vs => noClashVars vars k vs
  | _, _ => true
termination_by structural t => t
def noClashFields : Fields → List Derive.Val → Bool
  | (a, t) :: fs, v :: vs => (a.skip || noClash t v) && noClashFields fs vs
  | _, _ => true
termination_by structural fs => fs
def noClashVars : Variants → Nat → List Derive.Val → Bool
  | [], _, _ => true
  | (_, fs) :: _, 0, vs => noClashFields fs vs
  | _ :: rest, k + 1, vs => noClashVars rest k vs
termination_by structural vars => vars
end

end Minicbor.C09
