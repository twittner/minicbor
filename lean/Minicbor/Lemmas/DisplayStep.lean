/-
  The diagnostic printer as a one-step transition function.  `dstep e st it` is what one
  iteration of the inner `while let Some(elt) = stack.pop()` loop does after popping `e`:
  either continue with a new stack / iterator and some emitted pieces, or write a message and
  `return` from `fmt`.  `displayInner_succ` ties it to the model's `displayInner`, which is the
  iteration of `dstep` under a fuel.
-/
import Minicbor.Token

namespace Minicbor

inductive DStep where
  | cont (st : List E) (it : List TokItem) (emit : List Piece)
  | stop (emit : List Piece)

/-- the `E::N` arm when the iterator yields token `t`. -/
def nstep (t : Token) (st : List E) (it' : List TokItem) : DStep :=
  match t with
  | .array n => .cont (.A (some n) :: st) it' [.lit "["]
  | .map n => .cont (.M (some n) :: st) it' [.lit "{"]
  | .beginArray => .cont (.A none :: st) it' [.lit "[_ "]
  | .beginMap => .cont (.M none :: st) it' [.lit "{_ "]
  | .beginBytes =>
      if isBreak it'.head? then .cont st it'.tail [.lit "''_"]
      else .cont (.B :: st) it' [.lit "(_ "]
  | .beginString =>
      if isBreak it'.head? then .cont st it'.tail [.lit "\"\"_"]
      else .cont (.D :: st) it' [.lit "(_ "]
  | .tag n => .cont (.T :: st) it' [.lit s!"{n}("]
  | t => .cont st it' t.render

/-- the arms for the four indefinite-length markers. -/
def indefStep (msg close : String) (more : List E) (st : List E) (it : List TokItem) : DStep :=
  match it with
  | [] => .stop [.lit msg]
  | .tok .brk :: it' => .cont st it' [.lit close]
  | _ => .cont (more ++ st) it []

def dstep (e : E) (st : List E) (it : List TokItem) : DStep :=
  match e with
  | .N =>
    match it with
    | .tok t :: it' => nstep t st it'
    | .err e :: _ => .stop [.lit " !!! decoding error: ", .errmsg e]
    | [] => .stop [.lit " !!! decoding error: ", .errmsg .eoi]
  | .S s => .cont st it [.lit s]
  | .X s =>
    match it with
    | .tok .brk :: _ | [] => .cont st it []
    | .tok _ :: _ => .cont st it [.lit s]
    | .err e :: _ => .stop [.lit " !!! decoding error: ", .errmsg e]
  | .T => .cont (.N :: .S ")" :: st) it []
  | .A (some 0) => .cont st it [.lit "]"]
  | .A (some 1) => .cont (.N :: .A (some 0) :: st) it []
  | .A (some (n + 2)) => .cont (.N :: .S ", " :: .A (some (n + 1)) :: st) it []
  | .A none => indefStep " !!! indefinite array not closed" "]" [.N, .X ", ", .A none] st it
  | .M (some 0) => .cont st it [.lit "}"]
  | .M (some 1) => .cont (.N :: .S ": " :: .N :: .M (some 0) :: st) it []
  | .M (some (n + 2)) => .cont (.N :: .S ": " :: .N :: .S ", " :: .M (some (n + 1)) :: st) it []
  | .M none => indefStep " !!! indefinite map not closed" "}" [.N, .S ": ", .N, .X ", ", .M none] st it
  | .B => indefStep " !!! indefinite byte string not closed" ")" [.N, .X ", ", .B] st it
  | .D => indefStep " !!! indefinite string not closed" ")" [.N, .X ", ", .D] st it

def dnext (fuel : Nat) (out : List Piece) : DStep → Option (List Piece × List TokItem × Bool)
  | .cont st it em => displayInner fuel st it (out ++ em)
  | .stop em => some (out ++ em, [], true)

theorem displayInner_zero (st : List E) (it : List TokItem) (out : List Piece) :
    displayInner 0 st it out = none := rfl

theorem displayInner_nil (fuel : Nat) (it : List TokItem) (out : List Piece) :
    displayInner (fuel + 1) [] it out = some (out, it, false) := rfl

/-- a step that writes nothing: `out ++ []` is not `out` by `rfl`. -/
theorem dnext_silent (fuel : Nat) (out : List Piece) (st : List E) (it : List TokItem) :
    dnext fuel out (.cont st it []) = displayInner fuel st it out := by
  rw [dnext, List.append_nil]

theorem dnext_indefStep (fuel : Nat) (out : List Piece) (msg close : String) (more st : List E)
    (it : List TokItem) :
    dnext fuel out (indefStep msg close more st it) =
      match it with
      | [] => some (out ++ [.lit msg], [], true)
      | .tok .brk :: it' => displayInner fuel st it' (out ++ [.lit close])
      | _ => displayInner fuel (more ++ st) it out := by
  unfold indefStep
  split <;> first | rfl | exact dnext_silent ..

theorem displayInner_succ (fuel : Nat) (e : E) (st : List E) (it : List TokItem) (out : List Piece) :
    displayInner (fuel + 1) (e :: st) it out = dnext fuel out (dstep e st it) := by
  cases e with
  | N =>
    rcases it with _ | ⟨t | _, it'⟩
    · rfl
    · cases t <;> first | rfl | (simp only [dstep, nstep, apply_ite (dnext fuel out)]; rfl)
    · rfl
  | S s => rfl
  | X s =>
    rcases it with _ | ⟨t | _, it'⟩
    · exact (dnext_silent ..).symm
    · cases t <;> first | rfl | exact (dnext_silent ..).symm
    · rfl
  | T => exact (dnext_silent ..).symm
  | A n =>
    rcases n with _ | _ | _ | n
    · rw [dstep, dnext_indefStep]; rfl
    · rfl
    · exact (dnext_silent ..).symm
    · exact (dnext_silent ..).symm
  | M n =>
    rcases n with _ | _ | _ | n
    · rw [dstep, dnext_indefStep]; rfl
    · rfl
    · exact (dnext_silent ..).symm
    · exact (dnext_silent ..).symm
  | B => rw [dstep, dnext_indefStep]; rfl
  | D => rw [dstep, dnext_indefStep]; rfl

theorem displayInner_mono (f : Nat) (st : List E) (it : List TokItem) (out : List Piece)
    (r : List Piece × List TokItem × Bool) (h : displayInner f st it out = some r) (d : Nat) :
    displayInner (f + d) st it out = some r := by
  induction f generalizing st it out with
  | zero => rw [displayInner_zero] at h; cases h
  | succ f ih =>
    rw [show f + 1 + d = (f + d) + 1 by omega]
    cases st with
    | nil => rw [displayInner_nil] at h ⊢; exact h
    | cons e st =>
      rw [displayInner_succ] at h ⊢
      cases hd : dstep e st it with
      | stop em => rw [hd] at h; exact h
      | cont st' it' em =>
        rw [hd] at h
        exact ih st' it' (out ++ em) h

theorem displayOuter_nil (fuel inner : Nat) (out : List Piece) :
    displayOuter (fuel + 1) inner [] out = some out := rfl

theorem displayOuter_cons (fuel inner : Nat) (x : TokItem) (it : List TokItem) (out : List Piece) :
    displayOuter (fuel + 1) inner (x :: it) out =
      match displayInner inner [.N] (x :: it) out with
      | none => none
      | some (out', _, true) => some out'
      | some (out', it', false) => displayOuter fuel inner it' out' := rfl

end Minicbor
