/-
  What an `Attributes` map "knows", as a list of atomic facts.  A successful `try_insert` adds exactly
  the facts of the inserted value: nothing is lost, nothing is changed, whatever absorbs whatever.
  Consequence (Thm/Attrs.lean): the meaning of an accepted field definition is a function of the set of
  items written, not of their order.
-/
import Minicbor.Attrs

namespace Minicbor.Attrs

inductive Fact
  | enc (p : Path) | isNil (p : Path) | dec (p : Path) | nil (p : Path) | modu (p : Path) | hasNil | cborLen (p : Path)
  | index (b : Bool) (i : Nat) | tag (t : Nat) | skip | encoding (e : Enc) | indexOnly | transparent
  deriving DecidableEq

def CC.facts : CC → List Fact
  | .enc e n => .enc e :: (n.map Fact.isNil).toList
  | .dec d m => .dec d :: (m.map Fact.nil).toList
  | .both e n d m => .enc e :: .dec d :: ((n.map Fact.isNil).toList ++ (m.map Fact.nil).toList)
  | .module p b => .modu p :: (if b then [.hasNil] else [])

def Cl.facts (c : Cl) : List Fact :=
  (c.codec.map CC.facts).getD [] ++ (c.isNil.map Fact.isNil).toList ++ (c.nil.map Fact.nil).toList
    ++ (if c.hasNil then [.hasNil] else []) ++ (c.cborLen.map Fact.cborLen).toList

/-- (type-parameter and context bounds carry no fact: they do not influence what a field means) -/
def Rs.facts (r : Rs) : List Fact :=
  (r.encoding.map Fact.encoding).toList ++ (r.index.map fun p => Fact.index p.1 p.2).toList
    ++ (if r.indexOnly then [.indexOnly] else []) ++ (if r.transparent then [.transparent] else [])
    ++ (r.tag.map Fact.tag).toList ++ (if r.skip then [.skip] else [])

def A.facts (a : A) : List Fact := a.cl.facts ++ a.rs.facts

def Val.facts : Val → List Fact
  | .codec c => c.facts
  | .isNil z => [.isNil z]
  | .nil z => [.nil z]
  | .hasNil => [.hasNil]
  | .cborLen p => [.cborLen p]
  | .encoding e => [.encoding e]
  | .index b i => [.index b i]
  | .indexOnly => [.indexOnly]
  | .transparent => [.transparent]
  | .tag t => [.tag t]
  | .skip => [.skip]
  | .typeParam _ => []
  | .contextBound _ => []

/- A successful insertion adds the facts of the value, each once, by counting: with the slots the
   insertion reads known, the old and the new fact lists unfold to appends of the same pieces, so the
   counts of a fact in them are sums of the same terms (`omega`, the symbolic pieces being atoms). -/

macro "count_facts" : tactic => `(tactic|
  (simp only [Cl.facts, Rs.facts, CC.facts, Val.facts, Option.map_some, Option.map_none, Option.getD_some, Option.getD_none,
     Option.toList_some, Option.toList_none, List.count_append, List.count_cons, List.count_nil, List.nil_append,
     List.cons_append, if_true, if_false, Bool.false_eq_true]; omega))

theorem insertCl_facts_count (c c' : Cl) (v : Val) (hk : isCluster v.kind = true) (h : insertCl c v = .ok c') (f : Fact) :
    c'.facts.count f = c.facts.count f + v.facts.count f := by
  obtain ⟨codec, nil, isNil, hasNil, cborLen⟩ := c
  cases v with
  | isNil z =>
    cases isNil <;> rcases codec with _ | ⟨e, _ | n⟩ | ⟨d, m⟩ | ⟨e, _ | n, d, m⟩ | ⟨p, b⟩ <;> cases h <;> count_facts
  | nil z =>
    cases nil <;> rcases codec with _ | ⟨e, n⟩ | ⟨d, _ | m⟩ | ⟨e, n, d, _ | m⟩ | ⟨p, b⟩ <;> cases h <;> count_facts
  | hasNil =>
    cases hasNil <;> rcases codec with _ | ⟨e, n⟩ | ⟨d, m⟩ | ⟨e, n, d, m⟩ | ⟨p, _ | _⟩ <;> cases h <;> count_facts
  | cborLen q =>
    cases cborLen <;> rcases codec with _ | ⟨e, n⟩ | ⟨d, m⟩ | ⟨e, n, d, m⟩ | ⟨p, b⟩ <;> cases h <;> count_facts
  | codec cc =>
    cases codec with
    | some cx => cases cc <;> cases cx <;> cases h <;> count_facts
    | none =>
      cases cc with
      | enc e n => cases n <;> cases isNil <;> cases h <;> count_facts
      | dec d m => cases m <;> cases nil <;> cases h <;> count_facts
      | both e n d m => cases n <;> cases m <;> cases isNil <;> cases nil <;> cases h <;> count_facts
      | module p b => cases b <;> cases hasNil <;> cases cborLen <;> cases h <;> count_facts
  | _ => cases hk

theorem insertRs_facts_count (r r' : Rs) (v : Val) (hk : isCluster v.kind = false) (h : insertRs r v = .ok r') (f : Fact) :
    r'.facts.count f = r.facts.count f + v.facts.count f := by
  obtain ⟨encoding, index, indexOnly, transparent, typeParam, contextBound, tag, skip⟩ := r
  cases v with
  | encoding e => cases encoding <;> cases h; count_facts
  | index b i => cases index <;> cases h; count_facts
  | indexOnly => cases indexOnly <;> cases h; count_facts
  | transparent => cases transparent <;> cases h; count_facts
  | typeParam p =>
    cases typeParam with
    | none => cases h; count_facts
    | some cb => simp only [insertRs] at h; split at h <;> cases h; count_facts
  | contextBound x => cases contextBound <;> cases h <;> count_facts
  | tag t => cases tag <;> cases h; count_facts
  | skip => cases skip <;> cases h; count_facts
  | _ => cases hk

theorem tryInsert_facts_perm (l : Level) (a a' : A) (v : Val) (h : tryInsert l a v = .ok a') :
    a'.facts.Perm (a.facts ++ v.facts) := by
  refine List.perm_iff_count.2 fun f => ?_
  unfold tryInsert at h
  split at h
  · cases h
  · split at h <;> split at h <;> cases h
    · simp only [A.facts, List.count_append, insertCl_facts_count a.cl _ v ‹_› ‹_› f]; omega
    · simp only [A.facts, List.count_append, insertRs_facts_count a.rs _ v (Bool.not_eq_true _ ▸ ‹_›) ‹_› f]; omega

theorem tryInsert_facts (l : Level) (a a' : A) (v : Val) (h : tryInsert l a v = .ok a') :
    ∀ f, f ∈ a'.facts ↔ (f ∈ a.facts ∨ f ∈ v.facts) := fun f => by
  rw [(tryInsert_facts_perm l a a' v h).mem_iff, List.mem_append]

def factsOfVals (vs : List Val) : List Fact := vs.flatMap Val.facts

theorem insertAll_facts (l : Level) : ∀ (vs : List Val) (a a' : A), insertAll l a vs = .ok a' →
    a'.facts.Perm (a.facts ++ factsOfVals vs)
  | [], a, a', h => by cases h; simp [factsOfVals]
  | v :: vs, a, a', h => by
    simp only [insertAll] at h
    split at h
    · cases h
    · rw [factsOfVals, List.flatMap_cons, ← List.append_assoc]
      exact (insertAll_facts l vs _ a' h).trans ((tryInsert_facts_perm l a _ v ‹_›).append_right _)

def Item.facts (it : Item) : List Fact :=
  match it.toVal with
  | .ok v => v.facts
  | .error _ => []

def factsOfItems (its : List Item) : List Fact := its.flatMap Item.facts

theorem factsOfItems_append (xs ys : List Item) : factsOfItems (xs ++ ys) = factsOfItems xs ++ factsOfItems ys :=
  List.flatMap_append

theorem insertItems_facts (l : Level) : ∀ (its : List Item) (a a' : A), insertItems l a its = .ok a' →
    a'.facts.Perm (a.facts ++ factsOfItems its)
  | [], a, a', h => by cases h; simp [factsOfItems]
  | it :: its, a, a', h => by
    simp only [insertItems] at h
    split at h
    · cases h
    · rename_i v h0
      split at h
      · cases h
      · rw [factsOfItems, List.flatMap_cons, Item.facts, h0, ← List.append_assoc]
        exact (insertItems_facts l its _ a' h).trans ((tryInsert_facts_perm l a _ v ‹_›).append_right _)

theorem empty_facts : ({} : A).facts = [] := rfl

def Attr.items : Attr → List Item
  | .n i => [.n i]
  | .b i => [.b i]
  | .cbor its => its
  | .other => []

/-- `#[n(i)]` is parsed as `#[cbor(n(i))]`. -/
theorem ofAttr_eq_insertItems (l : Level) (att : Attr) : ofAttr l att = insertItems l {} att.items := by
  cases att with
  | n i | b i =>
    simp only [ofAttr, Attr.items, insertItems, Item.toVal]
    cases parseIdx _ i <;> simp only
    cases tryInsert l {} _ <;> rfl
  | cbor its => rfl
  | other => rfl

theorem ofAttr_facts (l : Level) (att : Attr) (m : A) (h : ofAttr l att = .ok m) :
    m.facts.Perm (factsOfItems att.items) :=
  insertItems_facts l att.items {} m (ofAttr_eq_insertItems l att ▸ h)

theorem CC.facts_cluster (cc : CC) : ∀ f ∈ cc.facts,
    match f with
    | .enc _ | .dec _ | .isNil _ | .nil _ | .modu _ | .hasNil => True
    | _ => False := by
  cases cc <;> simp [CC.facts, or_imp, forall_and]

theorem mem_facts (a : A) (f : Fact) : f ∈ a.facts ↔
    match f with
    | .enc p => ∃ cc, a.cl.codec = some cc ∧ .enc p ∈ cc.facts
    | .dec p => ∃ cc, a.cl.codec = some cc ∧ .dec p ∈ cc.facts
    | .modu p => ∃ cc, a.cl.codec = some cc ∧ .modu p ∈ cc.facts
    | .isNil p => (∃ cc, a.cl.codec = some cc ∧ .isNil p ∈ cc.facts) ∨ a.cl.isNil = some p
    | .nil p => (∃ cc, a.cl.codec = some cc ∧ .nil p ∈ cc.facts) ∨ a.cl.nil = some p
    | .hasNil => (∃ cc, a.cl.codec = some cc ∧ .hasNil ∈ cc.facts) ∨ a.cl.hasNil = true
    | .cborLen p => a.cl.cborLen = some p
    | .index b i => a.rs.index = some (b, i)
    | .tag t => a.rs.tag = some t
    | .skip => a.rs.skip = true
    | .encoding e => a.rs.encoding = some e
    | .indexOnly => a.rs.indexOnly = true
    | .transparent => a.rs.transparent = true := by
  have hc : f ∈ (a.cl.codec.map CC.facts).getD [] ↔ ∃ cc, a.cl.codec = some cc ∧ f ∈ cc.facts := by
    cases a.cl.codec <;> simp
  simp only [A.facts, Cl.facts, Rs.facts, List.mem_append, hc, Option.mem_toList, Option.map_eq_some_iff, List.mem_ite_nil_right,
    List.mem_singleton]
  cases f <;> simp
  all_goals exact fun cc _ h => (CC.facts_cluster cc _ h).elim

/- `factsOfVals a.entries` and `a.facts` are appends of the same slot-wise pieces in two orders. -/

theorem flatMap_facts_opt {α : Type} (o : Option α) (g : α → Val) :
    (o.map g).toList.flatMap Val.facts = (o.map fun x => (g x).facts).getD [] := by
  cases o <;> simp

theorem flatMap_facts_bool (b : Bool) (v : Val) :
    (if b then [v] else []).flatMap Val.facts = bif b then v.facts else [] := by
  cases b <;> simp

theorem getD_map_singleton {α β : Type} (o : Option α) (F : α → β) : (o.map fun x => [F x]).getD [] = (o.map F).toList := by
  cases o <;> rfl

theorem getD_map_nil {α β : Type} (o : Option α) : (o.map fun _ => ([] : List β)).getD [] = [] := by
  cases o <;> rfl

theorem getD_map_codec (o : Option CC) : (o.map fun c => (Val.codec c).facts).getD [] = (o.map CC.facts).getD [] := rfl

theorem entries_facts_perm (a : A) : (factsOfVals a.entries).Perm a.facts := by
  refine List.perm_iff_count.2 fun f => ?_
  simp only [factsOfVals, A.entries, List.flatMap_append, flatMap_facts_opt, flatMap_facts_bool, getD_map_codec]
  -- (`cond` for `if`: the two sides decide `b = true` by instances that differ in how `b` is written)
  simp only [← Bool.cond_eq_ite, A.facts, Cl.facts, Rs.facts, A.codec, A.encoding, A.index, A.indexOnly, A.transparent, A.typeParam,
    A.nil, A.isNil, A.hasNil, A.contextBound, A.cborLen, A.tag, A.skip, Val.facts, getD_map_singleton, getD_map_nil,
    List.count_append, List.count_nil]
  omega

def allItems (attrs : List Attr) : List Item := attrs.flatMap Attr.items

theorem allItems_cons (att : Attr) (rest : List Attr) : allItems (att :: rest) = att.items ++ allItems rest :=
  List.flatMap_cons

def Order.Valid (ord : Order) : Prop := ∀ m : A, (ord m).Perm m.entries

/-- `try_from_iter`'s merging, under any iteration order `ord` of the per-attribute `HashMap`. -/
theorem mergeAttrs_facts (ord : Order) (hord : ord.Valid) (l : Level) :
    ∀ (attrs : List Attr) (acc a : A), mergeAttrs ord l acc attrs = .ok a →
    a.facts.Perm (acc.facts ++ factsOfItems (allItems attrs))
  | [], acc, a, h => by cases h; simp [allItems, factsOfItems]
  | att :: rest, acc, a, h => by
    simp only [mergeAttrs] at h
    split at h
    · cases h
    · rename_i m hm
      split at h
      · cases h
      · rename_i acc1 h1
        have hm' : (factsOfVals (ord m)).Perm (factsOfItems att.items) :=
          ((hord m).flatMap_right _).trans ((entries_facts_perm m).trans (ofAttr_facts l att m hm))
        rw [allItems_cons, factsOfItems_append, ← List.append_assoc]
        exact (mergeAttrs_facts ord hord l rest acc1 a h).trans
          (((insertAll_facts l (ord m) acc acc1 h1).trans (hm'.append_left _)).append_right _)

end Minicbor.Attrs
