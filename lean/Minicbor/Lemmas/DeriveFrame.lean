/-
  The statements generated by `encode_fields` (run-time maximum index, gap loops, map counters)
  write exactly the documented array / map of the fields (`frame_spec`).

  The encoder walks the index-sorted list, the documentation looks every position up in the
  declared list.  With distinct indices both are decided by which fields there are (`find?_of_mem`,
  `maxPresent_congr`), so the walks are proved against any description of the positions that agrees
  on the members (`arrFrom_cells`, `flatMap_entries`), and declaration order never enters.
-/
import Minicbor.Lemmas.DeriveSort
import Minicbor.Thm.C03

namespace Minicbor.Derive

/-- a documented piece with its item encoded: `encFields fs vs = (specFields fs vs).map toBytes`
    (`C08.fields_spec`). -/
def toBytes (q : Piece Item) : Piece Bytes := ⟨q.idx, q.tag, q.nil, encPref q.body⟩

@[simp] theorem toBytes_idx (q : Piece Item) : (toBytes q).idx = q.idx := rfl
@[simp] theorem toBytes_tag (q : Piece Item) : (toBytes q).tag = q.tag := rfl
@[simp] theorem toBytes_nil (q : Piece Item) : (toBytes q).nil = q.nil := rfl
@[simp] theorem toBytes_body (q : Piece Item) : (toBytes q).body = encPref q.body := rfl

theorem prefTrees_append (xs ys : List Item) : prefTrees (xs ++ ys) = prefTrees xs ++ prefTrees ys := by
  induction xs with
  | nil => rfl
  | cons x xs ih => simp [prefTrees, ih]

theorem encPrefs_append (xs ys : List Item) : encPrefs (xs ++ ys) = encPrefs xs ++ encPrefs ys := by
  simp [encPrefs, prefTrees_append, encWs_append]

@[simp] theorem encPrefs_nil : encPrefs [] = [] := rfl

theorem encPrefs_cons (x : Item) (xs : List Item) : encPrefs (x :: xs) = encPref x ++ encPrefs xs := rfl

theorem encPrefs_eq_flatten (xs : List Item) : encPrefs xs = (xs.map encPref).flatten := by
  induction xs with
  | nil => rfl
  | cons x xs ih => rw [encPrefs_cons, ih]; rfl

theorem encPrefs_replicate_null (n : Nat) : encPrefs (List.replicate n nullI) = nulls n := by
  induction n with
  | zero => rfl
  | succ n ih => rw [List.replicate_succ, encPrefs_cons, ih]; rfl

/- `Enc.typeLen` writes the preferred head of every argument (`C03.typeLen_eq_head`), so these hold
   without bounds; the bounds are what makes the node valid (DeriveSpecValid.lean). -/
theorem encPref_tagI (t : Option Nat) (x : Item) : encPref (tagI t x) = tagBytes t ++ encPref x := by
  cases t with
  | none => rfl
  | some n => exact (congrArg (· ++ encPref x) (C03.typeLen_eq_head 6 n)).symm

theorem encPref_array (xs : List Item) : encPref (.array xs) = Enc.array xs.length ++ encPrefs xs := by
  show headW 4 (prefWidth xs.length) (prefTrees xs).length ++ encPrefs xs = _
  rw [prefTrees_length]
  exact (congrArg (· ++ encPrefs xs) (C03.typeLen_eq_head 4 xs.length)).symm

theorem encPref_map (kvs : List Item) : encPref (.map kvs) = Enc.map (kvs.length / 2) ++ encPrefs kvs := by
  show headW 5 (prefWidth (kvs.length / 2)) ((prefTrees kvs).length / 2) ++ encPrefs kvs = _
  rw [prefTrees_length]
  exact (congrArg (· ++ encPrefs kvs) (C03.typeLen_eq_head 5 (kvs.length / 2))).symm

/-! ### the run-time maximum index -/

def lastNonNil : List (Piece β) → Option Nat
  | [] => none
  | p :: ps =>
    match lastNonNil ps with
    | some m => some m
    | none => if p.nil then none else some p.idx

theorem lastNonNil_mem {S : List (Piece β)} {m : Nat} (h : lastNonNil S = some m) : ∃ p ∈ S, p.idx = m ∧ p.nil = false := by
  induction S with
  | nil => cases h
  | cons p ps ih =>
    unfold lastNonNil at h
    cases hl : lastNonNil ps with
    | some x =>
      rw [hl] at h
      obtain ⟨q, hq, h1, h2⟩ := ih (hl.trans h)
      exact ⟨q, List.mem_cons_of_mem _ hq, h1, h2⟩
    | none =>
      rw [hl] at h
      cases hn : p.nil <;> rw [hn] at h
      · exact ⟨p, List.mem_cons_self, Option.some.inj h, hn⟩
      · cases h

theorem foldl_maxIndex (ps : List (Piece β)) (m : Option Nat) :
    ps.foldl (fun m p => if !p.nil then some p.idx else m) m =
      (match lastNonNil ps with | some x => some x | none => m) := by
  induction ps generalizing m with
  | nil => rfl
  | cons p ps ih =>
    simp only [List.foldl_cons, ih, lastNonNil]
    cases lastNonNil ps <;> cases p.nil <;> rfl

theorem maxIndex_eq (ps : List (Piece β)) : maxIndex ps = lastNonNil ps := by
  unfold maxIndex
  rw [foldl_maxIndex]
  cases lastNonNil ps <;> rfl

theorem maxPresent_spec (ps : List (Piece β)) :
    match maxPresent ps with
    | none => ∀ p ∈ ps, p.nil = true
    | some m => (∃ p ∈ ps, p.idx = m ∧ p.nil = false) ∧ ∀ p ∈ ps, p.nil = false → p.idx ≤ m := by
  induction ps with
  | nil => simp [maxPresent]
  | cons p ps ih =>
    unfold maxPresent
    cases hm : maxPresent ps with
    | none =>
      rw [hm] at ih
      cases hn : p.nil
      · refine ⟨⟨p, by simp, rfl, hn⟩, fun q hq hqn => ?_⟩
        rcases List.mem_cons.1 hq with rfl | hq
        · exact Nat.le_refl _
        · rw [ih q hq] at hqn; cases hqn
      · exact fun q hq => (List.mem_cons.1 hq).elim (· ▸ hn) (ih q)
    | some m =>
      rw [hm] at ih
      obtain ⟨⟨q, hq, hqm, hqn⟩, hle⟩ := ih
      cases hn : p.nil
      · refine ⟨?_, fun r hr hrn => ?_⟩
        · by_cases h : p.idx ≤ m
          · exact ⟨q, by simp [hq], by simp only [Bool.false_eq_true, if_false]; omega, hqn⟩
          · exact ⟨p, by simp, by simp only [Bool.false_eq_true, if_false]; omega, hn⟩
        · simp only [Bool.false_eq_true, if_false]
          rcases List.mem_cons.1 hr with rfl | hr
          · omega
          · have := hle r hr hrn; omega
      · refine ⟨⟨q, by simp [hq], hqm, hqn⟩, fun r hr hrn => ?_⟩
        rcases List.mem_cons.1 hr with rfl | hr
        · rw [hn] at hrn; cases hrn
        · exact hle r hr hrn

theorem maxPresent_mem {ps : List (Piece β)} {m : Nat} (h : maxPresent ps = some m) :
    ∃ p ∈ ps, p.idx = m ∧ p.nil = false := by
  have := maxPresent_spec ps; rw [h] at this; exact this.1

theorem maxPresent_none {ps : List (Piece β)} (h : maxPresent ps = none) : ∀ p ∈ ps, p.nil = true := by
  have := maxPresent_spec ps; rwa [h] at this

theorem maxPresent_ge {ps : List (Piece β)} {m : Nat} (h : maxPresent ps = some m) :
    ∀ p ∈ ps, p.nil = false → p.idx ≤ m := by
  have := maxPresent_spec ps; rw [h] at this; exact this.2

theorem maxPresent_lt {ps : List (Piece β)} {m b : Nat} (h : maxPresent ps = some m) (hb : ∀ p ∈ ps, p.idx < b) :
    m < b := by
  obtain ⟨q, hq, hqm, _⟩ := maxPresent_mem h
  exact hqm ▸ hb q hq

theorem succ_lt_U64 {m : Nat} (h : m < U32) : m + 1 < U64 := by simp only [U64, U32] at *; omega

theorem maxPresent_congr {l₁ l₂ : List (Piece β)} (h : ∀ p, p ∈ l₁ ↔ p ∈ l₂) : maxPresent l₁ = maxPresent l₂ := by
  have h1 := maxPresent_spec l₁
  have h2 := maxPresent_spec l₂
  -- (when both are `none` the rewriting closes the goal)
  cases hm1 : maxPresent l₁ <;> cases hm2 : maxPresent l₂ <;> rw [hm1] at h1 <;> rw [hm2] at h2
  · obtain ⟨⟨q, hq, _, hqn⟩, _⟩ := h2
    rw [h1 q ((h q).2 hq)] at hqn; cases hqn
  · obtain ⟨⟨q, hq, _, hqn⟩, _⟩ := h1
    rw [h2 q ((h q).1 hq)] at hqn; cases hqn
  · obtain ⟨⟨q1, hq1, rfl, hn1⟩, hle1⟩ := h1
    obtain ⟨⟨q2, hq2, rfl, hn2⟩, hle2⟩ := h2
    exact congrArg some (Nat.le_antisymm (hle2 q1 ((h q1).1 hq1) hn1) (hle1 q2 ((h q2).2 hq2) hn2))

theorem maxPresent_map {γ : Type} (f : Piece β → Piece γ) (hi : ∀ p, (f p).idx = p.idx)
    (hn : ∀ p, (f p).nil = p.nil) (l : List (Piece β)) : maxPresent (l.map f) = maxPresent l := by
  induction l with
  | nil => rfl
  | cons p ps ih => simp only [List.map_cons, maxPresent, ih, hi, hn]

theorem lastNonNil_eq_maxPresent {S : List (Piece β)} (h : Asc S) : lastNonNil S = maxPresent S := by
  induction S with
  | nil => rfl
  | cons p ps ih =>
    have hp := List.pairwise_cons.1 h
    simp only [lastNonNil, maxPresent, ih hp.2]
    cases hm : maxPresent ps with
    | none => rfl
    | some m =>
      obtain ⟨q, hq, hqi, _⟩ := maxPresent_mem hm
      have := hp.1 q hq
      cases p.nil <;> simp <;> omega

theorem range'_split {c i m : Nat} (h1 : c ≤ i) (h2 : i ≤ m) :
    List.range' c (m + 1 - c) = List.range' c (i - c) ++ i :: List.range' (i + 1) (m - i) := by
  rw [show m + 1 - c = (i - c) + ((m - i) + 1) by omega, ← List.range'_append_1, List.range'_succ,
    show c + (i - c) = i by omega]

/-! ### array encoding -/

/-- the array statements with the cursor (the next position to be written) made explicit:
    `arrStmts` keeps the previous declared index and whether there was one. -/
def arrFrom (m : Nat) : Nat → List (Piece Bytes) → Bytes
  | _, [] => []
  | c, p :: ps =>
    (if p.idx ≤ m then nulls (p.idx - c) ++ tagBytes p.tag ++ p.body else []) ++ arrFrom m (p.idx + 1) ps

theorem arrStmts_eq (m : Nat) (S : List (Piece Bytes)) (first : Bool) (k : Nat) :
    arrStmts m first k S = arrFrom m (if first then k else k + 1) S := by
  induction S generalizing first k with
  | nil => rfl
  | cons p ps ih =>
    simp only [arrStmts, arrFrom, ih false p.idx, Bool.false_eq_true, if_false]
    cases first <;> simp [Nat.sub_sub]

theorem frameArray_eq (S : List (Piece Bytes)) :
    frameArray S = (match lastNonNil S with
      | some i => Enc.array (i + 1) ++ arrFrom i 0 S
      | none => Enc.array 0) := by
  unfold frameArray
  rw [maxIndex_eq]
  cases lastNonNil S <;> simp only [arrStmts_eq, if_true]

theorem arrFrom_gt (m : Nat) (S : List (Piece Bytes)) (c : Nat) (h : ∀ p ∈ S, m < p.idx) :
    arrFrom m c S = [] := by
  induction S generalizing c with
  | nil => rfl
  | cons p ps ih =>
    have hp : ¬ p.idx ≤ m := by have := h p (by simp); omega
    simp [arrFrom, hp, ih (p.idx + 1) (fun q hq => h q (by simp [hq]))]

def cellAt (S : List (Piece Item)) (i : Nat) : Item :=
  match S.find? (fun p => p.idx == i) with
  | some p => tagI p.tag p.body
  | none => nullI

theorem specArray_eq (S : List (Piece Item)) :
    specArray S = (match maxPresent S with
      | none => .array []
      | some m => .array ((List.range (m + 1)).map (cellAt S))) := rfl

theorem asc_nodup {S : List (Piece β)} (h : Asc S) : (idxs S).Nodup :=
  List.pairwise_map.2 (h.imp Nat.ne_of_lt)

theorem find?_of_mem {α : Type} {k : α → Nat} {P : α → Bool} {p : α} : ∀ {qs : List α}, (qs.map k).Nodup → p ∈ qs →
    P p = true → (∀ q ∈ qs, P q = true → k q = k p) → qs.find? P = some p
  | q :: r, nd, hp, hpp, hP => by
    have hn : k q ∉ r.map k ∧ (r.map k).Nodup := List.nodup_cons.1 nd
    rw [List.find?_cons]
    rcases List.mem_cons.1 hp with rfl | hp
    · rw [hpp]
    · cases hq : P q
      · exact find?_of_mem hn.2 hp hpp fun x hx => hP x (List.mem_cons_of_mem _ hx)
      · exact absurd (List.mem_map.2 ⟨p, hp, (hP q List.mem_cons_self hq).symm⟩) hn.1

theorem cellAt_of_mem {S : List (Piece Item)} (nd : (idxs S).Nodup) {p : Piece Item} (hp : p ∈ S) :
    cellAt S p.idx = tagI p.tag p.body := by
  rw [cellAt, find?_of_mem nd hp (by simp) fun q _ h => by simpa using h]

theorem idx_inj {p q : Piece β} {qs : List (Piece β)} (nd : (idxs qs).Nodup) (hp : p ∈ qs) (hq : q ∈ qs)
    (h : q.idx = p.idx) : q = p :=
  Option.some.inj ((find?_of_mem (P := fun x => x.idx == p.idx) nd hq (by simp [h]) fun x _ hx => by
    simpa [h] using hx).symm.trans (find?_of_mem nd hp (by simp) fun x _ hx => by simpa using hx))

/-- against any description `cell` of the positions: a field's item at its index, `null` where no
    field of the list sits. -/
theorem arrFrom_cells (m : Nat) (cell : Nat → Item) : ∀ (S : List (Piece Item)) (c : Nat),
    Asc S → (∀ p ∈ S, c ≤ p.idx) → (c ≤ m → ∃ p ∈ S, p.idx = m) →
    (∀ p ∈ S, cell p.idx = tagI p.tag p.body) → (∀ i, c ≤ i → (∀ p ∈ S, p.idx ≠ i) → cell i = nullI) →
    arrFrom m c (S.map toBytes) = encPrefs ((List.range' c (m + 1 - c)).map cell)
  | [], c, _, _, hm, _, _ => by
    have : m + 1 - c = 0 := by
      have : ¬ c ≤ m := fun h => by obtain ⟨p, hp, _⟩ := hm h; cases hp
      omega
    rw [this]; rfl
  | p :: ps, c, hasc, hlo, hm, hcell, hnull => by
    have hp := List.pairwise_cons.1 hasc
    have hcp := hlo p (by simp)
    by_cases hpm : p.idx ≤ m
    · have ih := arrFrom_cells m cell ps (p.idx + 1) hp.2 (fun q hq => hp.1 q hq)
        (fun hle => by
          obtain ⟨q, hq, hqm⟩ := hm (by omega)
          rcases List.mem_cons.1 hq with rfl | hq
          · omega
          · exact ⟨q, hq, hqm⟩)
        (fun q hq => hcell q (List.mem_cons_of_mem _ hq))
        (fun i hi h => hnull i (by omega) fun q hq => by
          rcases List.mem_cons.1 hq with rfl | hq
          · omega
          · exact h q hq)
      -- the positions below `p.idx` are gaps, the one at `p.idx` is `p`
      have hgap : (List.range' c (p.idx - c)).map cell = List.replicate (p.idx - c) nullI := by
        rw [List.map_congr_left (g := fun _ => nullI) fun i hi => hnull i (List.mem_range'_1.1 hi).1 fun q hq => ?_,
          List.map_const', List.length_range']
        have := List.mem_range'_1.1 hi
        rcases List.mem_cons.1 hq with rfl | hq
        · omega
        · have := hp.1 q hq; omega
      rw [range'_split hcp hpm, List.map_append, List.map_cons, List.map_cons, encPrefs_append, encPrefs_cons, hgap,
        encPrefs_replicate_null, hcell p List.mem_cons_self, encPref_tagI,
        show m - p.idx = m + 1 - (p.idx + 1) by omega, ← ih]
      simp [arrFrom, hpm]
    · have hcm : m + 1 - c = 0 := by
        have : ¬ c ≤ m := fun hle => by
          obtain ⟨q, hq, hqm⟩ := hm hle
          rcases List.mem_cons.1 hq with rfl | hq
          · omega
          · have := hp.1 q hq; omega
        omega
      rw [hcm, arrFrom_gt m _ c]
      · rfl
      · intro q hq
        obtain ⟨q', hq', rfl⟩ := List.mem_map.1 hq
        rcases List.mem_cons.1 hq' with rfl | hq'
        · simp; omega
        · have := hp.1 q' hq'; simp; omega

theorem frameArray_of (qs S : List (Piece Item)) (hasc : Asc S) (hmem : ∀ p, p ∈ S ↔ p ∈ qs) (nd : (idxs qs).Nodup) :
    frameArray (S.map toBytes) = encPref (specArray qs) := by
  have hasc' : Asc (S.map toBytes) := by unfold Asc at *; rw [List.pairwise_map]; exact hasc
  rw [frameArray_eq, lastNonNil_eq_maxPresent hasc', maxPresent_map toBytes (fun _ => rfl) (fun _ => rfl),
    maxPresent_congr hmem, specArray_eq]
  cases hm : maxPresent qs with
  | none => rfl
  | some m =>
    obtain ⟨q, hq, hqm, _⟩ := maxPresent_mem hm
    simp only
    rw [arrFrom_cells m (cellAt qs) S 0 hasc (fun _ _ => Nat.zero_le _) (fun _ => ⟨q, (hmem q).2 hq, hqm⟩)
      (fun p hp => cellAt_of_mem nd ((hmem p).1 hp))
      (fun i _ h => by
        rw [cellAt, List.find?_eq_none.2 fun q hq hqi => h q ((hmem q).2 hq) (by simpa using hqi)]),
      encPref_array]
    simp [List.range_eq_range']

/-! ### map encoding -/

def entryAt (S : List (Piece Item)) (i : Nat) : List Item :=
  match S.find? (fun p => p.idx == i && !p.nil) with
  | some p => [.uint i, tagI p.tag p.body]
  | none => []

theorem specMap_eq (S : List (Piece Item)) :
    specMap S = (match maxPresent S with
      | none => .map []
      | some m => .map ((List.range (m + 1)).flatMap (entryAt S))) := rfl

def entries : List (Piece Item) → List Item
  | [] => []
  | p :: ps => (if p.nil then [] else [.uint p.idx, tagI p.tag p.body]) ++ entries ps

def countPresent : List (Piece β) → Nat
  | [] => 0
  | p :: ps => (if p.nil then 0 else 1) + countPresent ps

theorem countPresent_le (ps : List (Piece β)) : countPresent ps ≤ ps.length := by
  induction ps with
  | nil => exact Nat.le_refl 0
  | cons q qs ih => simp only [countPresent, List.length_cons]; split <;> omega

theorem entries_length (S : List (Piece Item)) : (entries S).length = 2 * countPresent S := by
  induction S with
  | nil => rfl
  | cons p ps ih => cases h : p.nil <;> simp [entries, countPresent, h, ih] <;> omega

theorem entries_allNil {S : List (Piece Item)} (h : ∀ p ∈ S, p.nil = true) : entries S = [] := by
  induction S with
  | nil => rfl
  | cons p ps ih => simp [entries, h p (by simp), ih (fun q hq => h q (by simp [hq]))]

/-- against any description `entry` of the keys: a field's entry (none if it is nil) at its index,
    nothing where no field of the list sits. -/
theorem flatMap_entries (m : Nat) (entry : Nat → List Item) : ∀ (S : List (Piece Item)) (c : Nat),
    Asc S → (∀ p ∈ S, c ≤ p.idx) → (∀ p ∈ S, p.nil = false → p.idx ≤ m) →
    (∀ p ∈ S, entry p.idx = if p.nil then [] else [.uint p.idx, tagI p.tag p.body]) →
    (∀ i, c ≤ i → (∀ p ∈ S, p.idx ≠ i) → entry i = []) →
    (List.range' c (m + 1 - c)).flatMap entry = entries S
  | [], c, _, _, _, _, hnone => List.flatMap_eq_nil_iff.2 fun i hi => hnone i (List.mem_range'_1.1 hi).1 fun _ h => nomatch h
  | p :: ps, c, hasc, hlo, hhi, hentry, hnone => by
    have hp := List.pairwise_cons.1 hasc
    have hcp := hlo p (by simp)
    have hn : ∀ i, c ≤ i → i < p.idx → entry i = [] := fun i h1 h2 => hnone i h1 fun q hq => by
      rcases List.mem_cons.1 hq with rfl | hq
      · omega
      · have := hp.1 q hq; omega
    by_cases hpm : p.idx ≤ m
    · have ih := flatMap_entries m entry ps (p.idx + 1) hp.2 (fun q hq => hp.1 q hq)
        (fun q hq hn => hhi q (by simp [hq]) hn) (fun q hq => hentry q (List.mem_cons_of_mem _ hq))
        (fun i hi h => hnone i (by omega) fun q hq => by
          rcases List.mem_cons.1 hq with rfl | hq
          · omega
          · exact h q hq)
      have hgap : (List.range' c (p.idx - c)).flatMap entry = [] :=
        List.flatMap_eq_nil_iff.2 fun i hi => by have := List.mem_range'_1.1 hi; exact hn i this.1 (by omega)
      rw [range'_split hcp hpm, List.flatMap_append, List.flatMap_cons, hgap, hentry p List.mem_cons_self,
        show m - p.idx = m + 1 - (p.idx + 1) by omega, ih]
      rfl
    · -- everything from `p` on lies beyond `m`, hence is nil
      have hnil : ∀ q ∈ p :: ps, q.nil = true := fun q hq => by
        cases hn : q.nil
        · have := hhi q hq hn
          rcases List.mem_cons.1 hq with rfl | hq
          · omega
          · have := hp.1 q hq; omega
        · rfl
      rw [entries_allNil hnil]
      exact List.flatMap_eq_nil_iff.2 fun i hi => by have := List.mem_range'_1.1 hi; exact hn i this.1 (by omega)

theorem specMap_of (qs S : List (Piece Item)) (hasc : Asc S) (hmem : ∀ p, p ∈ S ↔ p ∈ qs) (nd : (idxs qs).Nodup) :
    specMap qs = .map (entries S) := by
  rw [specMap_eq, ← maxPresent_congr hmem]
  cases hm : maxPresent S with
  | none => rw [entries_allNil (maxPresent_none hm)]
  | some m =>
    have := flatMap_entries m (entryAt qs) S 0 hasc (fun _ _ => Nat.zero_le _) (maxPresent_ge hm)
      (fun p hp => by
        have hpq := (hmem p).1 hp
        cases hn : p.nil
        · rw [entryAt, find?_of_mem nd hpq (by simp [hn]) fun q _ h => by simp at h; exact h.1]; rfl
        · rw [entryAt, List.find?_eq_none.2 fun q hq h => ?_]; rfl
          simp only [Bool.and_eq_true, beq_iff_eq, Bool.not_eq_true'] at h
          rw [idx_inj nd hpq hq h.1, hn] at h
          exact Bool.noConfusion h.2)
      (fun i _ h => by
        rw [entryAt, List.find?_eq_none.2 fun q hq hqi => h q ((hmem q).2 hq) (by simp at hqi; exact hqi.1)])
    simp only [List.range_eq_range', ← this, Nat.sub_zero]

theorem mapStmts_entries (S : List (Piece Item)) (hok : ∀ p ∈ S, p.idx < U32) :
    mapStmts (S.map toBytes) = encPrefs (entries S) := by
  induction S with
  | nil => rfl
  | cons p ps ih =>
    have h := hok p (by simp)
    simp only [List.map_cons, mapStmts, entries, encPrefs_append, ih (fun q hq => hok q (by simp [hq]))]
    cases hn : p.nil
    · simp only [toBytes_nil, hn, Bool.not_false, if_true, Bool.false_eq_true, if_false, toBytes_idx, toBytes_tag,
        toBytes_body, encPrefs_cons, encPrefs_nil, encPref_tagI, C03.u32_pref p.idx h, List.append_nil,
        List.append_assoc]
    · simp [hn]

theorem foldl_maxFields (ps : List (Piece β)) (k : Nat) :
    ps.foldl (fun n p => if p.nil then n - 1 else n) (k + ps.length) = k + countPresent ps := by
  induction ps generalizing k with
  | nil => rfl
  | cons p ps ih =>
    rw [List.foldl_cons, List.length_cons, countPresent]
    cases p.nil
    · rw [if_neg Bool.false_ne_true, if_neg Bool.false_ne_true, show k + (ps.length + 1) = (k + 1) + ps.length by omega, ih]
      omega
    · rw [if_pos rfl, if_pos rfl, show k + (ps.length + 1) - 1 = k + ps.length by omega, ih]
      omega

theorem maxFields_eq (ps : List (Piece β)) : maxFields ps = countPresent ps := by
  have := foldl_maxFields ps 0
  rwa [Nat.zero_add, Nat.zero_add] at this

theorem countPresent_map {γ : Type} (f : Piece β → Piece γ) (hn : ∀ p, (f p).nil = p.nil) (l : List (Piece β)) :
    countPresent (l.map f) = countPresent l := by
  induction l with
  | nil => rfl
  | cons p ps ih => simp only [List.map_cons, countPresent, ih, hn]

theorem length_le_of_asc : ∀ (S : List (Piece β)) (lo b : Nat), Asc S → (∀ p ∈ S, lo ≤ p.idx ∧ p.idx < b) →
    S.length ≤ b - lo
  | [], _, _, _, _ => Nat.zero_le _
  | p :: ps, lo, b, hasc, hb => by
    have hp := List.pairwise_cons.1 hasc
    have := length_le_of_asc ps (p.idx + 1) b hp.2 (fun q hq => ⟨hp.1 q hq, (hb q (by simp [hq])).2⟩)
    have := hb p (by simp)
    simp only [List.length_cons]
    omega

theorem idx_lt_length_of_asc : ∀ (S : List (Piece β)) (b : Nat), Asc S → (∀ p ∈ S, p.idx < b) → S.length ≤ b :=
  fun S b hasc hb => length_le_of_asc S 0 b hasc (fun p hp => ⟨Nat.zero_le _, hb p hp⟩)

theorem frameMap_of (qs S : List (Piece Item)) (hasc : Asc S) (hmem : ∀ p, p ∈ S ↔ p ∈ qs) (nd : (idxs qs).Nodup)
    (hok : ∀ p ∈ S, p.idx < U32) : frameMap (S.map toBytes) = encPref (specMap qs) := by
  rw [frameMap, maxFields_eq, countPresent_map toBytes (fun _ => rfl), mapStmts_entries S hok,
    specMap_of qs S hasc hmem nd, encPref_map, entries_length, Nat.mul_div_cancel_left _ (by decide)]

/- The one bound (`hok`): `Encoder::u32` writes a map key, so the index has to be a `u32`. -/

theorem frame_array (qs : List (Piece Item)) (nd : (idxs qs).Nodup) :
    frame .array (qs.map toBytes) = encPref (specArray qs) := by
  rw [frame, sortP_map toBytes (fun _ => rfl)]
  exact frameArray_of qs _ (sortP_asc qs nd) (fun _ => (sortP_perm qs).mem_iff) nd

theorem frame_map (qs : List (Piece Item)) (nd : (idxs qs).Nodup) (hok : ∀ p ∈ qs, p.idx < U32) :
    frame .map (qs.map toBytes) = encPref (specMap qs) := by
  rw [frame, sortP_map toBytes (fun _ => rfl)]
  exact frameMap_of qs _ (sortP_asc qs nd) (fun _ => (sortP_perm qs).mem_iff) nd
    fun p hp => hok p ((sortP_perm qs).mem_iff.1 hp)

theorem frame_spec (enc : Encoding) (qs : List (Piece Item)) (nd : (idxs qs).Nodup) (hok : ∀ p ∈ qs, p.idx < U32) :
    frame enc (qs.map toBytes) = encPref (specBody enc qs) := by
  cases enc
  · exact frame_array qs nd
  · exact frame_map qs nd hok

end Minicbor.Derive
