/-
  The no-alloc build of `Decoder::skip` (counting only) against the alloc build, token by
  token: on a state without a stack that is still counting both do the same (`tokStep_lock`),
  except that the no-alloc build gives up on an indefinite array/map met while two or more
  items are pending (`tokStep_giveup`).  Hence on arbitrary bytes it runs in lockstep with
  the alloc build until it either finishes in the same way or returns the documented
  `message` error (`skipLoop_lock`).
-/
import Minicbor.Lemmas.SkipView

namespace Minicbor
open Dec

/-- invariant of the no-alloc build's states (also of the alloc build's while counting): the
    stack is never used, and `nrounds` is in `u64` range (`satAdd` keeps it there). -/
structure NoStack (s : SkipSt) : Prop where
  st : s.stack = []
  nr : s.nr ≤ U64MAX

theorem NoStack.init : NoStack SkipSt.init := ⟨rfl, by simp [SkipSt.init, U64MAX]⟩

theorem postSt_false (s : SkipSt) : postSt false s = { s with nr := s.nr - 1 } := by
  simp [postSt]

theorem NoStack.step {s s' : SkipSt} {t : Tok} (h : NoStack s) (hs : tokStep false s t = some s') : NoStack s' := by
  obtain ⟨nr, ir, st⟩ := s
  obtain ⟨rfl, hnr⟩ : st = [] ∧ nr ≤ U64MAX := ⟨h.st, h.nr⟩
  cases t with
  | indef =>
    simp only [tokStep, indefSt, Bool.false_and, Bool.false_eq_true, if_false] at hs
    split at hs <;> cases hs
    exact ⟨rfl, by simp [postSt_false]; omega⟩
  | defn n =>
    cases hs
    exact ⟨by simp [postSt_false, defSt, skipDefinite],
      by have := satAdd_le nr n; simp [postSt_false, defSt, skipDefinite]; omega⟩
  | tag => cases hs; exact h
  | _ => cases hs; exact ⟨by simp [postSt_false, brkSt], by simp [postSt_false, brkSt]; omega⟩

theorem tokStep_lock {s : SkipSt} (h : NoStack s) (hc : s.counting = true) (t : Tok)
    (hi : t = .indef → s.nr < 2) : tokStep false s t = tokStep true s t := by
  obtain ⟨nr, ir, st⟩ := s
  obtain ⟨rfl, hnr⟩ : st = [] ∧ nr ≤ U64MAX := ⟨h.st, h.nr⟩
  cases t with
  | item => simp [tokStep, postSt_nil, postSt_false]
  | defn n =>
    by_cases hn : n = 0
    · simp [tokStep, hn, defSt, skipDefinite, satAdd, hnr, postSt_nil, postSt_false]
    · simp [tokStep, hn, defSt, skipDefinite, hc, postSt_nil, postSt_false]
  | indef => simp [tokStep, indefSt, hc, hi rfl, postSt_nil, postSt_false]
  | brk => simp [tokStep, brkSt, hc, postSt_nil, postSt_false]
  | tag => rfl

theorem tokStep_giveup {s : SkipSt} (h : 2 ≤ s.nr) : tokStep false s .indef = none := by
  have : ¬ s.nr < 2 := by omega
  simp [tokStep, indefSt, this]

theorem armTok_consumes : Consumes armTok 1 := by
  intro bs t r ht
  have harm : skipArm true ⟨0, 0, []⟩ bs = applyTok true ⟨0, 0, []⟩ t r := by rw [skipArm_eq, Dec.bind_run, ht]
  have : ∃ a, applyTok true ⟨0, 0, []⟩ t r = .ok a r := by
    cases t <;> exact ⟨_, rfl⟩
  obtain ⟨a, ha⟩ := this
  exact Consumes.rules.skipArm true _ bs a r (harm.trans ha)

theorem running_false_eq (s : SkipSt) (h : s.stack = []) :
    skipRunning false s = skipRunning true s := by
  simp [skipRunning, h]

theorem running_counting (s : SkipSt) (h : skipRunning false s = true) : s.counting = true := by
  obtain ⟨nr, ir, st⟩ := s
  simp [skipRunning] at h
  simp [counting_mk]; omega

/-- `hf` holds for the fuel `skip` provides. -/
theorem skipLoop_lock (f : Nat) (s : SkipSt) (bs : Bytes) (h : NoStack s) (hf : bs.length + 1 ≤ f) :
    skipLoop false (f + 1) s bs = skipLoop true (f + 1) s bs
      ∨ ∃ r, skipLoop false (f + 1) s bs = .err .message r := by
  induction f generalizing s bs with
  | zero => omega
  | succ f ih =>
    have hrun' := running_false_eq s h.st
    cases hrun : skipRunning false s with
    | false => left; rw [skipLoop_done _ _ _ _ hrun, skipLoop_done _ _ _ _ (hrun' ▸ hrun)]
    | true =>
      rw [loop_tok false s bs f hrun, loop_tok true s bs f (hrun' ▸ hrun)]
      cases ht : armTok bs with
      | ok t r =>
        have hlen := armTok_consumes bs t r ht
        simp only []
        by_cases hi : t = .indef ∧ 2 ≤ s.nr
        · rw [hi.1, tokStep_giveup hi.2]
          exact Or.inr ⟨r, rfl⟩
        · rw [← tokStep_lock h (running_counting s hrun) t (fun e => Nat.lt_of_not_le fun h2 => hi ⟨e, h2⟩)]
          cases hs : tokStep false s t with
          | none => left; rfl
          | some s' => exact ih s' r (h.step hs) (by omega)
      | err e r => left; rfl
      | panic => left; rfl

end Minicbor
