/-
  One rule per `Encoder` method used by the impls: the side condition under which the method writes the preferred
  head is the one under which the node is valid, so the two facts travel together.  C03 for the built-in impls
  and C08 (derived impls) are walks that apply these rules.
-/
import Minicbor.Thm.C03

namespace Minicbor

def Pref (bs : Bytes) (i : Item) : Prop := bs = encPref i ∧ (prefTree i).valid = true

def Prefs (bs : Bytes) (is : List Item) : Prop := bs = encPrefs is ∧ validAll (prefTrees is) = true

theorem validAll_cons (a : WItem) (b : List WItem) :
    validAll (a :: b) = (a.valid && validAll b) := rfl

namespace Pref

theorem u64 {n : Nat} (h : n < 18446744073709551616) : Pref (Enc.u64 n) (.uint n) :=
  ⟨C03.u64_pref n h, prefWidth_fits n h⟩

theorem u32 {n : Nat} (h : n < 4294967296) : Pref (Enc.u32 n) (.uint n) :=
  ⟨C03.u32_pref n h, prefWidth_fits n (Nat.lt_trans h (by decide))⟩

theorem null : Pref Enc.null (.simple 22) := ⟨rfl, rfl⟩

theorem bool (b : Bool) : Pref (Enc.bool b) (.simple (if b then 21 else 20)) := by cases b <;> exact ⟨rfl, rfl⟩

theorem bytes {b : Bytes} (h : b.length < 18446744073709551616) : Pref (Enc.bytes b) (.bytes b) :=
  ⟨C03.bytes_pref b h, prefWidth_fits _ h⟩

theorem str {b : Bytes} (hu : validUtf8 b = true) (h : b.length < 18446744073709551616) :
    Pref (Enc.str b) (.text b) :=
  ⟨C03.str_pref b h, Bool.and_eq_true_iff.2 ⟨prefWidth_fits _ h, hu⟩⟩

theorem tag {n : Nat} {bs : Bytes} {i : Item} (h : n < 18446744073709551616) (hi : Pref bs i) :
    Pref (Enc.tag n ++ bs) (.tag n i) :=
  ⟨hi.1 ▸ C03.tag_denote n i h, Bool.and_eq_true_iff.2 ⟨prefWidth_fits n h, hi.2⟩⟩

theorem array {bs : Bytes} {is : List Item} (hl : is.length < 18446744073709551616) (h : Prefs bs is) :
    Pref (Enc.array is.length ++ bs) (.array is) :=
  ⟨h.1 ▸ C03.array_denote is hl,
    Bool.and_eq_true_iff.2 ⟨by rw [prefTrees_length]; exact prefWidth_fits _ hl, h.2⟩⟩

theorem map {bs : Bytes} {is : List Item} (hev : is.length % 2 = 0) (hl : is.length / 2 < 18446744073709551616)
    (h : Prefs bs is) : Pref (Enc.map (is.length / 2) ++ bs) (.map is) :=
  ⟨h.1 ▸ C03.map_denote is hl, by
    show ((prefTrees is).length % 2 == 0 && (prefWidth (is.length / 2)).fits ((prefTrees is).length / 2)
      && validAll (prefTrees is)) = true
    rw [prefTrees_length, h.2, prefWidth_fits _ hl, hev]; rfl⟩

end Pref

namespace Prefs

theorem nil : Prefs [] [] := ⟨rfl, rfl⟩

theorem cons {a b : Bytes} {i : Item} {is : List Item} (h1 : Pref a i) (h2 : Prefs b is) : Prefs (a ++ b) (i :: is) :=
  ⟨by rw [h1.1, h2.1]; rfl, by rw [prefTrees, validAll_cons, h1.2, h2.2]; rfl⟩

theorem flatten_map {α : Type} {f : α → Bytes} {g : α → Item} :
    ∀ {l : List α}, (∀ x ∈ l, Pref (f x) (g x)) → Prefs (l.map f).flatten (l.map g)
  | [], _ => nil
  | x :: _, h => cons (h x List.mem_cons_self) (flatten_map fun y hy => h y (List.mem_cons_of_mem x hy))

theorem of_valid : ∀ {is : List Item}, (∀ x ∈ is, (prefTree x).valid = true) → Prefs (encPrefs is) is
  | [], _ => nil
  | x :: _, h => cons ⟨rfl, h x List.mem_cons_self⟩ (of_valid fun y hy => h y (List.mem_cons_of_mem x hy))

end Prefs

end Minicbor
