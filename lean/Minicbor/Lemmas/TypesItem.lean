/-
  The RFC 8949 data-model value denoted by a value of a built-in type (`itemOf`), and the
  induction showing that every built-in `Encode` impl writes exactly the preferred serialisation
  of that value (C03, built-in part).
-/
import Minicbor.Lemmas.TypesRoundtrip
import Minicbor.Lemmas.Pref

namespace Minicbor

mutual
/-- the data-model value a typed value denotes: `char` is its scalar value, the byte newtypes / `CStr` (with its
    NUL) are byte strings, `None` is `null`, `Some(x)` is `x`, sequences / arrays / tuples / `decode_fields!` records
    (ranges, socket addresses) / `()` are arrays, the `[index, payload]` enums (`Result`, `Bound`, `IpAddr`,
    `SocketAddr`) two-element arrays, `Duration` / `SystemTime` `[secs, nanos]`; floats keep their width.
    `none`: not a value of the type — or `minicbor::data::Tag`, whose impl writes a bare tag head, which is not a
    data item. -/
def itemOf : Ty → Val → Option Item
  | .int _, .int v => some (C03.intItem v)
  | .nz _, .int v => some (C03.intItem v)
  | .bool, .bool b => some (.simple (if b then 21 else 20))
  | .char, .int v => some (.uint v.toNat)
  | .f32, .float b => some (.f32 b)
  | .f64, .float b => some (.f64 b)
  | .str, .str b => some (.text b)
  | .bytes, .bytes b => some (.bytes b)
  | .barr _, .bytes b => some (.bytes b)
  | .cstr, .bytes b => some (.bytes (b ++ [0]))
  | .unit, .unit => some (.array [])
  | .skipUnit, .unit => some (.array [])
  | .opt _, .none => some (.simple 22)
  | .opt t, .some v => itemOf t v
  | .seq t, .list vs => (itemsOf t vs).map .array
  | .arr _ t, .list vs => (itemsOf t vs).map .array
  | .tup ts, .list vs => (itemsTup ts vs).map .array
  | .fields ts, .list vs => (itemsTup ts vs).map .array
  | .map k v, .map kvs => (itemsMap k v kvs).map .map
  | .tagged n t, .tagged v => (itemOf t v).map (.tag n)
  | .enum ts, .variant i v =>
      match ts[i]? with
      | some t => (itemOf t v).map (fun p => .array [.uint i, p])
      | none => none
  | .duration, .list [.int s, .int n] => some (.array [.uint s.toNat, .uint n.toNat])
  | .systime, .list [.int s, .int n] => some (.array [.uint s.toNat, .uint n.toNat])
  | _, _ => none
def itemsOf (t : Ty) : List Val → Option (List Item)
  | [] => some []
  | v :: vs => do let a ← itemOf t v; let b ← itemsOf t vs; some (a :: b)
def itemsTup : List Ty → List Val → Option (List Item)
  | [], [] => some []
  | t :: ts, v :: vs => do let a ← itemOf t v; let b ← itemsTup ts vs; some (a :: b)
  | _, _ => none
def itemsMap (k v : Ty) : List Val → Option (List Item)
  | [] => some []
  | x :: y :: rest => do
      let a ← itemOf k x; let b ← itemOf v y; let c ← itemsMap k v rest; some (a :: b :: c)
  | _ => none
end

theorem array_of_items {n : Nat} {is : List Item} {b : Bytes} (hn : is.length = n) (hl : n < 18446744073709551616)
    (h : Prefs b is) : Pref (Enc.array n ++ b) (.array is) := by
  subst hn; exact .array hl h

theorem array_of_two {a b : Bytes} {i j : Item} (hi : Pref a i) (hj : Pref b j) :
    Pref (Enc.array 2 ++ a ++ b) (.array [i, j]) := by
  have h := Pref.array (is := [i, j]) (by simp) (.cons hi (.cons hj .nil))
  rwa [List.append_nil, ← List.append_assoc] at h

theorem pref_all :
    (∀ t v bs, encodeT t v = some bs → t.all Ty.prefNode = true → bs.length < 2 ^ 64 →
      ∃ i, itemOf t v = some i ∧ Pref bs i) ∧
    (∀ k v kvs bs, encodeMap k v kvs = some bs → k.all Ty.prefNode = true ∧ v.all Ty.prefNode = true →
      bs.length < 2 ^ 64 →
      ∃ is, itemsMap k v kvs = some is ∧ is.length = kvs.length ∧ kvs.length % 2 = 0 ∧ Prefs bs is) ∧
    (∀ ts vs bs, encodeTup ts vs = some bs → Ty.allL Ty.prefNode ts = true → bs.length < 2 ^ 64 →
      ∃ is, itemsTup ts vs = some is ∧ is.length = ts.length ∧ Prefs bs is) ∧
    (∀ t vs bs, encodeList t vs = some bs → t.all Ty.prefNode = true → bs.length < 2 ^ 64 →
      ∃ is, itemsOf t vs = some is ∧ is.length = vs.length ∧ Prefs bs is) := by
  obtain ⟨-, sz2, sz3, sz4⟩ := enc_start
  apply encodeT_ok_induct
  case int =>
    intro k v h _
    exact ⟨_, rfl, IntKind.enc_pref k v h, intItem_valid k v h⟩
  case nz =>
    intro k v h _ _
    exact ⟨_, rfl, IntKind.enc_pref k v h, intItem_valid k v h⟩
  case bool => intro b _; exact ⟨_, rfl, .bool b⟩
  case char =>
    intro v _ hs _
    have := isScalar_lt hs
    exact ⟨_, rfl, .u32 (by omega)⟩
  case f32 => intro b h _; exact ⟨_, rfl, rfl, decide_eq_true h⟩
  case f64 => intro b h _; exact ⟨_, rfl, rfl, decide_eq_true h⟩
  case str =>
    intro b hu hl
    have hb := length_lt_of_append hl
    exact ⟨_, rfl, .str hu hb⟩
  case bytes | barr =>
    intro b hl
    have hb := length_lt_of_append hl
    exact ⟨_, rfl, .bytes hb⟩
  case cstr =>
    intro b _ hl
    have hb := length_lt_of_append hl
    exact ⟨_, rfl, .bytes hb⟩
  case unit | skipUnit => intro _; exact ⟨_, rfl, by decide, by decide⟩
  case optNone => intro t _; exact ⟨_, rfl, .null⟩
  case optSome => intro t v bs _ _ ih hl; exact ih hl
  case seq | arr =>
    intro t vs b henc ih hl
    have h1 := sz4 _ _ _ henc
    rw [List.length_append] at hl
    obtain ⟨is, hi, hlen, hp⟩ := ih (by omega)
    exact ⟨.array is, congrArg (Option.map Item.array) hi, array_of_items hlen (by omega) hp⟩
  case tup | fields =>
    intro ts vs b _ henc ih hl
    have h1 := sz3 _ _ _ henc
    rw [List.length_append] at hl
    obtain ⟨is, hi, hlen, hp⟩ := ih (by omega)
    exact ⟨.array is, congrArg (Option.map Item.array) hi, array_of_items hlen (by omega) hp⟩
  case map =>
    intro k v kvs b henc ih hl
    have h1 := sz2 _ _ _ _ henc
    rw [List.length_append] at hl
    obtain ⟨is, hi, hlen, hev, hp⟩ := ih (by omega)
    have hl2 : is.length / 2 < 18446744073709551616 := by omega
    exact ⟨.map is, congrArg (Option.map Item.map) hi, hlen ▸ .map (hlen ▸ hev) hl2 hp⟩
  case tag => intro v hp; cases hp
  case tagged =>
    intro n t v b hp henc ih hl
    have hn : n < 18446744073709551616 := of_decide_eq_true (Bool.and_eq_true_iff.1 hp).1
    rw [List.length_append] at hl
    obtain ⟨i, hi, hp⟩ := ih (by omega)
    exact ⟨.tag n i, congrArg (Option.map (Item.tag n)) hi, .tag hn hp⟩
  case «enum» =>
    intro ts i t v b hp hi henc ih hl
    have hts : ts.length ≤ 4294967296 := of_decide_eq_true (Bool.and_eq_true_iff.1 hp).1
    have hlt : i < ts.length := (List.getElem?_eq_some_iff.1 hi).1
    rw [List.length_append] at hl
    obtain ⟨p, hp, hb⟩ := ih (by omega)
    refine ⟨.array [.uint i, p], ?_, array_of_two (.u32 (by omega)) hb⟩
    show (match ts[i]? with | some t => (itemOf t v).map (fun p => Item.array [.uint i, p]) | none => none) = _
    rw [hi]; exact congrArg (Option.map fun p => Item.array [.uint i, p]) hp
  case duration | systime =>
    intro s n _ _ _ _ _
    have hs : s.toNat < 18446744073709551616 := by omega
    exact ⟨_, rfl, array_of_two (.u64 hs) (.u32 (by omega))⟩
  case mapNil => intros; exact ⟨[], rfl, rfl, rfl, .nil⟩
  case tupNil => intros; exact ⟨[], rfl, rfl, .nil⟩
  case listNil => intros; exact ⟨[], rfl, rfl, .nil⟩
  case mapCons =>
    intro k v x y kvs a b c _ _ _ iha ihb ihc hl
    simp only [List.length_append] at hl
    obtain ⟨i1, h1, p1⟩ := iha (by omega)
    obtain ⟨i2, h2, p2⟩ := ihb (by omega)
    obtain ⟨is, h3, l3, ev, p3⟩ := ihc (by omega)
    refine ⟨i1 :: i2 :: is, ?_, by simp [l3], by simp; omega, List.append_assoc a b c ▸ .cons p1 (.cons p2 p3)⟩
    show (do let a ← itemOf k x; let b ← itemOf v y; let c ← itemsMap k v kvs; some (a :: b :: c)) = _
    rw [h1, h2, h3]; rfl
  case tupCons =>
    intro t ts v vs a b _ _ iha ihb hl
    rw [List.length_append] at hl
    obtain ⟨i1, h1, p1⟩ := iha (by omega)
    obtain ⟨is, h3, l3, p3⟩ := ihb (by omega)
    refine ⟨i1 :: is, ?_, by simp [l3], .cons p1 p3⟩
    show (do let a ← itemOf t v; let b ← itemsTup ts vs; some (a :: b)) = _
    rw [h1, h3]; rfl
  case listCons =>
    intro t v vs a b _ _ iha ihb hl
    rw [List.length_append] at hl
    obtain ⟨i1, h1, p1⟩ := iha (by omega)
    obtain ⟨is, h3, l3, p3⟩ := ihb (by omega)
    refine ⟨i1 :: is, ?_, by simp [l3], .cons p1 p3⟩
    show (do let a ← itemOf t v; let b ← itemsOf t vs; some (a :: b)) = _
    rw [h1, h3]; rfl

end Minicbor
