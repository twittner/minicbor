/-
  `skip` on the encoding of a valid wire tree, both builds at once, in three independent parts: which tokens
  `armTok` reads on `encW w` (`reads_item`: bytes only); what the true machine does on them, a whole item acting
  like the single token `.item` without any counter of the code saturating (`item_run`: arithmetic on the weights
  only); and that the loop follows every such run, on whatever bytes the tokens were read from (`TrueRun.sim`).
  The no-alloc build follows the alloc build token by token (`tokStep_lock`) as long as every indefinite
  array/map is met with at most one item pending, which is so when none lies inside a definite one.
-/
import Minicbor.Lemmas.ParseSpec
import Minicbor.Lemmas.SkipRefine
import Minicbor.Lemmas.SkipNoAlloc
import Minicbor.Lemmas.Steps

namespace Minicbor
open Dec

/-- the conclusion of `items_steps`.  (`Reach` of Lemmas/SkipMem.lean is something else: the loop heads of a run
    on arbitrary bytes.) -/
def Reaches (c : SkipSt) (bs rest : Bytes) (T' : List Nat) : Prop :=
  ∃ k c', k ≤ bs.length ∧ SkipSteps true k c (bs ++ rest) c' rest ∧ Rel c' T'

/-- `Rel` for the build `alloc`: the no-alloc build moreover stays in its own states (`NoStack`). -/
def BuildRel (alloc : Bool) (c : SkipSt) (T : List Nat) : Prop := Rel c T ∧ (alloc = false → NoStack c)

theorem Rel.nr_le {c : SkipSt} {a : Nat} {r : List Nat} (h : Rel c (a :: r)) (hst : c.stack = []) :
    c.nr ≤ a := by
  obtain ⟨nr, ir, st⟩ := c
  obtain rfl : st = [] := hst
  have := h.le
  rw [segs_nil] at this
  exact Le_head_le this

theorem step_tok {alloc : Bool} {c : SkipSt} {a : Nat} {r T' : List Nat} {t : Tok} {bs bs' : Bytes}
    (h : BuildRel alloc c (a :: r)) (hl : 1 ≤ a ∨ r ≠ []) (ht : armTok bs = .ok t bs')
    (hT : trueStep t (a :: r) = some T') (hf : stepFits t (a :: r))
    (hi : alloc = false → t = .indef → a ≤ 1) :
    ∃ c', SkipSteps alloc 1 c bs c' bs' ∧ BuildRel alloc c' T' := by
  have hrun := rel_running h.1 hl
  obtain ⟨c', hs, hr⟩ := h.1.step hl hT hf
  cases alloc with
  | true => exact ⟨c', SkipSteps.tok hrun ht hs, hr, by simp⟩
  | false =>
    have na := h.2 rfl
    rw [← running_false_eq c na.st] at hrun
    rw [← tokStep_lock na (running_counting c hrun) t
      (fun e => by have := hi rfl e; have := h.1.nr_le na.st; omega)] at hs
    exact ⟨c', SkipSteps.tok hrun ht hs, hr, fun _ => na.step hs⟩

theorem pending_pos {a : Nat} {r : List Nat} (hl : 1 ≤ a ∨ r ≠ []) : 1 ≤ a + r.length := by
  rcases hl with h | h
  · omega
  · have := List.length_pos_iff.2 h; omega

mutual
/-- the tokens `skip` reads on `encW w`, in order: one per head, a chunked string being a single item. -/
def skipToks : WItem → List Tok
  | .array wd xs => (WItem.array wd xs).tok :: skipToksL xs
  | .map wd xs => (WItem.map wd xs).tok :: skipToksL xs
  | .arrayI xs | .mapI xs => .indef :: (skipToksL xs ++ [.brk])
  | .tag _ _ x => .tag :: skipToks x
  | _ => [.item]
def skipToksL : List WItem → List Tok
  | [] => []
  | x :: xs => skipToks x ++ skipToksL xs
end

mutual
theorem reads_item : (w : WItem) → w.valid = true → ∀ rest, Steps armTok (skipToks w) (encW w ++ rest) rest
  | .array wd xs, hv, rest =>
    ⟨_, armTok_encW _ rest hv, reads_items xs (by simp only [WItem.valid, Bool.and_eq_true] at hv; exact hv.2) rest⟩
  | .map wd xs, hv, rest =>
    ⟨_, armTok_encW _ rest hv, reads_items xs (by simp only [WItem.valid, Bool.and_eq_true] at hv; exact hv.2) rest⟩
  | .arrayI xs, hv, rest =>
    ⟨_, armTok_encW _ rest hv, by
      simpa [WItem.after] using (reads_items xs hv (0xff :: rest)).append (.one (armTok_brk rest))⟩
  | .mapI xs, hv, rest =>
    ⟨_, armTok_encW _ rest hv, by
      simp only [WItem.valid, Bool.and_eq_true] at hv
      simpa [WItem.after] using (reads_items xs hv.2 (0xff :: rest)).append (.one (armTok_brk rest))⟩
  | .tag wd n x, hv, rest =>
    ⟨_, armTok_encW _ rest hv, reads_item x (by simp only [WItem.valid, Bool.and_eq_true] at hv; exact hv.2) rest⟩
  | .uint .., hv, rest | .nint .., hv, rest | .bytes .., hv, rest | .bytesI _, hv, rest | .text .., hv, rest
  | .textI _, hv, rest | .simple _, hv, rest | .f16 _, hv, rest | .f32 _, hv, rest | .f64 _, hv, rest =>
    ⟨_, armTok_encW _ rest hv, rfl⟩
theorem reads_items : (xs : List WItem) → validAll xs = true → ∀ rest, Steps armTok (skipToksL xs) (encWs xs ++ rest) rest
  | [], _, _ => rfl
  | x :: xs, hv, rest => by
    simp only [validAll, Bool.and_eq_true] at hv
    simpa [encWs, skipToksL] using (reads_item x hv.1 (encWs xs ++ rest)).append (reads_items xs hv.2 rest)
end

/-- a run of the true machine in which no counter of the code saturates and (no-alloc build) every
    indefinite array/map is met with at most one item pending. -/
inductive TrueRun (alloc : Bool) : List Tok → List Nat → List Nat → Prop
  | nil {T : List Nat} : TrueRun alloc [] T T
  | cons {t : Tok} {ts : List Tok} {a : Nat} {r T1 T2 : List Nat} : (1 ≤ a ∨ r ≠ []) →
      trueStep t (a :: r) = some T1 → stepFits t (a :: r) → (alloc = false → t = .indef → a ≤ 1) →
      TrueRun alloc ts T1 T2 → TrueRun alloc (t :: ts) (a :: r) T2

theorem TrueRun.append {alloc : Bool} {ts us : List Tok} {T1 T2 T3 : List Nat}
    (h1 : TrueRun alloc ts T1 T2) (h2 : TrueRun alloc us T2 T3) : TrueRun alloc (ts ++ us) T1 T3 := by
  induction h1 with
  | nil => exact h2
  | cons hl hT hf hi _ ih => exact .cons hl hT hf hi (ih h2)

theorem TrueRun.sim {alloc : Bool} {ts : List Tok} {T T' : List Nat} (h : TrueRun alloc ts T T') :
    ∀ {c : SkipSt} {bs rest : Bytes}, Steps armTok ts bs rest → BuildRel alloc c T →
      ∃ c', SkipSteps alloc ts.length c bs c' rest ∧ BuildRel alloc c' T' := by
  induction h with
  | nil => intro c bs rest hr hc; cases hr; exact ⟨c, SkipSteps.refl _ _ _, hc⟩
  | cons hl hT hf hi _ ih =>
    intro c bs rest ⟨mid, ht, hr⟩ hc
    obtain ⟨c1, s1, h1⟩ := step_tok hc hl ht hT hf hi
    obtain ⟨c2, s2, h2⟩ := ih hr h1
    exact ⟨c2, by rw [List.length_cons, Nat.add_comm]; exact s1.trans s2, h2⟩

mutual
/-- every valid item acts like one `trueStep .item`: `a :: r ↦ (a - 1) :: r`.  For the no-alloc build it is
    enough that the item holds no indefinite array/map at all, or that at most one item is pending
    (`a ≤ 1`) and none of them lies inside a definite one (sufficient, not necessary: see
    `C06.HasIndefInsideDef`, Thm/C06.lean). -/
theorem item_run (alloc : Bool) : (w : WItem) → w.valid = true → ∀ (a : Nat) (r : List Nat),
    (1 ≤ a ∨ r ≠ []) → a + r.length + (encW w).length ≤ U64MAX + 1 →
    (alloc = false → (a ≤ 1 ∧ w.indefInDef = false) ∨ w.hasIndef = false) →
    TrueRun alloc (skipToks w) (a :: r) ((a - 1) :: r)
  | .tag wd n x, hv, a, r, hl, hb, hs => by
    have hp := pending_pos hl
    have hlt := (WItem.tag wd n x).after_length_lt
    simp only [WItem.valid, Bool.and_eq_true] at hv
    exact .cons hl rfl trivial nofun (item_run alloc x hv.2 a r hl (by simp only [WItem.after] at hlt; omega)
      (by simpa [WItem.indefInDef, WItem.hasIndef] using hs))
  | .array wd xs, hv, a, r, hl, hb, hs => by
    have hp := pending_pos hl
    have hlt := (WItem.array wd xs).after_length_lt
    have hge := encWs_length_ge xs
    simp only [WItem.after] at hlt
    simp only [WItem.valid, Bool.and_eq_true] at hv
    simp only [WItem.indefInDef, WItem.hasIndef] at hs
    have := items_run alloc xs hv.2 (a - 1 + xs.length) r (Or.inl (by omega)) (by omega)
      (fun e => Or.inr ((hs e).elim (·.2) id))
    rw [Nat.add_sub_cancel] at this
    exact .cons hl rfl (show a + xs.length ≤ U64MAX by omega) nofun this
  | .map wd xs, hv, a, r, hl, hb, hs => by
    have hp := pending_pos hl
    have hlt := (WItem.map wd xs).after_length_lt
    have hge := encWs_length_ge xs
    simp only [WItem.after] at hlt
    simp only [WItem.valid, Bool.and_eq_true, beq_iff_eq] at hv
    simp only [WItem.indefInDef, WItem.hasIndef] at hs
    have := items_run alloc xs hv.2 (a - 1 + xs.length) r (Or.inl (by omega)) (by omega)
      (fun e => Or.inr ((hs e).elim (·.2) id))
    rw [Nat.add_sub_cancel] at this
    rw [skipToks, WItem.tok, satMul2_half _ hv.1.1 (by omega)]
    exact .cons hl rfl (show a + xs.length ≤ U64MAX by omega) nofun this
  | .arrayI xs, hv, a, r, hl, hb, hs => by
    have hp := pending_pos hl
    have hs' : alloc = false → a ≤ 1 ∧ indefInDefs xs = false := fun e => by
      simpa [WItem.indefInDef, WItem.hasIndef] using hs e
    simp only [encW, List.length_cons, List.length_append, List.length_nil] at hb
    have := items_run alloc xs hv 0 ((a - 1) :: r) (Or.inr (by simp)) (by simp; omega)
      (fun e => Or.inl ⟨by omega, (hs' e).2⟩)
    rw [Nat.zero_sub] at this
    exact .cons hl rfl (show r.length < U64MAX by omega) (fun e _ => (hs' e).1)
      (this.append (.cons (Or.inr (by simp)) rfl trivial nofun .nil))
  | .mapI xs, hv, a, r, hl, hb, hs => by
    have hp := pending_pos hl
    have hs' : alloc = false → a ≤ 1 ∧ indefInDefs xs = false := fun e => by
      simpa [WItem.indefInDef, WItem.hasIndef] using hs e
    simp only [encW, List.length_cons, List.length_append, List.length_nil] at hb
    simp only [WItem.valid, Bool.and_eq_true] at hv
    have := items_run alloc xs hv.2 0 ((a - 1) :: r) (Or.inr (by simp)) (by simp; omega)
      (fun e => Or.inl ⟨by omega, (hs' e).2⟩)
    rw [Nat.zero_sub] at this
    exact .cons hl rfl (show r.length < U64MAX by omega) (fun e _ => (hs' e).1)
      (this.append (.cons (Or.inr (by simp)) rfl trivial nofun .nil))
  | .uint .., _, _, _, hl, _, _ | .nint .., _, _, _, hl, _, _ | .bytes .., _, _, _, hl, _, _
  | .bytesI _, _, _, _, hl, _, _ | .text .., _, _, _, hl, _, _ | .textI _, _, _, _, hl, _, _
  | .simple _, _, _, _, hl, _, _ | .f16 _, _, _, _, hl, _, _ | .f32 _, _, _, _, hl, _, _
  | .f64 _, _, _, _, hl, _, _ => .cons hl rfl trivial nofun .nil

theorem items_run (alloc : Bool) : (xs : List WItem) → validAll xs = true → ∀ (a : Nat) (r : List Nat),
    (xs.length ≤ a ∨ r ≠ []) → a + r.length + (encWs xs).length + 1 ≤ U64MAX + 1 + xs.length →
    (alloc = false → (a ≤ 1 ∧ indefInDefs xs = false) ∨ hasIndefs xs = false) →
    TrueRun alloc (skipToksL xs) (a :: r) ((a - xs.length) :: r)
  | [], _, a, r, _, _, _ => .nil
  | x :: xs, hv, a, r, hl, hb, hs => by
    simp only [validAll, Bool.and_eq_true] at hv
    simp only [encWs, List.length_append, List.length_cons] at hb hl ⊢
    have hge := encWs_length_ge xs
    have hpos := encW_length_pos x
    have hs' := fun e => by simpa [indefInDefs, hasIndefs, Bool.or_eq_false_iff] using hs e
    rw [show a - (xs.length + 1) = a - 1 - xs.length by omega]
    exact .append
      (item_run alloc x hv.1 a r (hl.imp_left (by omega)) (by omega)
        fun e => (hs' e).imp (fun p => ⟨p.1, p.2.1⟩) (·.1))
      (items_run alloc xs hv.2 (a - 1) r (hl.imp_left (by omega)) (by omega)
        fun e => (hs' e).imp (fun p => ⟨by omega, p.2.2⟩) (·.2))
end

theorem TrueRun.sim_prefix {alloc : Bool} {c : SkipSt} {ts : List Tok} {bs rest : Bytes} {T T' : List Nat}
    (hrun : TrueRun alloc ts T T') (hr : Steps armTok ts (bs ++ rest) rest) (hc : BuildRel alloc c T) :
    ∃ k c', k ≤ bs.length ∧ SkipSteps alloc k c (bs ++ rest) c' rest ∧ BuildRel alloc c' T' := by
  obtain ⟨c', hs, hc'⟩ := hrun.sim hr hc
  have := hr.length_le armTok_consumes
  exact ⟨_, c', by simp at this; omega, hs, hc'⟩

theorem items_steps : (xs : List WItem) → validAll xs = true → ∀ (c : SkipSt) (a : Nat) (r : List Nat) (rest : Bytes),
    Rel c (a :: r) → (xs.length ≤ a ∨ r ≠ []) →
    a + r.length + (encWs xs).length + 1 ≤ U64MAX + 1 + xs.length →
    Reaches c (encWs xs) rest ((a - xs.length) :: r) := fun xs hv c a r rest hrel hl hb => by
  obtain ⟨k, c', hk, hs, hr⟩ := (items_run true xs hv a r hl hb (by simp)).sim_prefix (reads_items xs hv rest)
    ⟨hrel, by simp⟩
  exact ⟨k, c', hk, hs, hr.1⟩

theorem skip_of_run {alloc : Bool} {ts : List Tok} {bs rest : Bytes} (hrun : TrueRun alloc ts [1] [0])
    (hr : Steps armTok ts bs rest) : Dec.skip alloc bs = .ok () rest := by
  obtain ⟨c', hs, hc'⟩ := hrun.sim hr ⟨rel_init, fun _ => NoStack.init⟩
  have := hr.length_le armTok_consumes
  unfold Dec.skip
  simp only [Dec.bind_run, Dec.remaining]
  rw [show bs.length + 2 = (bs.length - ts.length) + 1 + 1 + ts.length by omega, hs, skipLoop_done]
  cases alloc with
  | true => exact rel_done hc'.1
  | false => rw [running_false_eq _ (hc'.2 rfl).st]; exact rel_done hc'.1

/-- `hlen` holds of every Rust slice (`len ≤ isize::MAX < U64MAX`); `C06.FitsSlice` (Thm/C06.lean) says what goes
    wrong without it. -/
theorem Dec.skip_encW (w : WItem) (rest : Bytes) (hv : w.valid = true)
    (hlen : (encW w).length ≤ U64MAX) :
    Dec.skip true (encW w ++ rest) = .ok () rest :=
  skip_of_run (item_run true w hv 1 [] (Or.inl (by omega)) (by simp; omega) (by simp)) (reads_item w hv rest)

/-- `skip` agrees with full decoding: wherever the reference parser finds one well-formed item at the start of the
    input (a Rust slice, so shorter than `2^64`), `skip` succeeds and ends exactly where the parser ends. -/
theorem Dec.skip_agrees_parse (bs : Bytes) (w : WItem) (r : Bytes) (h : parse bs = some (w, r))
    (hlen : bs.length ≤ U64MAX) : Dec.skip true bs = .ok () r := by
  obtain ⟨hv, he⟩ := parse_sound bs w r h
  subst he
  exact Dec.skip_encW w r hv (by simp at hlen; omega)

theorem skipLoop_false_stack (st : List (Option Nat)) (f : Nat) : ∀ (nr ir : Nat) (bs : Bytes),
    skipLoop false f ⟨nr, ir, st⟩ bs = skipLoop false f ⟨nr, ir, []⟩ bs := by
  induction f with
  | zero => intros; rfl
  | succ f ih =>
    intro nr ir bs
    rw [skipLoop, skipLoop, skipArm_eq, skipArm_eq]
    simp only [skipRunning, Bool.false_and, Bool.or_false]
    split
    · rfl
    · simp only [Dec.bind_run]
      cases armTok bs with
      | ok t r =>
        cases t <;> simp [applyTok, defSt, skipDefinite, indefSt, brkSt, skipPost, ih, Dec.bind_run]
        by_cases h2 : nr < 2 <;> simp [h2, ih, Dec.bind_run]
      | err e r => rfl
      | panic => rfl

/-- the elements of an indefinite container: `nrounds` stays 0. -/
theorem nids_steps : (xs : List WItem) → validAll xs = true → indefInDefs xs = false →
    ∀ (ir : Nat) (st : List (Option Nat)) (rest : Bytes), 1 ≤ ir →
    ir + (encWs xs).length ≤ U64MAX →
    ∃ k, k ≤ (encWs xs).length ∧ SkipSteps false k ⟨0, ir, st⟩ (encWs xs ++ rest) ⟨0, ir, st⟩ rest :=
  fun xs hv hi ir st rest hir hb => by
  have hge := encWs_length_ge xs
  obtain ⟨k, c', hk, hs, hr, na⟩ := TrueRun.sim_prefix (c := ⟨0, ir, []⟩)
    (items_run false xs hv 0 (List.replicate ir 0)
      (Or.inr (by cases ir <;> simp_all [List.replicate_succ])) (by simp; omega) (fun _ => Or.inl ⟨by omega, hi⟩))
    (reads_items xs hv rest)
    ⟨⟨fun _ => rfl, by rw [segs_nil]; exact Le_refl _ _⟩, fun _ => ⟨rfl, Nat.zero_le _⟩⟩
  obtain ⟨nr', ir', st'⟩ := c'
  obtain rfl : st' = [] := (na rfl).st
  have hle := hr.le
  rw [segs_nil, Nat.zero_sub] at hle
  obtain rfl : nr' = 0 := by have := Le_head_le hle; omega
  obtain rfl : ir' = ir := by simpa using Le_length hle
  refine ⟨k, hk, fun f => ?_⟩
  rw [skipLoop_false_stack, hs f, ← skipLoop_false_stack]

end Minicbor
