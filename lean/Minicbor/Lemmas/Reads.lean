/-
  `Reads m c a` is the form of the read-back facts of the serde and derive regions ("decoding the encoding,
  followed by arbitrary bytes, gives the value and those bytes"; C01, C04 and C05 spell the quantifier out); such
  facts compose along `>>=` as the byte strings compose along `++`.  `Peeks` is the same for actions that consume nothing (`datatype`, `current`), `ReadsList` for the
  element loops.  At the end, the laws of the decoder monad and the converse: what a successful run was made of.
-/
import Minicbor.Prelude

namespace Minicbor

def Reads (m : Dec α) (c : Bytes) (a : α) : Prop := ∀ rest, m (c ++ rest) = .ok a rest

def Peeks (m : Dec α) (c : Bytes) (a : α) : Prop := ∀ rest, m (c ++ rest) = .ok a (c ++ rest)

theorem Reads.ret (a : α) : Reads (pure a) [] a := fun _ => rfl

theorem Reads.bind {m : Dec α} {f : α → Dec β} {c c' : Bytes} {a : α} {b : β} (h : Reads m c a) (h' : Reads (f a) c' b) :
    Reads (m >>= f) (c ++ c') b := fun rest => by
  rw [List.append_assoc, Dec.bind_ok _ _ _ _ _ (h _)]; exact h' rest

theorem Reads.bind_nil {m : Dec α} {f : α → Dec β} {c : Bytes} {a : α} {b : β} (h : Reads m c a) (h' : Reads (f a) [] b) :
    Reads (m >>= f) c b := by
  simpa using h.bind h'

theorem Reads.map {m : Dec α} {c : Bytes} {a : α} (h : Reads m c a) (g : α → β) : Reads (m >>= fun x => pure (g x)) c (g a) :=
  fun rest => by rw [Dec.bind_ok _ _ _ _ _ (h rest)]; rfl

theorem Reads.peek {p : Dec α} {f : α → Dec β} {c : Bytes} {x : α} {b : β} (hp : Peeks p c x) (h : Reads (f x) c b) :
    Reads (p >>= f) c b := fun rest => by
  rw [Dec.bind_ok _ _ _ _ _ (hp rest)]; exact h rest

theorem Peeks.bind {p : Dec α} {f : α → Dec β} {c : Bytes} {x : α} {b : β} (hp : Peeks p c x) (h : Peeks (f x) c b) :
    Peeks (p >>= f) c b := fun rest => by
  rw [Dec.bind_ok _ _ _ _ _ (hp rest)]; exact h rest

theorem Peeks.append {m : Dec α} {c : Bytes} {a : α} (h : Peeks m c a) (d : Bytes) : Peeks m (c ++ d) a := fun rest => by
  rw [List.append_assoc]; exact h _

/-- an indefinite-length container, as `Reads` composes it. -/
theorem indef_frame (a : UInt8) (bs rest : Bytes) : a :: (bs ++ 0xff :: rest) = ([a] ++ (bs ++ [0xff])) ++ rest := by simp

def NoBrk (c : Bytes) : Prop := ∃ b tl, c = b :: tl ∧ b ≠ 0xff

theorem NoBrk.append {c : Bytes} (h : NoBrk c) (d : Bytes) : NoBrk (c ++ d) := by
  obtain ⟨b, tl, rfl, hb⟩ := h
  exact ⟨b, tl ++ d, rfl, hb⟩

theorem NoBrk.current {c : Bytes} (h : NoBrk c) : ∃ b, Peeks Dec.current c b ∧ (b == 0xff) = false := by
  obtain ⟨b, tl, rfl, hb⟩ := h
  exact ⟨b, fun _ => rfl, by simpa using hb⟩

theorem NoBrk.length_pos {c : Bytes} (h : NoBrk c) : 0 < c.length := by
  obtain ⟨b, tl, rfl, _⟩ := h
  exact Nat.succ_pos _

/- The element loops of `ArrayIter` / `MapIter`.  The model has four copies of them
   (`Dec.repeatN` / `Dec.untilBreak` for the built-in codecs, `Serde.repeatN` / `Serde.untilBreak`,
   `Derive.vecLoopN` / `Derive.vecLoopI`, and `Dec.chunkLoop`, the until-break loop over the chunks of an
   indefinite-length string), so the two lemmas speak of any `loop` with the defining
   equations (each copy satisfies them by `rfl`).  The serde, derive and chunk copies are
   instances (Lemmas/SerdeLoops.lean, Lemmas/DeriveReframe.lean, `chunkLoop_sound` of Lemmas/Accessors.lean);
   the built-in copy is related to its specification directly (`repeatN_spec` / `untilBreak_spec`,
   Lemmas/C04Spec.lean; the list cases of `roundtrip_all`, Lemmas/TypesRoundtrip.lean). -/

inductive ReadsList (m : Dec β) : Bytes → List β → Prop
  | nil : ReadsList m [] []
  | cons {c bs : Bytes} {y : β} {ys : List β} : Reads m c y → NoBrk c → ReadsList m bs ys → ReadsList m (c ++ bs) (y :: ys)

theorem ReadsList.length_le {m : Dec β} {bs : Bytes} {ys : List β} (h : ReadsList m bs ys) : ys.length ≤ bs.length := by
  induction h with
  | nil => exact Nat.le_refl _
  | cons _ hnb _ ih =>
    have := hnb.length_pos
    simp only [List.length_cons, List.length_append]; omega

theorem ReadsList.counted {m : Dec β} {loop : Nat → Dec (List β)} (h0 : loop 0 = pure [])
    (hs : ∀ n, loop (n + 1) = (do let x ← m; let xs ← loop n; pure (x :: xs)))
    {bs : Bytes} {ys : List β} (h : ReadsList m bs ys) : Reads (loop ys.length) bs ys := by
  induction h with
  | nil => exact h0 ▸ Reads.ret []
  | cons hc _ _ ih => exact hs _ ▸ hc.bind (ih.map _)

theorem ReadsList.untilBreak {m : Dec β} {loop : Nat → Dec (List β)}
    (hs : ∀ f, loop (f + 1) = (do
      let b ← Dec.current
      if b == 0xff then do let _ ← Dec.read; pure [] else do let x ← m; let xs ← loop f; pure (x :: xs)))
    {bs : Bytes} {ys : List β} (h : ReadsList m bs ys) :
    ∀ fuel, ys.length < fuel → Reads (loop fuel) (bs ++ [0xff]) ys := by
  induction h with
  | nil =>
    intro fuel hf rest
    obtain ⟨f, rfl⟩ : ∃ f, fuel = f + 1 := ⟨fuel - 1, by omega⟩
    rw [hs]; rfl
  | cons hc hnb _ ih =>
    intro fuel hf
    obtain ⟨f, rfl⟩ : ∃ f, fuel = f + 1 := ⟨fuel - 1, by omega⟩
    obtain ⟨b, hcur, hne⟩ := hnb.current
    rw [hs, List.append_assoc]
    refine Reads.peek (hcur.append _) ?_
    simp only [hne, Bool.false_eq_true, if_false]
    exact hc.bind ((ih f (by simpa using hf)).map _)

theorem Dec.bind_assoc (x : Dec α) (f : α → Dec β) (g : β → Dec γ) :
    x >>= f >>= g = x >>= fun a => f a >>= g := by
  funext bs
  simp only [Dec.bind_run]
  cases x bs <;> rfl

theorem Dec.pure_bind (a : α) (f : α → Dec β) : pure a >>= f = f a := rfl

theorem ite_bind' {c : Prop} [Decidable c] (a b : Dec α) (f : α → Dec β) :
    (if c then a else b) >>= f = if c then a >>= f else b >>= f := by
  split <;> rfl

theorem Dec.pure_ok_inv {a b : α} {bs r : Bytes} (h : (pure a : Dec α) bs = .ok b r) : b = a ∧ r = bs := by
  cases h; exact ⟨rfl, rfl⟩

theorem Dec.map_ok_inv {m : Dec α} {g : α → β} {bs r : Bytes} {b : β}
    (h : (m >>= fun a => (pure (g a) : Dec β)) bs = .ok b r) : ∃ a, m bs = .ok a r ∧ b = g a := by
  obtain ⟨a, r', h1, h2⟩ := Dec.bind_ok_inv h
  obtain ⟨rfl, rfl⟩ := Dec.pure_ok_inv h2
  exact ⟨a, h1, rfl⟩

theorem Dec.read_ok_inv {bs r : Bytes} {x : UInt8} (h : Dec.read bs = .ok x r) : bs = x :: r := by
  cases bs with
  | nil => cases h
  | cons y tl => cases h; rfl

theorem Dec.read_bind_ok_inv {f : UInt8 → Dec β} {bs r : Bytes} {b : β}
    (h : (Dec.read >>= f) bs = .ok b r) : ∃ x tl, bs = x :: tl ∧ f x tl = .ok b r := by
  obtain ⟨x, tl, h1, h2⟩ := Dec.bind_ok_inv h
  exact ⟨x, tl, Dec.read_ok_inv h1, h2⟩

theorem Dec.readSlice_ok_inv {k : Nat} {bs xs r : Bytes} (h : Dec.readSlice k bs = .ok xs r) :
    xs.length = k ∧ bs = xs ++ r := by
  unfold Dec.readSlice at h
  split at h
  · cases h
    exact ⟨by simp; omega, by simp⟩
  · cases h

end Minicbor
