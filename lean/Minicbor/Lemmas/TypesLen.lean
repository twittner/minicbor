/-
  Lengths: what every `Encoder` method writes has exactly the length the hand-written width
  tables of the `CborLen` impls predict; the induction for C07 over the built-in codecs.
-/
import Minicbor.Lemmas.TypesInduct
import Minicbor.Token
import Minicbor.Thm.C03
import Minicbor.Lemmas.HeadLen

namespace Minicbor

/- `IntKind.lenU8 … lenU64` and `IntKind.len` unfold to the terms `Derive.u8Len … u64Len` and
   `Derive.IntK.len` unfold to, so the head lengths are those of Lemmas/HeadLen.lean. -/
theorem typeLen_length (t x : Nat) : (Enc.typeLen t x).length = IntKind.lenU64 x := Derive.typeLen_length t x

theorem encU8_length (x : Nat) : (Enc.u8 x).length = IntKind.lenU8 x := Derive.u8_length x
theorem encU16_length (x : Nat) : (Enc.u16 x).length = IntKind.lenU16 x := Derive.u16_length x
theorem encU32_length (x : Nat) : (Enc.u32 x).length = IntKind.lenU32 x := Derive.u32_length x
theorem encU64_length (x : Nat) : (Enc.u64 x).length = IntKind.lenU64 x := Derive.u64_length x
theorem negArms_length (x : Nat) : (Enc.negArms x).length = IntKind.lenU64 x :=
  typeLen_length Enc.SIGNED x

theorem encI8_length (v : Int) : (Enc.i8 v).length = IntKind.len .i8 v := Derive.int_length .i8 v
theorem encI16_length (v : Int) : (Enc.i16 v).length = IntKind.len .i16 v := Derive.int_length .i16 v
theorem encI32_length (v : Int) : (Enc.i32 v).length = IntKind.len .i32 v := Derive.int_length .i32 v
theorem encI64_length (v : Int) : (Enc.i64 v).length = IntKind.len .i64 v := Derive.int_length .i64 v
theorem encInt_length (v : Int) : (IntKind.enc .int v).length = IntKind.len .int v := by
  simp only [IntKind.enc, IntKind.len, Enc.int]; split
  · simp [*, encU64_length]
  · simp [*, negArms_length]

theorem IntKind.enc_length (k : IntKind) (v : Int) (h : k.inRange v = true) :
    (k.enc v).length = k.len v := by
  cases k
  case i8 => exact encI8_length v
  case i16 => exact encI16_length v
  case i32 => exact encI32_length v
  case i64 => exact encI64_length v
  case int => exact encInt_length v
  all_goals
    have h0 : v ≥ 0 := by
      simp only [IntKind.inRange, IntKind.ty, Dec.IntTy.lo, Dec.IntTy.u8, Dec.IntTy.u16, Dec.IntTy.u32,
        Dec.IntTy.u64, Bool.and_eq_true] at h
      simpa using h.1
    simp [IntKind.enc, IntKind.len, h0, encU8_length, encU16_length, encU32_length, encU64_length]

theorem lenU64_small {n : Nat} (h : n ≤ 23) : IntKind.lenU64 n = 1 := by simp [IntKind.lenU64, h]
theorem lenU32_small {n : Nat} (h : n ≤ 23) : IntKind.lenU32 n = 1 := by simp [IntKind.lenU32, h]

theorem Token.len_enc (tk : Token) : tk.len = tk.enc.length := by
  cases tk <;>
    simp only [Token.len, Token.enc, encU8_length, encU16_length, encU32_length, encU64_length, encI8_length,
      encI16_length, encI32_length, encI64_length, encInt_length, Enc.bytes, Enc.str, Enc.array, Enc.map,
      Enc.tag, typeLen_length, List.length_append]
  case bool b => cases b <;> rfl
  case f16 | f32 | f64 => simp [Enc.f16, Enc.f32, Enc.f64]
  case simple n => unfold Enc.simple; split <;> rfl
  all_goals rfl

theorem len_all :
    (∀ t v bs, encodeT t v = some bs → t.SmallArity = true → lenT t v = bs.length) ∧
    (∀ k v kvs bs, encodeMap k v kvs = some bs → k.SmallArity = true ∧ v.SmallArity = true →
      lenMap k v kvs = bs.length) ∧
    (∀ ts vs bs, encodeTup ts vs = some bs → Ty.allL Ty.arityNode ts = true → lenTup ts vs = bs.length) ∧
    (∀ t vs bs, encodeList t vs = some bs → t.SmallArity = true → lenList t vs = bs.length) := by
  have hA : ∀ n, (Enc.array n).length = IntKind.lenU64 n := fun n => typeLen_length _ n
  apply encodeT_ok_induct
  case int => intro k v h; exact (IntKind.enc_length k v h).symm
  case nz => intro k v h _; exact (IntKind.enc_length k v h).symm
  case bool => intro b; cases b <;> rfl
  case char => intro v _ _; exact (encU32_length _).symm
  case f32 | f64 | unit | skipUnit | optNone | mapNil | tupNil | listNil => intros; rfl
  case str => intro b _; exact (congrArg (· + b.length) (typeLen_length _ _)).symm.trans (List.length_append ..).symm
  case bytes | barr => intro b; exact (congrArg (· + b.length) (typeLen_length _ _)).symm.trans (List.length_append ..).symm
  case cstr =>
    intro b _
    show IntKind.lenU64 (b.length + 1) + (b.length + 1) = _
    rw [Enc.bytes, List.length_append, typeLen_length, List.length_append]; rfl
  case optSome => intro t v bs _ _ ih; exact ih
  case seq | arr =>
    intro t vs b _ ih
    show IntKind.lenU64 vs.length + lenList t vs = _
    rw [List.length_append, hA, ih]
  case tup | fields =>
    intro ts vs b ha _ ih
    show 1 + lenTup ts vs = _
    rw [List.length_append, hA, ih, lenU64_small (of_decide_eq_true ha)]
  case map =>
    intro k v kvs b _ ih
    show IntKind.lenU64 (kvs.length / 2) + lenMap k v kvs = _
    rw [List.length_append, Enc.map, typeLen_length, ih]
  case tag => intro v _ _ _; exact (typeLen_length _ _).symm
  case tagged =>
    intro n t v b _ _ ih
    show IntKind.lenU64 n + lenT t v = _
    rw [List.length_append, Enc.tag, typeLen_length, ih]
  case «enum» =>
    intro ts i t v b ha hi _ ih
    have hlt : i < ts.length := (List.getElem?_eq_some_iff.1 hi).1
    have hts : ts.length ≤ 24 := of_decide_eq_true ha
    have e : lenT (.enum ts) (.variant i v) = 1 + (1 + lenT t v) :=
      show (match ts[i]? with | some t => 1 + (1 + lenT t v) | none => 0) = _ by rw [hi]
    rw [e, List.length_append, List.length_append, hA, encU32_length, ih, lenU64_small (n := 2) (by decide),
      lenU32_small (by omega), Nat.add_assoc]
  case duration | systime =>
    intro s n _ _ _ _
    show 1 + IntKind.lenU64 s.toNat + IntKind.lenU32 n.toNat = _
    rw [Enc.secsNanos, List.length_append, List.length_append, hA, encU32_length, encU64_length,
      lenU64_small (n := 2) (by decide)]
  case mapCons =>
    intro k v x y kvs a b c _ _ _ iha ihb ihc
    show lenT k x + lenT v y + lenMap k v kvs = _
    rw [List.length_append, List.length_append, iha, ihb, ihc]
  case tupCons =>
    intro t ts v vs a b _ _ iha ihb
    show lenT t v + lenTup ts vs = _
    rw [List.length_append, iha, ihb]
  case listCons =>
    intro t v vs a b _ _ iha ihb
    show lenT t v + lenList t vs = _
    rw [List.length_append, iha, ihb]

end Minicbor
