/-
  Lemmas for C17 / C18: the wire tree `toW v` that `ser v` writes.  `ser_writes`: the bytes
  are its encoding, it is well formed, and `deserialize_any` accepts it whole; so the `Content`
  buffered for `ser v` is `cv v`.
-/
import Minicbor.Lemmas.SerdeStruct
import Minicbor.Lemmas.SerdeAny

namespace Minicbor.C17
open Minicbor.Serde Minicbor.Dec

def intW (v : Int) : WItem :=
  if v ≥ 0 then .uint (prefWidth v.toNat) v.toNat else .nint (prefWidth (-1 - v).toNat) (-1 - v).toNat

def textW (s : Bytes) : WItem := .text (prefWidth s.length) s

mutual
def toW : SVal → WItem
  | .bool b => .simple (if b then 21 else 20)
  | .int _ v => intW v
  | .f32 b => .f32 b
  | .f64 b => .f64 b
  | .char c => .uint (prefWidth c) c
  | .str s => textW s
  | .bytes b => .bytes (prefWidth b.length) b
  | .none => .simple 22
  | .some v => toW v
  | .unit => .array .w0 []
  | .unitStruct => .array .w0 []
  | .unitVariant n => textW n
  | .newtypeStruct v => toW v
  | .newtypeVariant n v => .map .w0 [textW n, toW v]
  | .seq known xs => if known then .array (prefWidth xs.length) (toWs xs) else .arrayI (toWs xs)
  | .tuple xs => .array (prefWidth xs.length) (toWs xs)
  | .tupleStruct xs => .array (prefWidth xs.length) (toWs xs)
  | .tupleVariant n xs => .map .w0 [textW n, .array (prefWidth xs.length) (toWs xs)]
  | .map known kvs => if known then .map (prefWidth (kvs.length / 2)) (toWs kvs) else .mapI (toWs kvs)
  | .struct kvs => .map (prefWidth (kvs.length / 2)) (toWs kvs)
  | .structVariant n kvs => .map .w0 [textW n, .map (prefWidth (kvs.length / 2)) (toWs kvs)]
def toWs : List SVal → List WItem
  | [] => []
  | x :: xs => toW x :: toWs xs
end

mutual
/-- the value is in the range of its Rust type: integers within their kind, floats within
    their width, chars scalar values, strings valid UTF-8, lengths below 2^64, maps and structs
    with whole entries. -/
def vok : SVal → Bool
  | .bool _ => true
  | .int k v => k.lo ≤ v && v ≤ k.hi
  | .f32 b => b < 4294967296
  | .f64 b => b < U64
  | .char c => isScalar c
  | .str s => nameOk s
  | .bytes b => b.length < U64
  | .none => true
  | .some v => vok v
  | .unit => true
  | .unitStruct => true
  | .unitVariant n => nameOk n
  | .newtypeStruct v => vok v
  | .newtypeVariant n v => nameOk n && vok v
  | .seq _ xs => xs.length < U64 && oks xs
  | .tuple xs => xs.length < U64 && oks xs
  | .tupleStruct xs => xs.length < U64 && oks xs
  | .tupleVariant n xs => nameOk n && xs.length < U64 && oks xs
  | .map _ kvs => kvs.length % 2 == 0 && kvs.length / 2 < U64 && oks kvs
  | .struct kvs => kvs.length % 2 == 0 && kvs.length / 2 < U64 && oks kvs
  | .structVariant n kvs => nameOk n && kvs.length % 2 == 0 && kvs.length / 2 < U64 && oks kvs
def oks : List SVal → Bool
  | [] => true
  | x :: xs => vok x && oks xs
end

theorem toWs_length : (xs : List SVal) → (toWs xs).length = xs.length
  | [] => rfl
  | _ :: xs => by simp [toWs, toWs_length xs]

structure Writes (bs : Bytes) (w : WItem) : Prop where
  eq : bs = encW w
  valid : w.valid = true
  any : anyOk w = true

structure WritesAll (bs : Bytes) (ws : List WItem) : Prop where
  eq : bs = encWs ws
  valid : validAll ws = true
  any : anyOks ws = true

theorem Writes.text (n : Bytes) (h : nameOk n = true) : Writes (Enc.str n) (textW n) := by
  simp only [nameOk, Bool.and_eq_true, decide_eq_true_eq] at h
  exact ⟨C03.str_pref n h.2, by simp [textW, WItem.valid, prefWidth_fits _ h.2, h.1], rfl⟩

theorem Writes.array {bs : Bytes} {ws : List WItem} {n : Nat} (hn : ws.length = n) (h : WritesAll bs ws) (hl : n < U64) :
    Writes (Enc.array n ++ bs) (.array (prefWidth n) ws) := by
  subst hn
  exact ⟨by rw [C03.array_pref _ hl, h.eq]; rfl, by simp [WItem.valid, prefWidth_fits _ hl, h.valid], h.any⟩

theorem Writes.arrayI {bs : Bytes} {ws : List WItem} (h : WritesAll bs ws) :
    Writes (Enc.beginArray ++ (bs ++ Enc.end)) (.arrayI ws) :=
  ⟨by rw [h.eq]; rfl, h.valid, h.any⟩

theorem Writes.map {bs : Bytes} {ws : List WItem} {n : Nat} (hn : ws.length = n) (h : WritesAll bs ws) (he : n % 2 = 0)
    (hl : n / 2 < U64) : Writes (Enc.map (n / 2) ++ bs) (.map (prefWidth (n / 2)) ws) := by
  subst hn
  exact ⟨by rw [C03.map_pref _ hl, h.eq]; rfl, by simp [WItem.valid, prefWidth_fits _ hl, h.valid, he], h.any⟩

theorem Writes.mapI {bs : Bytes} {ws : List WItem} {n : Nat} (hn : ws.length = n) (h : WritesAll bs ws) (he : n % 2 = 0) :
    Writes (Enc.beginMap ++ (bs ++ Enc.end)) (.mapI ws) :=
  ⟨by rw [h.eq]; rfl, by simp [WItem.valid, h.valid, hn, he], h.any⟩

theorem Writes.variant {bs : Bytes} {w : WItem} (n : Bytes) (hn : nameOk n = true) (h : Writes bs w) :
    Writes (Enc.map 1 ++ (Enc.str n ++ bs)) (.map .w0 [textW n, w]) := by
  have ht := Writes.text n hn
  refine ⟨?_, by simp [WItem.valid, validAll, ht.valid, h.valid, Width.fits], by simp [anyOk, anyOks, ht.any, h.any]⟩
  rw [ht.eq, h.eq]; simp [encW, encWs]; rfl


theorem Writes.int (k : IntKind) (v : Int) (h1 : k.lo ≤ v) (h2 : v ≤ k.hi) : Writes (encInt k v) (intW v) := by
  have hb := kind_bounds k
  rw [encInt_pref k v h1 h2]
  unfold C03.intItem intW
  split
  · exact ⟨rfl, prefWidth_fits _ (by omega), rfl⟩
  · exact ⟨rfl, prefWidth_fits _ (by omega), by simp [anyOk]; omega⟩

mutual
theorem ser_writes : (v : SVal) → vok v = true → Writes (ser v) (toW v)
  | .bool b, _ => by cases b <;> exact ⟨rfl, rfl, rfl⟩
  | .int k v, h => by
    simp only [vok, Bool.and_eq_true, decide_eq_true_eq] at h
    exact Writes.int k v h.1 h.2
  | .f32 b, h => ⟨rfl, h, rfl⟩
  | .f64 b, h => ⟨rfl, h, rfl⟩
  | .char c, h => by
    have : c < 4294967296 := by simp [vok, isScalar] at h; omega
    exact ⟨C03.char_pref c this, prefWidth_fits c (by omega), rfl⟩
  | .str s, h => Writes.text s h
  | .bytes b, h => by
    simp only [vok, decide_eq_true_eq] at h
    exact ⟨C03.bytes_pref b h, prefWidth_fits _ h, rfl⟩
  | .none, _ => ⟨rfl, rfl, rfl⟩
  | .some v, h => ser_writes v h
  | .unit, _ => ⟨rfl, rfl, rfl⟩
  | .unitStruct, _ => ⟨rfl, rfl, rfl⟩
  | .unitVariant n, h => Writes.text n h
  | .newtypeStruct v, h => ser_writes v h
  | .newtypeVariant n v, h => by
    simp only [vok, Bool.and_eq_true] at h
    exact Writes.variant n h.1 (ser_writes v h.2)
  | .seq known xs, h => by
    simp only [vok, Bool.and_eq_true, decide_eq_true_eq] at h
    cases known
    · exact Writes.arrayI (sers_writes xs h.2)
    · exact Writes.array (toWs_length xs) (sers_writes xs h.2) h.1
  | .tuple xs, h => by
    simp only [vok, Bool.and_eq_true, decide_eq_true_eq] at h
    exact Writes.array (toWs_length xs) (sers_writes xs h.2) h.1
  | .tupleStruct xs, h => by
    simp only [vok, Bool.and_eq_true, decide_eq_true_eq] at h
    exact Writes.array (toWs_length xs) (sers_writes xs h.2) h.1
  | .tupleVariant n xs, h => by
    simp only [vok, Bool.and_eq_true, decide_eq_true_eq] at h
    exact Writes.variant n h.1.1 (Writes.array (toWs_length xs) (sers_writes xs h.2) h.1.2)
  | .map known kvs, h => by
    simp only [vok, Bool.and_eq_true, decide_eq_true_eq, beq_iff_eq] at h
    cases known
    · exact Writes.mapI (toWs_length kvs) (sers_writes kvs h.2) h.1.1
    · exact Writes.map (toWs_length kvs) (sers_writes kvs h.2) h.1.1 h.1.2
  | .struct kvs, h => by
    simp only [vok, Bool.and_eq_true, decide_eq_true_eq, beq_iff_eq] at h
    exact Writes.map (toWs_length kvs) (sers_writes kvs h.2) h.1.1 h.1.2
  | .structVariant n kvs, h => by
    simp only [vok, Bool.and_eq_true, decide_eq_true_eq, beq_iff_eq] at h
    exact Writes.variant n h.1.1.1 (Writes.map (toWs_length kvs) (sers_writes kvs h.2) h.1.1.2 h.1.2)
theorem sers_writes : (xs : List SVal) → oks xs = true → WritesAll (sers xs) (toWs xs)
  | [], _ => ⟨rfl, rfl, rfl⟩
  | x :: xs, h => by
    simp only [oks, Bool.and_eq_true] at h
    have hx := ser_writes x h.1
    have hs := sers_writes xs h.2
    exact ⟨by simp only [sers, toWs, encWs, hx.eq, hs.eq], by simp [toWs, validAll, hx.valid, hs.valid],
      by simp [toWs, anyOks, hx.any, hs.any]⟩
end


theorem ser_eq_encW : (v : SVal) → vok v = true → ser v = encW (toW v) := fun v h => (ser_writes v h).eq
theorem sers_eq_encWs : (xs : List SVal) → oks xs = true → sers xs = encWs (toWs xs) := fun xs h => (sers_writes xs h).eq
theorem toW_valid : (v : SVal) → vok v = true → (toW v).valid = true := fun v h => (ser_writes v h).valid
theorem toWs_valid : (xs : List SVal) → oks xs = true → validAll (toWs xs) = true := fun xs h => (sers_writes xs h).valid
theorem toW_anyOk : (v : SVal) → vok v = true → anyOk (toW v) = true := fun v h => (ser_writes v h).any
theorem toWs_anyOk : (xs : List SVal) → oks xs = true → anyOks (toWs xs) = true := fun xs h => (sers_writes xs h).any

theorem ser_noBrk (v : SVal) (h : vok v = true) : NoBrk (ser v) :=
  ser_eq_encW v h ▸ encW_noBrk _ (toW_valid v h)

theorem noBreak_of_oks : (xs : List SVal) → oks xs = true → NoBreak xs
  | [], _, _, hx => nomatch hx
  | y :: ys, h, x, hx => by
    simp only [oks, Bool.and_eq_true] at h
    rcases List.mem_cons.mp hx with rfl | hx'
    · exact ser_noBrk x h.1
    · exact noBreak_of_oks ys h.2 x hx'

/-- serialises as `null`: `None`, possibly under `Some` / transparent newtype wrappers. -/
def nullLike : SVal → Bool
  | .none => true
  | .some v => nullLike v
  | .newtypeStruct v => nullLike v
  | _ => false

theorem toW_null : (v : SVal) → toW v = .simple 22 → nullLike v = true
  | .none, _ => rfl
  | .some v, h | .newtypeStruct v, h => toW_null v h
  | .bool b, h => by cases b <;> cases h
  | .int _ v, h => by unfold toW intW at h; split at h <;> cases h
  | .seq k _, h | .map k _, h => by cases k <;> cases h
  | .f32 _, h | .f64 _, h | .char _, h | .str _, h | .bytes _, h | .unit, h | .unitStruct, h | .unitVariant _, h
  | .newtypeVariant _ _, h | .tuple _, h | .tupleStruct _, h | .tupleVariant _ _, h | .struct _, h | .structVariant _ _, h => nomatch h

theorem datatype_not_null (v : SVal) (hok : vok v = true) (hn : nullLike v = false) :
    ∃ ty, Peeks datatype (ser v) ty ∧ (ty == CType.null) = false := by
  refine ⟨wType (toW v), ser_eq_encW v hok ▸ datatype_encW _ (toW_valid v hok), ?_⟩
  apply beq_eq_false_iff_ne.mpr
  intro h
  rw [toW_null v ((wType_ne _).2 h)] at hn; cases hn

/-- `deserialize_option` (and `Option::decode`) on `null`. -/
theorem option_none (m : Dec SVal) :
    Reads (do let ty ← datatype; if ty == .null then do skipItem; pure SVal.none else do let v ← m; pure (SVal.some v)) Enc.null .none :=
  Reads.peek (datatype_encW (.simple 22) rfl) (Reads.map skip_null _)

theorem option_some {m : Dec SVal} {v : SVal} (hok : vok v = true) (hn : nullLike v = false) (h : Reads m (ser v) v) :
    Reads (do let ty ← datatype; if ty == .null then do skipItem; pure SVal.none else do let v ← m; pure (SVal.some v)) (ser v)
      (.some v) := by
  obtain ⟨ty, hd, hne⟩ := datatype_not_null v hok hn
  refine Reads.peek hd ?_
  simp only [hne, Bool.false_eq_true, if_false]
  exact h.map _

theorem oks_mkKvs : (ns : List Bytes) → (vs : List SVal) → (∀ n ∈ ns, nameOk n = true) → oks vs = true → oks (mkKvs ns vs) = true
  | [], _, _, _ | _ :: _, [], _, _ => rfl
  | n :: ns, v :: vs, hn, hv => by
    simp only [oks, Bool.and_eq_true] at hv
    simp [mkKvs, oks, vok, hn n (by simp), hv.1, oks_mkKvs ns vs (fun m hm => hn m (by simp [hm])) hv.2]

theorem mkKvs_ok (ns : List Bytes) (vs : List SVal) (hl : ns.length = vs.length) (hn : ∀ n ∈ ns, nameOk n = true)
    (hv : oks vs = true) (hlen : vs.length < U64) :
    (mkKvs ns vs).length % 2 = 0 ∧ (mkKvs ns vs).length / 2 < U64 ∧ oks (mkKvs ns vs) = true := by
  have := mkKvs_length ns vs hl
  exact ⟨by omega, by omega, oks_mkKvs ns vs hn hv⟩

def cv (v : SVal) : Content := cOfW (toW v)
def cvs (xs : List SVal) : List Content := cOfWs (toWs xs)

theorem de_any_on_ser (v : SVal) (h : vok v = true) (rest : Bytes) :
    deAny (ser v ++ rest) = .ok (cOfW (toW v)) rest := by
  rw [ser_eq_encW v h]
  exact deAny_encW (toW v) (toW_valid v h) (toW_anyOk v h) rest

end Minicbor.C17
