/-
  Leaf facts for the built-in codecs on top of Lemmas/ReadsLeaf.lean: `IntKind.enc` writes the
  preferred integer head, so `intAcc` reads it back; `char`; `skip` on a leaf item.

  Then what `Decoder::datatype()` answers on the first byte of the encoding of a value of a built-in
  type other than `Option`: it succeeds (the peek of `type_of` on a one-byte negative head finds
  its argument byte) and the answer is never `Type::Null` — so `Option<T>::decode` takes the
  `Some` branch exactly when the encoder wrote a `Some`.
-/
import Minicbor.Lemmas.TypesInduct
import Minicbor.Thm.C03
import Minicbor.Thm.C04
import Minicbor.Thm.C05
import Minicbor.Lemmas.ReadsLeaf
import Minicbor.Lemmas.SkipView
import Minicbor.Lemmas.ItemStart

namespace Minicbor
open Dec

theorem IntKind.inRange_iff (k : IntKind) (v : Int) :
    k.inRange v = true ↔ k.ty.lo ≤ v ∧ v ≤ k.ty.hi := by
  unfold IntKind.inRange; rw [Bool.and_eq_true, decide_eq_true_eq, decide_eq_true_eq]

theorem IntKind.enc_pref (k : IntKind) (v : Int) (h : k.inRange v = true) :
    k.enc v = encPref (C03.intItem v) := by
  rw [IntKind.inRange_iff] at h
  cases k <;> simp [IntKind.ty, IntTy.lo, IntTy.hi, IntTy.u8, IntTy.u16, IntTy.u32, IntTy.u64,
     IntTy.i8, IntTy.i16, IntTy.i32, IntTy.i64, IntTy.int] at h <;> simp only [IntKind.enc]
  · rw [C03.u8_pref _ (by omega)]; simp [C03.intItem, h.1]
  · rw [C03.u16_pref _ (by omega)]; simp [C03.intItem, h.1]
  · rw [C03.u32_pref _ (by omega)]; simp [C03.intItem, h.1]
  · rw [C03.u64_pref _ (by omega)]; simp [C03.intItem, h.1]
  · exact C03.i8_pref _ (by omega)
  · exact C03.i16_pref _ (by omega)
  · exact C03.i32_pref _ (by omega)
  · exact C03.i64_pref _ (by omega)
  · split
    · rw [C03.int_pref _ _ (by omega)]; simp [C03.intItem, *]
    · rw [C03.int_pref _ _ (by omega)]; simp [C03.intItem, *]

theorem IntKind.max_lt (k : IntKind) : k.ty.max < 18446744073709551616 := by cases k <;> decide

theorem intItem_valid (k : IntKind) (v : Int) (h : k.inRange v = true) :
    (prefTree (C03.intItem v)).valid = true := by
  rw [IntKind.inRange_iff] at h
  have hm := Nat.lt_of_le_of_lt (mag_bounds k.ty v h.1 h.2).2 k.max_lt
  unfold intMag at hm
  unfold C03.intItem
  split <;> simp only [*, if_true, if_false] at hm <;> exact prefWidth_fits _ hm

theorem intAcc_enc (k : IntKind) (v : Int) (rest : Bytes) (h : k.inRange v = true) :
    intAcc k.ty (k.enc v ++ rest) = .ok v rest := by
  have hr := (IntKind.inRange_iff k v).1 h
  exact IntKind.enc_pref k v h ▸ Reads.int k.ty v hr.1 hr.2 k.max_lt rest

theorem intAcc_u32 (n : Nat) (rest : Bytes) (h : n < 4294967296) :
    intAcc .u32 (Enc.u32 n ++ rest) = .ok (n : Int) rest :=
  intAcc_enc .u32 n rest ((IntKind.inRange_iff .u32 n).2 ⟨Int.natCast_nonneg n, Int.ofNat_le.2 (Nat.le_of_lt_succ h)⟩)

theorem intAcc_u64 (n : Nat) (rest : Bytes) (h : n < 18446744073709551616) :
    intAcc .u64 (Enc.u64 n ++ rest) = .ok (n : Int) rest :=
  intAcc_enc .u64 n rest ((IntKind.inRange_iff .u64 n).2 ⟨Int.natCast_nonneg n, Int.ofNat_le.2 (Nat.le_of_lt_succ h)⟩)

theorem isScalar_lt {n : Nat} (h : isScalar n = true) : n < 1114112 := by
  simp [isScalar] at h; omega

theorem char_enc (c : Nat) (rest : Bytes) (h : isScalar c = true) :
    Dec.char (Enc.char c ++ rest) = .ok c rest := by
  have hc := isScalar_lt h
  simp [Dec.char, Enc.char, Dec.bind_run, intAcc_u32 c rest (by omega), h]

theorem datatype_null (rest : Bytes) :
    datatype (Enc.null ++ rest) = .ok .null (Enc.null ++ rest) := rfl

theorem skip_emptyArray (rest : Bytes) : Dec.skip true (Enc.array 0 ++ rest) = .ok () rest :=
  skip_one_tok (t := .defn 0) rfl rfl rfl

/-- on bytes that start like this, `datatype` answers something other than `Null`, whatever follows
    (`datatype_startOk`): not `f6`, and not one of `38..3b` (where `type_of` peeks) alone. -/
def startOk : Bytes → Bool
  | [] => false
  | b :: tl => b.toNat != 0xf6 && (!(0x38 ≤ b.toNat && b.toNat ≤ 0x3b) || !tl.isEmpty)

theorem startOk_cons (b : UInt8) (tl : Bytes) :
    startOk (b :: tl) = true ↔ b.toNat ≠ 0xf6 ∧ (0x38 ≤ b.toNat ∧ b.toNat ≤ 0x3b → tl ≠ []) := by
  cases tl <;> simp [startOk] <;> omega

theorem datatype_startOk (bs rest : Bytes) (h : startOk bs = true) :
    ∃ ty, datatype (bs ++ rest) = .ok ty (bs ++ rest) ∧ ty ≠ .null := by
  match bs, h with
  | b :: tl, h =>
    rw [startOk_cons] at h
    rcases typeOf_cases b (b :: (tl ++ rest)) with ⟨ty, ht, hn, _⟩ | ⟨_, hp, hl⟩
    · exact ⟨ty, ht, fun e => h.1 (hn e)⟩
    · have : tl = [] := List.eq_nil_of_length_eq_zero (by simp at hl; omega)
      exact absurd this (h.2 hp)

/-- the converse of `datatype_startOk`, for bytes on which `datatype` answers without what follows them. -/
theorem startOk_of_datatype {bs : Bytes} {ty : CType} (h : datatype bs = .ok ty bs) (hn : ty ≠ .null) : startOk bs = true := by
  match bs, h with
  | b :: tl, h =>
    refine (startOk_cons b tl).2 ⟨fun e => hn ?_, fun hr e => ?_⟩
    · rw [UInt8.toNat_inj.mp (show b.toNat = (0xf6 : UInt8).toNat from e)] at h
      exact (Res.ok.inj h).1.symm
    · rw [e, datatype_alone b hr] at h; cases h

theorem startOk_append (a b : Bytes) (h : startOk a = true) : startOk (a ++ b) = true := by
  match a, h with
  | x :: tl, h =>
    rw [startOk_cons] at h
    exact (startOk_cons x (tl ++ b)).2 ⟨h.1, fun hp => by simp [h.2 hp]⟩

/-- a head of major type 0..6: its initial byte is below `e0`, and in `38..3b` only together with
    argument bytes. -/
theorem startOk_head (maj n : Nat) (h : maj ≤ 6) : startOk (head maj n) = true := by
  unfold head
  rw [C03.prefWidth_eq]
  repeat' split
  all_goals
    simp only [headW, Width.ai, Width.bytes, be, startOk_cons, u8_toNat_mod, ne_eq, reduceCtorEq,
      not_false_eq_true, implies_true, and_true]
    omega

theorem startOk_typeLen (maj n : Nat) (h : maj ≤ 6) : startOk (Enc.typeLen (maj * 32) n) = true := by
  rw [C03.typeLen_eq_head]; exact startOk_head maj n h

theorem startOk_intEnc (k : IntKind) (v : Int) (h : k.inRange v = true) : startOk (k.enc v) = true := by
  rw [IntKind.enc_pref k v h]
  unfold C03.intItem
  split
  · exact startOk_head 0 _ (by decide)
  · exact startOk_head 1 _ (by decide)

theorem startOk_char (c : Nat) (h : isScalar c = true) : startOk (Enc.char c) = true := by
  rw [Enc.char, C03.u32_pref c (by have := isScalar_lt h; omega)]
  exact startOk_head 0 c (by decide)

theorem startOk_length_pos {bs : Bytes} (h : startOk bs = true) : 1 ≤ bs.length := by
  match bs, h with
  | _ :: _, _ => exact Nat.le_add_left 1 _

/-- What the round-trip, preferred-form and length inductions need to know of the bytes beforehand; the element
    loops write at least one byte per element, so a length below `2^64` bounds every count written into a head. -/
theorem enc_start :
    (∀ t v bs, encodeT t v = some bs → 1 ≤ bs.length ∧ ((∀ t', t ≠ .opt t') → startOk bs = true)) ∧
    (∀ k v kvs bs, encodeMap k v kvs = some bs → kvs.length ≤ bs.length) ∧
    (∀ ts vs bs, encodeTup ts vs = some bs → ts.length = vs.length ∧ vs.length ≤ bs.length) ∧
    (∀ t vs bs, encodeList t vs = some bs → vs.length ≤ bs.length) := by
  have of_start {t : Ty} {bs : Bytes} (h : startOk bs = true) :
      1 ≤ bs.length ∧ ((∀ t', t ≠ .opt t') → startOk bs = true) := ⟨startOk_length_pos h, fun _ => h⟩
  have hA : ∀ n, startOk (Enc.array n) = true := fun n => startOk_typeLen 4 n (by decide)
  have hT : ∀ n, startOk (Enc.tag n) = true := fun n => startOk_typeLen 6 n (by decide)
  have hB : ∀ b, startOk (Enc.bytes b) = true := fun b => startOk_append _ _ (startOk_typeLen 2 _ (by decide))
  apply encodeT_ok_unconditional
  apply encodeT_ok_induct (fun _ => true)
    (P1 := fun t _ bs => 1 ≤ bs.length ∧ ((∀ t', t ≠ .opt t') → startOk bs = true))
    (P2 := fun _ _ kvs bs => kvs.length ≤ bs.length)
    (P3 := fun ts vs bs => ts.length = vs.length ∧ vs.length ≤ bs.length)
    (P4 := fun _ vs bs => vs.length ≤ bs.length)
  case int => intro k v h; exact of_start (startOk_intEnc k v h)
  case nz => intro k v h _; exact of_start (startOk_intEnc k v h)
  case char => intro v _ hs; exact of_start (startOk_char _ hs)
  case bool => intro b; cases b <;> exact of_start rfl
  case f32 | f64 => intros; exact of_start rfl
  case str => intros; exact of_start (startOk_append _ _ (startOk_typeLen 3 _ (by decide)))
  case bytes | barr | cstr => intros; exact of_start (hB _)
  case unit | skipUnit => exact of_start (hA 0)
  case optNone => intro t; exact ⟨Nat.le_refl 1, fun h => absurd rfl (h t)⟩
  case optSome => intro t _ _ _ _ ih; exact ⟨ih.1, fun h => absurd rfl (h t)⟩
  case seq | arr | tup | fields => intros; exact of_start (startOk_append _ _ (hA _))
  case map => intros; exact of_start (startOk_append _ _ (startOk_typeLen 5 _ (by decide)))
  case tag => intros; exact of_start (hT _)
  case tagged => intros; exact of_start (startOk_append _ _ (hT _))
  case «enum» | duration | systime => intros; exact of_start (startOk_append _ _ (startOk_append _ _ (hA _)))
  case mapNil | tupNil | listNil => intros; simp
  case mapCons =>
    intro _ _ _ _ _ _ _ _ _ _ _ iha ihb ihc
    simp only [List.length_append, List.length_cons]; omega
  case tupCons =>
    intro _ _ _ _ _ _ _ _ iha ihb
    simp only [List.length_append, List.length_cons]; omega
  case listCons =>
    intro _ _ _ _ _ _ _ iha ihb
    simp only [List.length_append, List.length_cons]; omega

end Minicbor
