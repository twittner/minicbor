/-
  What the generated decoder does on a wire tree that re-frames the derived encoding (`rf`,
  Reframe.lean) — heads of any width, indefinite-length containers.  Struct / variant bodies go
  through the slot loops of DeriveSlotLoops.lean:
  `fieldsDec_framed` (any reader, any re-framing of the body) leaves the slots as the writer's
  own framing does (`sigmaF`, DeriveCompat.lean); `body_reframed` is the case reader = writer.
  What the predicates of Reframe.lean say of a tree is in DeriveReframeCases.lean.
-/
import Minicbor.Lemmas.DeriveReframeCases
import Minicbor.Lemmas.DeriveCompat
import Minicbor.Lemmas.SkipExact

namespace Minicbor.Derive
open Minicbor.Dec

theorem rf_int_dec (k : IntK) (i : Int) (w : WItem) (rest : Bytes) (hv : k.inRange i = true) (hw : w.valid = true)
    (h : isIntW i w = true) : intAcc k.ty (encW w ++ rest) = .ok i rest := by
  simp only [IntK.inRange, Bool.and_eq_true, decide_eq_true_eq] at hv
  cases w <;> simp [isIntW] at h
  · rename_i wd n
    subst h
    have := (C05.int_accessor_exact k.ty wd false n rest (by simpa [WItem.valid] using hw)).1
      (by simpa [C05.intVal, C05.Representable] using hv)
    simpa [C05.intHead, C05.intVal, encW] using this
  · rename_i wd n
    subst h
    have := (C05.int_accessor_exact k.ty wd true n rest (by simpa [WItem.valid] using hw)).1
      (by simpa [C05.intVal, C05.Representable] using hv)
    simpa [C05.intHead, C05.intVal, encW] using this

theorem uint_u32 (wd : Width) (n : Nat) (rest : Bytes) (hv : (WItem.uint wd n).valid = true) (hn : n < 4294967296) :
    Dec.intAcc .u32 (encW (.uint wd n) ++ rest) = .ok (n : Int) rest := by
  have := C05.int_accessor_ok .u32 wd false n rest (by simpa [WItem.valid] using hv) (by simp) (by
    simp [Dec.IntTy.u32]; omega)
  simpa [encW, C05.intHead, C05.intVal] using this

theorem rf_bool_dec (b : Bool) (w : WItem) (rest : Bytes) (h : isBoolW b w = true) :
    Dec.bool (encW w ++ rest) = .ok b rest := by
  cases w <;> simp [isBoolW] at h
  subst h
  have : encW (.simple (if b then 21 else 20)) = Enc.bool b := by cases b <;> rfl
  rw [this]; exact Reads.bool b rest

theorem rf_text_dec (b : Bytes) (w : WItem) (rest : Bytes) (hw : w.valid = true) (h : isTextW b w = true) :
    Dec.str (encW w ++ rest) = .ok b rest := by
  cases w <;> simp [isTextW] at h
  subst h
  simp only [WItem.valid, Bool.and_eq_true] at hw
  exact C04.str_sound _ _ rest hw.1 hw.2

theorem rf_bytes_dec (b : Bytes) (w : WItem) (rest : Bytes) (hw : w.valid = true) (h : isBytesW b w = true) :
    Dec.bytes (encW w ++ rest) = .ok b rest := by
  cases w <;> simp [isBytesW] at h
  subst h
  exact C04.bytes_sound _ _ rest (by simpa [WItem.valid] using hw)

theorem rf_none_dec (dec : Dec Val) (w : WItem) (rest : Bytes) (h : isNullW w = true) :
    optionDec dec (encW w ++ rest) = .ok .none rest := by
  rw [isNullW_eq w h, encW_null]; exact optionDec_none dec rest

theorem rf_some_dec (dec : Dec Val) (w : WItem) (rest : Bytes) (x : Val) (hw : w.valid = true)
    (hn : isNullW w = false) (hd : dec (encW w ++ rest) = .ok x rest) :
    optionDec dec (encW w ++ rest) = .ok (.some x) rest :=
  optionDec_some dec (encW w) rest x (startOk_encW w hw hn) hd

theorem readsList_rf (dec : Dec Val) (p : Val → WItem → Bool) (f : Val → Val) :
    ∀ (vs : List Val) (xs : List WItem), all2 p vs xs = true → validAll xs = true →
    (∀ v ∈ vs, ∀ x ∈ xs, p v x = true → Reads dec (encW x) (f v)) → ReadsList dec (encWs xs) (vs.map f)
  | [], [], _, _, _ => .nil
  | v :: vs, x :: xs, h, hv, hd => by
    simp only [all2, Bool.and_eq_true] at h
    simp only [validAll, Bool.and_eq_true] at hv
    exact .cons (hd v (by simp) x (by simp) h.1) (encW_noBrk x hv.1)
      (readsList_rf dec p f vs xs h.2 hv.2 fun v' hv' x' hx' => hd v' (by simp [hv']) x' (by simp [hx']))
  | [], _ :: _, h, _, _ => by simp [all2] at h
  | _ :: _, [], h, _, _ => by simp [all2] at h

theorem all2_length {α β : Type} (p : α → β → Bool) : ∀ (as : List α) (bs : List β), all2 p as bs = true → as.length = bs.length
  | [], [], _ => rfl
  | a :: as, b :: bs, h => by
    simp only [all2, Bool.and_eq_true] at h
    simp [all2_length p as bs h.2]
  | [], _ :: _, h => by simp [all2] at h
  | _ :: _, [], h => by simp [all2] at h

theorem rf_vec_dec (dec : Dec Val) (p : Val → WItem → Bool) (f : Val → Val) (vs : List Val) (w : WItem) (rest : Bytes)
    (hw : w.valid = true) (xs : List WItem) (hai : arrItems w = some xs) (h : all2 p vs xs = true)
    (hd : ∀ v ∈ vs, ∀ x, x.valid = true → p v x = true → ∀ r, dec (encW x ++ r) = .ok (f v) r) :
    vecDec dec (encW w ++ rest) = .ok (.list (vs.map f)) rest := by
  have hvall := arrItems_valid hai hw
  have hd' := fun v hv x hx hp => hd v hv x (validAll_mem xs x hvall hx) hp
  have hl := readsList_rf dec p f vs xs h hvall hd'
  have hlen : (vs.map f).length = xs.length := by simp [all2_length p vs xs h]
  rcases arrItems_inv hai with ⟨wd, rfl⟩ | rfl
  · simp only [WItem.valid, Bool.and_eq_true] at hw
    have hN := hl.counted (loop := vecLoopN dec) rfl (fun _ => rfl) rest
    rw [hlen] at hN
    simp only [vecDec, encW, List.append_assoc, Dec.bind_run, C04.array_sound wd xs.length _ hw.1, hN]
    rfl
  · have := hl.untilBreak (loop := vecLoopI dec) (fun _ => rfl) ((encWs xs ++ 0xff :: rest).length + 1)
      (by have := hl.length_le; simp only [List.length_append]; omega) rest
    simp only [List.append_assoc, List.singleton_append] at this
    simp only [vecDec, encW, List.cons_append, List.append_assoc, List.nil_append, Dec.bind_run,
      C04.array_indef, Dec.remaining, this]
    rfl

theorem tag_rf (t : Option Nat) (x y : WItem) (r : Bytes) (hx : x.valid = true) (h : untagW t x = some y) :
    tagCheck t (encW x ++ r) = .ok () (encW y ++ r) ∧ y.valid = true := by
  cases t with
  | none =>
    simp only [untagW] at h
    cases h
    exact ⟨rfl, hx⟩
  | some n =>
    cases x <;> simp [untagW] at h
    rename_i wd m z
    obtain ⟨hm, rfl⟩ := h
    subst hm
    simp only [WItem.valid, Bool.and_eq_true] at hx
    refine ⟨?_, hx.2⟩
    simp [tagCheck, encW, Dec.bind_run, C04.tag_sound wd m _ hx.1]

theorem action_rf (fd : FDec) (x y : WItem) (r : Bytes) (v' : Val) (hx : x.valid = true)
    (ht : untagW fd.a.tag x = some y) (hd : fd.dec (encW y ++ r) = .ok v' r) :
    action fd (encW x ++ r) = .ok (some v') r := by
  have hb : bareNull fd (encW x ++ r) = .ok false (encW x ++ r) := by
    cases ht' : fd.a.tag with
    | none => exact bareNull_untagged fd _ ht'
    | some n =>
      rw [ht'] at ht
      cases x <;> simp [untagW] at ht
      exact bareNull_start fd _ r (startOk_encW _ hx (by simp [isNullW]))
  rw [action_of_not_bare _ _ hb, Dec.bind_run, (tag_rf fd.a.tag x y r hx ht).1]
  simp only [catchVariant, hd]

def FieldsRF : Fields → List Val → Prop
  | (a, t) :: fs, v :: vs =>
      (a.skip = false → ∀ y, y.valid = true → rfWith a.codec (rf t) v y = true →
        ∀ r, decWith a.codec (decTy t) (encW y ++ r) = .ok (withDefaults t v) r) ∧ FieldsRF fs vs
  | _, _ => True

theorem stepH_cell (fs : Fields) (vs : List Val) (hnd : (liveIdxs fs).Nodup) (hty : hasFields fs vs = true)
    (hitems : FieldsRF fs vs) (cell : Nat → Option WItem) (hrf : rfFields fs vs cell = true)
    (i : Nat) (x : WItem) (hx : x.valid = true) (hc : cell i = some x) (hgap : i ∉ liveIdxs fs → isNullW x = true) :
    StepH fs (rhoSame fs vs fs i) i (encW x) := by
  refine fun r => ⟨fun hni => ?_, fun b u hbu hbs hbi => ?_⟩
  · rw [isNullW_eq x (hgap hni), encW_null]; exact skip_null r
  · obtain ⟨v, hl⟩ := lookupVal_of_field fs vs b u hnd hty hbu hbs
    rw [hbi] at hl
    obtain ⟨y, hy1, hy2⟩ := (rfFields_iff cell fs vs hty hnd).1 hrf i b u v x hl hc
    have hd := lookupVal_elim (F := FieldsRF) (fun _ _ _ _ _ h => h) fs vs i b u v hitems hl y
      (tag_rf b.tag x y r hx hy1).2 hy2 r
    simp only [rhoSame, hl]
    exact action_rf (fdOf b u) x y r _ hx hy1 hd

def cellBytes (xs : List WItem) (i : Nat) : Bytes :=
  match xs[i]? with
  | some x => encW x
  | none => []

theorem encWs_cells (xs : List WItem) : encWs xs = catX (cellBytes xs) 0 xs.length := by
  rw [C03.encWs_eq_flatten, catX]
  congr 1
  apply List.ext_getElem
  · simp
  · intro i hi _
    have hi : i < xs.length := by simpa using hi
    simp [cellBytes, hi]

def toEntry (e : Nat × WItem × WItem) : Entry := (e.1, encW e.2.1, encW e.2.2)

theorem entriesW_spec : ∀ (kvs : List WItem) (es : List (Nat × WItem × WItem)), entriesW kvs = some es →
    encWs kvs = catE (es.map toEntry) ∧ kvs.length = 2 * es.length ∧
    (validAll kvs = true → ∀ e ∈ es, e.2.2.valid = true ∧ startNB (encW e.2.1) = true ∧
      (e.1 < 4294967296 → ∀ r, Dec.intAcc .u32 (encW e.2.1 ++ r) = .ok (e.1 : Int) r))
  | [], es, h => by
    simp only [entriesW] at h
    cases h
    exact ⟨rfl, rfl, fun _ e he => by simp at he⟩
  | [a], es, h => by cases a <;> simp [entriesW] at h
  | a :: x :: rest, es, h => by
    cases a with
    | uint wd n =>
      simp only [entriesW, Option.map_eq_some_iff] at h
      obtain ⟨es', hes', rfl⟩ := h
      obtain ⟨h1, h2, h3⟩ := entriesW_spec rest es' hes'
      refine ⟨?_, ?_, ?_⟩
      · simp only [encWs, List.map_cons, catE, toEntry, h1]
      · simp only [List.length_cons, h2]; omega
      · intro hv e he
        simp only [validAll, Bool.and_eq_true] at hv
        rcases List.mem_cons.1 he with rfl | he'
        · exact ⟨hv.2.1, startNB_encW _ hv.1, fun hn r => uint_u32 wd n r hv.1 hn⟩
        · exact h3 hv.2.2 e he'
    | _ => simp [entriesW] at h

theorem sigmaF_arr (fs : Fields) (vs : List Val) (ρ : Nat → Option Val) :
    ovr (fun _ => none) ρ 0 (arrLen fs vs) = sigmaF .array fs vs ρ := by
  unfold sigmaF arrLen
  cases maxPresent (specFields fs vs) with
  | none => exact funext (ovr_zero _ ρ 0)
  | some m => rfl

theorem sigmaF_keys (fs : Fields) (vs : List Val) (ρ : Nat → Option Val) :
    ovrE (fun _ => none) ρ (presentIdxs fs vs) = sigmaF .map fs vs ρ := by
  have e : presentIdxs fs vs = (stmtEntries (sortP (encFields fs vs))).map (·.1) := by simp [stmtEntries, presentIdxs]
  rw [e, ovrE_stmts]
  rfl

theorem fieldsDec_framed (enc : Encoding) (fs : Fields) (vs : List Val) (gs : Fields) (body : WItem) (rest : Bytes)
    (ρ : Nat → Option Val) (hacc : acceptedFields fs = true) (hnd : (liveIdxs fs).Nodup) (hty : hasFields fs vs = true)
    (hndR : (liveIdxs gs).Nodup) (hval : body.valid = true) (cell : Nat → Option WItem)
    (hc : bodyCells enc fs vs body = some cell)
    (hstep : ∀ i x, cell i = some x → x.valid = true → StepH gs (ρ i) i (encW x))
    (hopt : ∀ b u, (b, u) ∈ gs → b.skip = false → sigmaF enc fs vs ρ b.idx = none → slotInit u = none →
      (nilOf b u).isSome = true) :
    fieldsDec enc (decFields gs) (encW body ++ rest) = .ok (readerVals (sigmaF enc fs vs ρ) gs) rest := by
  cases enc with
  | array =>
    obtain ⟨xs, hai, hlen, -, rfl⟩ := bodyCells_array.1 hc
    have hvall := arrItems_valid hai hval
    have hx : ∀ i, i < xs.length → startNB (cellBytes xs i) = true ∧ StepH gs (ρ i) i (cellBytes xs i) := fun i hi => by
      have hv := validAll_mem xs _ hvall (List.getElem_mem hi)
      rw [show cellBytes xs i = encW xs[i] by simp [cellBytes, hi]]
      exact ⟨startNB_encW _ hv, hstep i _ (by simp [hi]) hv⟩
    rw [← sigmaF_arr, ← hlen] at hopt ⊢
    rcases arrItems_inv hai with ⟨wd, rfl⟩ | rfl
    · simp only [WItem.valid, Bool.and_eq_true] at hval
      simpa [encW, encWs_cells xs, List.append_assoc] using fieldsDec_arrN gs ρ
        (headW 4 wd xs.length) xs.length (cellBytes xs) rest hndR (fun r => C04.array_sound wd xs.length r hval.1)
        (fun i hi => (hx i hi).2) hopt
    · simpa [encW, encWs_cells xs, List.append_assoc] using
        fieldsDec_arrI gs ρ xs.length (cellBytes xs) rest hndR (fun i hi => (hx i hi).2) (fun i hi => (hx i hi).1) hopt
  | map =>
    obtain ⟨kvs, es, hmi, hes, hkeys, rfl⟩ := bodyCells_map.1 hc
    obtain ⟨hbytes, hlen, hvals⟩ := entriesW_spec kvs es hes
    have hvals := hvals (mapItems_valid hmi hval)
    have hE : (es.map toEntry).map (·.1) = presentIdxs fs vs := by
      rw [← hkeys]; simp [toEntry, Function.comp_def]
    have hndK : (es.map (·.1)).Nodup := hkeys ▸ presentIdxs_nodup fs vs hty hnd
    have hq : ∀ e ∈ es.map toEntry, (∀ r, Dec.intAcc .u32 (e.2.1 ++ r) = .ok (e.1 : Int) r) ∧ startNB e.2.1 = true ∧
        StepH gs (ρ e.1) e.1 e.2.2 := by
      intro e he
      obtain ⟨q, hq, rfl⟩ := List.mem_map.1 he
      obtain ⟨h1, h2, h3⟩ := hvals q hq
      have hlive := presentIdxs_live fs vs hacc hty q.1 (hkeys ▸ List.mem_map.2 ⟨q, hq, rfl⟩)
      exact ⟨h3 hlive.1, h2, hstep q.1 q.2.2 (by simp only [find_key es q hndK hq, Option.map_some]) h1⟩
    rw [← sigmaF_keys, ← hE] at hopt ⊢
    rcases mapItems_inv hmi with ⟨wd, rfl⟩ | rfl
    · simp only [WItem.valid, Bool.and_eq_true] at hval
      have hn2 : kvs.length / 2 = (es.map toEntry).length := by rw [List.length_map, hlen]; omega
      simpa [encW, hbytes, List.append_assoc] using fieldsDec_mapN gs ρ
        (headW 5 wd (kvs.length / 2)) (es.map toEntry) rest hndR
        (fun r => by rw [← hn2]; exact C04.map_sound wd (kvs.length / 2) r hval.1.2) (fun e he => (hq e he).1)
        (fun e he => (hq e he).2.2) hopt
    · simpa [encW, hbytes, List.append_assoc] using
        fieldsDec_mapI gs ρ (es.map toEntry) rest hndR (fun e he => (hq e he).1) (fun e he => (hq e he).2.1)
          (fun e he => (hq e he).2.2) hopt

theorem body_reframed (enc : Encoding) (fs : Fields) (vs : List Val) (body : WItem) (rest : Bytes)
    (hacc : acceptedFields fs = true) (hnd : (liveIdxs fs).Nodup) (hty : hasFields fs vs = true)
    (hval : body.valid = true) (cell : Nat → Option WItem) (hc : bodyCells enc fs vs body = some cell)
    (hrf : rfFields fs vs cell = true) (hitems : FieldsRF fs vs) :
    fieldsDec enc (decFields fs) (encW body ++ rest) = .ok (defaultsFields fs vs) rest := by
  have hv := readerVals_self enc fs vs hacc hty hnd
  rw [fieldsDec_framed enc fs vs fs body rest (rhoSame fs vs fs) hacc hnd hty hnd hval cell hc
    (fun i x hcx hx => stepH_cell fs vs hnd hty hitems cell hrf i x hx hcx (bodyCells_gap hacc hty hc hcx)) hv.2, hv.1]

theorem skip_emptyW (enc : Encoding) (body : WItem) (rest : Bytes) (h : isEmptyW enc body = true) :
    Dec.skip true (encW body ++ rest) = .ok () rest := by
  have hw : ∀ wd : Width, wd.fits 0 = true ∧ wd.bytes ≤ 8 := fun wd => by cases wd <;> decide
  have key : body.valid = true ∧ (encW body).length ≤ 9 := by
    cases enc with
    | array =>
      rcases arrItems_inv (isEmptyW_array.1 h) with ⟨wd, rfl⟩ | rfl
      · have := hw wd; simp [WItem.valid, validAll, encW, encWs, headW_length, this.1]; omega
      · decide
    | map =>
      rcases mapItems_inv (isEmptyW_map.1 h) with ⟨wd, rfl⟩ | rfl
      · have := hw wd; simp [WItem.valid, validAll, encW, encWs, headW_length, this.1]; omega
      · decide
  exact Dec.skip_encW body rest key.1 (by unfold U64MAX; omega)

theorem seq_run {α β γ : Type} (A : Dec β) (F : β → Dec α) (G : α → Dec γ) (bs : Bytes) (a : α) (r : Bytes)
    (h : (A >>= F) bs = .ok a r) : (do let k ← A; let v ← F k; G v : Dec γ) bs = G a r := by
  rw [← Dec.bind_assoc]
  exact Dec.bind_ok _ _ _ _ _ h

/-- the wrapper of an enum, in either form, around whatever reads the index (`A`) and the body (`F`). -/
theorem wrapper_run {α β : Type} (w kx bx : WItem) (hp : pairItems w = some (kx, bx)) (hw : w.valid = true) (rest : Bytes)
    (A : Dec β) (F : β → Dec α) (a : α) (hm : ∀ r, (A >>= F) (encW kx ++ (encW bx ++ r)) = .ok a r) :
    (do
      let indef ← (do
        let n ← Dec.array
        match n with
        | some k => if k == 2 then pure false else Dec.fail .message
        | none => pure true : Dec Bool)
      let k ← A
      let v ← F k
      wrapperEnd indef
      pure v : Dec α) (encW w ++ rest) = .ok a rest := by
  rcases pairItems_inv w kx bx hp with ⟨wd, rfl⟩ | rfl
  · simp only [WItem.valid, validAll, Bool.and_eq_true, Bool.and_true] at hw
    have harr := C04.array_sound wd 2 (encW kx ++ (encW bx ++ rest)) hw.1
    have hbytes : encW (.array wd [kx, bx]) ++ rest = headW 4 wd 2 ++ (encW kx ++ (encW bx ++ rest)) := by
      simp [encW, encWs, List.append_assoc]
    rw [hbytes, Dec.bind_run, Dec.bind_run, harr]
    simp only [beq_self_eq_true, if_true, Dec.pure_run]
    rw [seq_run A F _ _ a rest (hm rest)]
    simp [wrapperEnd, Dec.bind_run, Dec.pure_run]
  · have hbytes : encW (.arrayI [kx, bx]) ++ rest = 0x9f :: (encW kx ++ (encW bx ++ (0xff :: rest))) := by
      simp [encW, encWs, List.append_assoc]
    have harr : Dec.array (0x9f :: (encW kx ++ (encW bx ++ (0xff :: rest)))) = .ok none (encW kx ++ (encW bx ++ (0xff :: rest))) :=
      C04.array_indef _
    rw [hbytes, Dec.bind_run, Dec.bind_run, harr]
    simp only [Dec.pure_run]
    rw [seq_run A F _ _ a (0xff :: rest) (hm (0xff :: rest))]
    simp [wrapperEnd, Dec.bind_run, Dec.pure_run, datatype_break, skip_break]

theorem enum_reframed (e : EAttr) (vars : Variants) (k : Nat) (vs : List Val) (w : WItem) (rest : Bytes)
    (hacc : accepted (.enum e vars) = true) (hv : hasVars vars k vs = true) (hw : w.valid = true)
    (hrf : rf (.enum e vars) (.enum k vs) w = true) (hitems : FieldsRF (nthFields vars k) vs) :
    decTy (.enum e vars) (encW w ++ rest) = .ok (.enum k (defaultsVars vars k vs)) rest := by
  obtain ⟨_, haccV, hndV⟩ := accepted_enum hacc
  obtain ⟨va, hnth, hty, hdef⟩ := hasVars_nth vars k vs hv
  generalize hfs : nthFields vars k = fs at hnth hty hdef hitems
  obtain ⟨hidx, htag, haccF, hndF, hunit, hio⟩ := acceptedVars_mem e vars va fs haccV (List.mem_of_getElem? hnth)
  obtain ⟨w', hu, hrf⟩ := rf_enum_iff.1 hrf
  rw [rfVars_nth e vars k vs w' va fs hnth] at hrf
  obtain ⟨htc, hw'⟩ := tag_rf e.tag w w' rest hw hu
  have hfind := findVariant_nth e vars k 0 va fs hndV hnth
  have hidx' : va.idx < 4294967296 := by simp [U32] at hidx; omega
  have hnone : va.shape = .unit → fs = [] ∧ vs = [] := fun hsh => by
    have := hunit hsh
    subst this
    exact ⟨rfl, by cases vs <;> simp [hasFields] at hty ⊢⟩
  simp only [decTy, enumDec]
  rw [Dec.bind_run, htc]
  simp only []
  rw [hdef]
  cases hix : e.indexOnly
  · obtain ⟨kx, bx, body, hpair, hkx, hub, hempty, hcells⟩ := (rfVars_zero_iff hix).1 hrf
    obtain ⟨wk, rfl⟩ := isUintW_eq va.idx kx hkx
    have hvalid : (WItem.uint wk va.idx).valid = true ∧ bx.valid = true := by
      rcases pairItems_inv w' _ bx hpair with ⟨wd, rfl⟩ | rfl <;>
        simp only [WItem.valid, validAll, Bool.and_eq_true, Bool.and_true] at hw' <;> simp [WItem.valid, hw']
    have hm : ∀ r, (do let k ← Dec.intAcc .u32; findVariant (decVars e vars) 0 k.toNat : Dec Val)
        (encW (.uint wk va.idx) ++ (encW bx ++ r)) = .ok (.enum k (defaultsFields fs vs)) r := by
      intro r
      obtain ⟨htb, hbody⟩ := tag_rf va.tag bx body r hvalid.2 hub
      rw [Dec.bind_run, uint_u32 wk va.idx (encW bx ++ r) hvalid.1 hidx']
      simp only [Int.toNat_natCast]
      rw [hfind]
      simp only [Nat.zero_add, varBody]
      cases hsh : va.shape
      · obtain ⟨rfl, rfl⟩ := hnone hsh
        simp only [hix, Bool.false_eq_true, if_false, Dec.bind_run, htb, skip_emptyW _ body r (hempty hsh), Dec.pure_run,
          defaultsFields]
      all_goals
        obtain ⟨cell, hbc, hcell⟩ := hcells (by simp [hsh])
        simp only [Dec.bind_run, htb, body_reframed _ fs vs body r haccF hndF hty hbody cell hbc hcell hitems, Dec.pure_run]
    simp only [Bool.false_eq_true, if_false]
    exact wrapper_run w' (.uint wk va.idx) bx hpair hw' rest (Dec.intAcc .u32) (fun k => findVariant (decVars e vars) 0 k.toNat) _ hm
  · simp only [rfVars, hix, if_true] at hrf
    obtain ⟨wk, rfl⟩ := isUintW_eq va.idx w' hrf
    obtain ⟨rfl, rfl⟩ := hnone (hio hix)
    simp only [if_true, Dec.bind_run, Dec.pure_run, uint_u32 wk va.idx rest hw' hidx', Int.toNat_natCast]
    rw [hfind]
    simp [varBody, hio hix, hix, Dec.bind_run, defaultsFields, wrapperEnd]

theorem nilu_rf (i : Int) (y : WItem) (r : Bytes) (hi : IntK.u32.inRange i = true) (hy : y.valid = true)
    (h : rfWith .nilu (rf (.int .u32)) (.int i) y = true) :
    decWith .nilu (decTy (.int .u32)) (encW y ++ r) = .ok (.int i) r := by
  simp [IntK.inRange, IntK.ty, IntTy.lo, IntTy.hi, IntTy.u32] at hi
  have h2 := of_decide_eq_true hi.2
  simp only [rfWith] at h
  by_cases h0 : i = 0
  · subst h0
    simp only [beq_self_eq_true, if_true] at h
    rw [isNullW_eq y h, encW_null]
    simp [decWith, Dec.bind_run, datatype_null, skip_null]
  · have hne : (i == 0) = false := by simpa using h0
    simp only [hne, Bool.false_eq_true, if_false] at h
    obtain ⟨wd, rfl⟩ := isUintW_eq _ y h
    have hnn : isNullW (.uint wd i.toNat) = false := rfl
    obtain ⟨ty, h1, h3⟩ := datatype_startOk (encW (.uint wd i.toNat)) r (startOk_encW _ hy hnn)
    have hk := uint_u32 wd i.toNat r hy (by omega)
    have hcast : ((i.toNat : Nat) : Int) = i := by omega
    simp [decWith, Dec.bind_run, h1, h3, hk, hcast]

end Minicbor.Derive
