/-
  The refinement argument for the alloc build of `Decoder::skip`: the loop simulates the true
  machine `trueStep`, which keeps for every open indefinite container, and for the bottom level,
  the number of items still to come before its break (its weight).
  `segs c` are the weights the concrete state `c` stands for: split the stack at the `None` frames; the weight of
  a segment is the sum of its counts, plus one for the top frame if that is a `Some` (a frame on top counts "items
  still to come minus one"); in counting mode the weights are `nrounds :: 0 … 0` (`irounds` zeros).
  `Rel c T`: `segs c ≤ T` pointwise, with equality in the bottom segment.  The code under-counts on purpose inside
  indefinite containers (`saturating_sub` at 0); surplus items are absorbed by the enclosing indefinite container.
  Every case of `Rel.step` splits into the two modes (`wf_modes`) and leaves arithmetic on the top weight (`Rel.top`).
-/
import Minicbor.Lemmas.SkipView

namespace Minicbor
open Dec

/-! ### weights -/

/-- the segment sums of a stack before the top frame's "minus one" is undone:
    (sum of the counts above the first `None`, sums of the segments below it). -/
def raw : List (Option Nat) → Nat × List Nat
  | [] => (0, [])
  | some k :: st => (k + (raw st).1, (raw st).2)
  | none :: st => (0, (raw st).1 :: (raw st).2)

def topSome : List (Option Nat) → Bool
  | some _ :: _ => true
  | _ => false

def segsStack (st : List (Option Nat)) : List Nat :=
  ((raw st).1 + (if topSome st then 1 else 0)) :: (raw st).2

def segs (s : SkipSt) : List Nat :=
  if s.counting then s.nr :: List.replicate s.ir 0 else segsStack s.stack

theorem segs_nil (nr ir : Nat) : segs ⟨nr, ir, []⟩ = nr :: List.replicate ir 0 := by
  unfold segs
  by_cases h : SkipSt.counting ⟨nr, ir, []⟩ = true
  · simp [h]
  · obtain ⟨h1, h2⟩ := (not_counting_iff _).1 (by simpa using h)
    simp at h1 h2
    subst h1 h2
    simp [counting_mk, segsStack, raw, topSome]

theorem segs_stack (st : List (Option Nat)) : segs ⟨0, 0, st⟩ = segsStack st := by
  unfold segs; simp [SkipSt.counting]

/-- the sum of the counts on top is the top weight less one, saturating: in this shape `omega`
    relates the top weight before a step (`segs_stack`) to the one after (`segsStack_postStack`). -/
theorem raw_fst (st : List (Option Nat)) :
    (raw st).1 = (raw st).1 + (if topSome st then 1 else 0) - 1 := by
  match st with
  | [] => rfl
  | none :: _ => rfl
  | some _ :: _ => simp [topSome]

theorem segsStack_postStack (st : List (Option Nat)) :
    segsStack (postStack st) = (raw st).1 :: (raw st).2 := by
  induction st with
  | nil => simp [postStack, popZeros, segsStack, raw, topSome]
  | cons x st ih =>
    match x with
    | none => simp [postStack, popZeros, segsStack, raw, topSome]
    | some 0 =>
      have : postStack (some 0 :: st) = postStack st := by simp [postStack, popZeros]
      rw [this, ih]; simp [raw]
    | some (k + 1) =>
      simp [postStack, popZeros, segsStack, raw, topSome]; omega

theorem raw_replicate_none (k : Nat) : raw (List.replicate k none) = (0, List.replicate k 0) := by
  induction k with
  | zero => rfl
  | succ k ih => simp [List.replicate_succ, raw, ih]

theorem postSt_stack (st : List (Option Nat)) :
    postSt true ⟨0, 0, st⟩ = ⟨0, 0, postStack st⟩ := by
  unfold postSt; simp [counting_mk]

/-! ### the relation -/

def Le : List Nat → List Nat → Prop
  | [x], [a] => x = a
  | x :: y :: xs, a :: b :: r => x ≤ a ∧ Le (y :: xs) (b :: r)
  | _, _ => False

theorem Le_single (x a : Nat) : Le [x] [a] ↔ x = a := by simp [Le]

theorem Le_cons2 (x y a b : Nat) (xs r : List Nat) :
    Le (x :: y :: xs) (a :: b :: r) ↔ x ≤ a ∧ Le (y :: xs) (b :: r) := by simp [Le]

theorem Le_refl : ∀ (x : Nat) (xs : List Nat), Le (x :: xs) (x :: xs)
  | _, [] => rfl
  | x, y :: ys => (Le_cons2 ..).2 ⟨Nat.le_refl x, Le_refl y ys⟩

theorem Le_singleton_right {X : List Nat} {a : Nat} (h : Le X [a]) : X = [a] := by
  match X with
  | [] => simp [Le] at h
  | [x] => simp [Le] at h; rw [h]
  | _ :: _ :: _ => simp [Le] at h

theorem Le_singleton_left {x : Nat} {T : List Nat} (h : Le [x] T) : T = [x] := by
  match T with
  | [] => simp [Le] at h
  | [a] => simp [Le] at h; rw [h]
  | _ :: _ :: _ => simp [Le] at h

theorem Le_head_le {x a : Nat} {xs r : List Nat} (h : Le (x :: xs) (a :: r)) : x ≤ a := by
  match xs, r with
  | [], [] => simp [Le] at h; omega
  | _ :: _, _ :: _ => exact ((Le_cons2 ..).1 h).1
  | [], _ :: _ => simp [Le] at h
  | _ :: _, [] => simp [Le] at h

theorem Le_length {X T : List Nat} (h : Le X T) : X.length = T.length := by
  induction X generalizing T with
  | nil => cases T <;> simp [Le] at h
  | cons x xs ih =>
    match xs, T with
    | [], T => rw [Le_singleton_left h]
    | _ :: _, [] => simp [Le] at h
    | _ :: _, [_] => simp [Le] at h
    | y :: ys, a :: b :: r => simpa using ih ((Le_cons2 ..).1 h).2

theorem Le_top {x a x' a' : Nat} {xs r : List Nat} (h : Le (x :: xs) (a :: r))
    (hle : x ≤ a → x' ≤ a') (heq : r = [] → x = a → x' = a') : Le (x' :: xs) (a' :: r) := by
  match xs, r with
  | [], [] => simp only [Le] at h ⊢; exact heq rfl h
  | _ :: _, _ :: _ => exact (Le_cons2 ..).2 ⟨hle ((Le_cons2 ..).1 h).1, ((Le_cons2 ..).1 h).2⟩
  | [], _ :: _ => simp [Le] at h
  | _ :: _, [] => simp [Le] at h

theorem Le_push {x' a' : Nat} {X T : List Nat} (h : Le X T) (hle : x' ≤ a') : Le (x' :: X) (a' :: T) := by
  match X, T with
  | _ :: _, _ :: _ => exact (Le_cons2 ..).2 ⟨hle, h⟩
  | [], _ => simp [Le] at h
  | _ :: _, [] => simp [Le] at h

theorem Le_pop {x a b : Nat} {X T : List Nat} (h : Le (x :: X) (a :: b :: T)) : Le X (b :: T) := by
  match X with
  | [] => simp [Le] at h
  | _ :: _ => exact ((Le_cons2 ..).1 h).2

structure Rel (c : SkipSt) (T : List Nat) : Prop where
  wf : c.counting = true → c.stack = []
  le : Le (segs c) T

theorem wf_modes {nr ir : Nat} {st : List (Option Nat)}
    (wf : SkipSt.counting ⟨nr, ir, st⟩ = true → (SkipSt.mk nr ir st).stack = []) :
    (SkipSt.counting ⟨nr, ir, []⟩ = true ∧ st = []) ∨ (nr = 0 ∧ ir = 0) := by
  by_cases hc : SkipSt.counting ⟨nr, ir, st⟩ = true
  · exact Or.inl ⟨hc, wf hc⟩
  · exact Or.inr (by simpa using (not_counting_iff _).1 (by simpa using hc))

theorem Rel.top {c c' : SkipSt} {a a' x x' : Nat} {xs r : List Nat} (h : Rel c (a :: r))
    (hs : segs c = x :: xs) (wf : c'.counting = true → c'.stack = []) (hs' : segs c' = x' :: xs)
    (hle : x ≤ a → x' ≤ a') (heq : r = [] → x = a → x' = a') : Rel c' (a' :: r) :=
  ⟨wf, by rw [hs']; exact Le_top (hs ▸ h.le) hle heq⟩

theorem Rel.push {c c' : SkipSt} {a a' x x' : Nat} {xs r : List Nat} (h : Rel c (a :: r))
    (hs : segs c = x :: xs) (wf : c'.counting = true → c'.stack = []) (hs' : segs c' = 0 :: x' :: xs)
    (hle : x ≤ a → x' ≤ a') (heq : r = [] → x = a → x' = a') : Rel c' (0 :: a' :: r) :=
  ⟨wf, by rw [hs']; exact Le_push (Le_top (hs ▸ h.le) hle heq) (Nat.le_refl 0)⟩

theorem wf_nil (nr ir : Nat) : SkipSt.counting ⟨nr, ir, []⟩ = true → (SkipSt.mk nr ir []).stack = [] :=
  fun _ => rfl

theorem wf_stack (st : List (Option Nat)) :
    SkipSt.counting ⟨0, 0, st⟩ = true → (SkipSt.mk 0 0 st).stack = [] := by
  simp [counting_mk]

theorem running_iff {c : SkipSt} (wf : c.counting = true → c.stack = []) :
    skipRunning true c = false ↔ segs c = [0] := by
  obtain ⟨nr, ir, st⟩ := c
  rcases wf_modes wf with ⟨-, rfl⟩ | ⟨rfl, rfl⟩
  · rw [segs_nil]
    cases ir <;> simp [skipRunning, List.replicate_succ]
  · rw [segs_stack]
    match st with
    | [] => simp [skipRunning, segsStack, raw, topSome]
    | none :: _ => simp [skipRunning, segsStack, raw, topSome]
    | some _ :: _ => simp [skipRunning, segsStack, raw, topSome]

theorem rel_running {c : SkipSt} {a : Nat} {r : List Nat} (h : Rel c (a :: r))
    (hl : 1 ≤ a ∨ r ≠ []) : skipRunning true c = true := by
  cases hr : skipRunning true c with
  | true => rfl
  | false =>
    have hle := h.le
    rw [(running_iff h.wf).1 hr] at hle
    obtain ⟨rfl, rfl⟩ : a = 0 ∧ r = [] := by simpa using Le_singleton_left hle
    simp at hl

theorem rel_done {c : SkipSt} (h : Rel c [0]) : skipRunning true c = false :=
  (running_iff h.wf).2 (Le_singleton_right h.le)

/-! ### the true machine, and its simulation by the alloc build -/

/-- One token on the true machine.  The state `a :: r` lists the weights, innermost open
    indefinite container first, bottom level last: `a` items are still to come at the top level,
    then (if `r ≠ []`) any number of further items and a break.  A definite array/map adds its
    items to the level it stands in; the machine runs while `1 ≤ a ∨ r ≠ []` and is done on `[0]`.
    `none`: a break where items are still announced, or at the bottom level. -/
def trueStep : Tok → List Nat → Option (List Nat)
  | .item, a :: r => some ((a - 1) :: r)
  | .defn n, a :: r => some ((a - 1 + n) :: r)
  | .indef, a :: r => some (0 :: (a - 1) :: r)
  | .brk, 0 :: b :: r => some (b :: r)
  | .tag, T => some T
  | _, _ => none

/-- the `u64` counters of the code hold the result of the step without saturating. -/
def stepFits : Tok → List Nat → Prop
  | .defn n, a :: _ => a + n ≤ U64MAX
  | .indef, _ :: r => r.length < U64MAX
  | _, _ => True

theorem rel_item {c : SkipSt} {a : Nat} {r : List Nat} (h : Rel c (a :: r)) :
    Rel (postSt true c) ((a - 1) :: r) := by
  obtain ⟨nr, ir, st⟩ := c
  rcases wf_modes h.wf with ⟨-, rfl⟩ | ⟨rfl, rfl⟩
  · rw [postSt_nil]
    exact h.top (segs_nil ..) (wf_nil _ _) (segs_nil ..) (by omega) (by omega)
  · rw [postSt_stack]
    refine h.top (segs_stack st) (wf_stack _) (by rw [segs_stack, segsStack_postStack]) ?_ ?_ <;>
      (have := raw_fst st; omega)

theorem rel_def {c : SkipSt} {a : Nat} {r : List Nat} (n : Nat) (h : Rel c (a :: r))
    (hl : 1 ≤ a ∨ r ≠ []) (hb : a + n ≤ U64MAX) :
    Rel (postSt true (defSt true c n)) ((a - 1 + n) :: r) := by
  by_cases hn : n = 0
  · subst hn
    have : defSt true c 0 = c := by simp [defSt]
    rw [this]
    exact rel_item h
  have h1 : r = [] → 1 ≤ a := fun hr => hl.resolve_right (fun hne => hne hr)
  obtain ⟨nr, ir, st⟩ := c
  rcases wf_modes h.wf with ⟨hc, rfl⟩ | ⟨rfl, rfl⟩
  · have hs := segs_nil nr ir
    have hle := Le_head_le (hs ▸ h.le)
    have hd : defSt true ⟨nr, ir, []⟩ n = ⟨nr + n, ir, []⟩ := by
      simp [defSt, hn, skipDefinite, hc, satAdd_eq nr n (by omega)]
    rw [hd, postSt_nil]
    exact h.top hs (wf_nil _ _) (segs_nil ..) (by omega) (fun hr => by have := h1 hr; omega)
  · have hd : defSt true ⟨0, 0, st⟩ n = ⟨0, 0, some n :: st⟩ := by
      simp [defSt, hn, skipDefinite, counting_mk]
    rw [hd, postSt_stack]
    have := raw_fst st
    exact h.top (x' := n + (raw st).1) (segs_stack st) (wf_stack _)
      (by rw [segs_stack, segsStack_postStack]; rfl) (by omega) (fun hr => by have := h1 hr; omega)

theorem rel_indef {c : SkipSt} {a : Nat} {r : List Nat} (h : Rel c (a :: r))
    (hl : 1 ≤ a ∨ r ≠ []) (hb : r.length < U64MAX) :
    ∃ c1, indefSt true c = some c1 ∧ Rel (postSt true c1) (0 :: (a - 1) :: r) := by
  have h1 : r = [] → 1 ≤ a := fun hr => hl.resolve_right (fun hne => hne hr)
  obtain ⟨nr, ir, st⟩ := c
  rcases wf_modes h.wf with ⟨hc, rfl⟩ | ⟨rfl, rfl⟩
  · have hs := segs_nil nr ir
    have hlen := Le_length (hs ▸ h.le)
    simp at hlen
    by_cases h2 : nr < 2
    · refine ⟨⟨nr, ir + 1, []⟩, by simp [indefSt, hc, h2, satAdd_eq ir 1 (by omega)], ?_⟩
      rw [postSt_nil, show nr - 1 = 0 by omega]
      exact h.push hs (wf_nil _ _) (by rw [segs_nil, List.replicate_succ]) (by omega)
        (fun hr => by have := h1 hr; omega)
    · refine ⟨⟨0, 0, none :: some (nr - 1) :: (List.replicate ir none ++ [])⟩,
        by simp [indefSt, hc, h2], ?_⟩
      have hp : postStack (none :: some (nr - 1) :: (List.replicate ir none ++ []))
          = none :: some (nr - 1) :: (List.replicate ir none ++ []) := by simp [postStack, popZeros]
      rw [postSt_stack, hp]
      refine h.push hs (wf_stack _) ?_ (by omega) (by omega) (x' := nr - 1)
      simp [segs_stack, segsStack, raw, topSome, raw_replicate_none]
  · refine ⟨⟨0, 0, none :: st⟩, by simp [indefSt, counting_mk], ?_⟩
    have hp : postStack (none :: st) = none :: st := by simp [postStack, popZeros]
    rw [postSt_stack, hp]
    have := raw_fst st
    exact h.push (x' := (raw st).1) (segs_stack st) (wf_stack _)
      (by simp [segs_stack, segsStack, raw, topSome]) (by omega) (fun hr => by have := h1 hr; omega)

theorem rel_brk {c : SkipSt} {b : Nat} {r : List Nat} (h : Rel c (0 :: b :: r)) :
    Rel (postSt true (brkSt true c)) (b :: r) := by
  obtain ⟨nr, ir, st⟩ := c
  have hle := h.le
  rcases wf_modes h.wf with ⟨hc, rfl⟩ | ⟨rfl, rfl⟩
  · rw [segs_nil] at hle
    have hnr : nr = 0 := by have := Le_head_le hle; omega
    subst hnr
    cases ir with
    | zero => simp [Le] at hle
    | succ k =>
      have hb : brkSt true ⟨0, k + 1, []⟩ = ⟨0, k, []⟩ := by simp [brkSt, hc]
      rw [hb, postSt_nil]
      exact ⟨wf_nil _ _, by rw [segs_nil]; exact Le_pop hle⟩
  · rw [segs_stack] at hle
    match st with
    | [] => simp [segsStack, raw, topSome, Le] at hle
    | some k :: st => have := Le_head_le hle; simp [topSome] at this
    | none :: st =>
      have hb : brkSt true ⟨0, 0, none :: st⟩ = ⟨0, 0, st⟩ := by simp [brkSt, counting_mk]
      rw [hb, postSt_stack]
      exact ⟨wf_stack _, by rw [segs_stack, segsStack_postStack]; exact Le_pop hle⟩

theorem Rel.step {c : SkipSt} {a : Nat} {r T' : List Nat} {t : Tok} (h : Rel c (a :: r))
    (hl : 1 ≤ a ∨ r ≠ []) (hT : trueStep t (a :: r) = some T') (hf : stepFits t (a :: r)) :
    ∃ c', tokStep true c t = some c' ∧ Rel c' T' := by
  cases t with
  | item => cases hT; exact ⟨_, rfl, rel_item h⟩
  | defn n => cases hT; exact ⟨_, rfl, rel_def n h hl hf⟩
  | indef =>
    cases hT
    obtain ⟨c1, hc1, hr1⟩ := rel_indef h hl hf
    exact ⟨_, by simp [tokStep, hc1], hr1⟩
  | brk =>
    match a, r with
    | 0, b :: r => cases hT; exact ⟨_, rfl, rel_brk h⟩
    | 0, [] => cases hT
    | _ + 1, _ => cases hT
  | tag => cases hT; exact ⟨c, rfl, h⟩

theorem rel_init : Rel SkipSt.init [1] :=
  ⟨fun _ => rfl, by rw [SkipSt.init, segs_nil]; simp [Le]⟩

end Minicbor
