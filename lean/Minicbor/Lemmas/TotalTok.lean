/-
  For C02: `Token::decode` and the `Tokenizer` iterator run to exhaustion — what they build is paid
  for by consumed bytes, and so are their steps.
-/
import Minicbor.Lemmas.TotalWork

namespace Minicbor

/-- allocation units of a token: one, plus the payload it borrows/copies. -/
def Token.size : Token → Nat
  | .bytes b => 1 + b.length
  | .string b => 1 + b.length
  | _ => 1

def TokItem.size : TokItem → Nat
  | .tok t => t.size
  | .err _ => 1

theorem Token.size_pos (t : Token) : 1 ≤ t.size := by
  cases t <;> simp [Token.size]

theorem TokItem.size_pos (t : TokItem) : 1 ≤ t.size := by
  cases t
  · exact Token.size_pos _
  · simp [TokItem.size]

namespace Dec

theorem EoiNil.token : EoiNil Dec.token := EoiNil.bind _ EoiNil.datatype

theorem Sized.token : Sized Token.size Dec.token :=
  have one {α : Type} {m : Dec α} {g : α → Token} (hm : Consumes m 1) (hg : ∀ a, (g a).size ≤ 1) :
      Sized Token.size (m >>= fun a => Pure.pure (g a)) :=
    SizedBy.bindC hm fun a => SizedBy.pure (hg a)
  SizedBy.bindC Consumes.datatype fun
    | .bool => one Consumes.rules.bool fun _ => Nat.le_refl _
    | .u8 | .u16 | .u32 | .u64 | .i8 | .i16 | .i32 | .i64 | .int => one (Consumes.intAcc _) fun _ => Nat.le_refl _
    | .f16 => one Consumes.rules.f16 fun _ => Nat.le_refl _
    | .f32 => one (Consumes.rules.f32 _) fun _ => Nat.le_refl _
    | .f64 => one (Consumes.rules.f64 _) fun _ => Nat.le_refl _
    | .bytes => SizedBy.bind Sized.bytes fun _ => SizedBy.pure (Nat.le_refl _)
    | .string => SizedBy.bind Sized.str fun _ => SizedBy.pure (Nat.le_refl _)
    | .tag => one Consumes.rules.tag fun _ => Nat.le_refl _
    | .simple => one Consumes.simple fun _ => Nat.le_refl _
    | .array | .map => SizedBy.bindC (Consumes.container _) fun
        | some _ => SizedBy.pure (Nat.le_refl _)
        | none => SizedBy.fail _ _ _
    | .bytesIndef | .stringIndef | .arrayIndef | .mapIndef | .null | .undefined | .break =>
        one Consumes.rules.skipByte fun _ => Nat.le_refl _
    | .unknown _ => SizedBy.fail _ _ _

/-- 6 along the text: `datatype` 2, then at most `f64`'s 4. -/
theorem LinC.token : LinC 6 Dec.token := (LinC.of_suffix Suffix.rules.token).mono (by decide)

end Dec


theorem tokenize_ne_none (fuel : Nat) (bs : Bytes) (h : bs.length < fuel) : tokenize fuel bs ≠ none := by
  obtain ⟨ts, tail, h1, _⟩ := tokenize_spec fuel bs h
  rw [h1]; nofun

theorem tokenize_size (fuel : Nat) (bs : Bytes) (items : List TokItem) (h : tokenize fuel bs = some items) :
    Dec.listSz TokItem.size items ≤ bs.length := by
  induction fuel generalizing bs items with
  | zero => cases h
  | succ f ih =>
    unfold tokenize at h
    split at h
    · rename_i t rest ht
      have h1 := Dec.Sized.token bs t rest ht
      cases hr : tokenize f rest with
      | none => rw [hr] at h; cases h
      | some l =>
        rw [hr] at h; cases h
        have := ih rest l hr
        simp [TokItem.size]; omega
    · cases h; simp
    · rename_i e r hne ht
      cases h
      cases bs with
      | nil =>
        rw [Dec.token_nil] at ht; cases ht; exact (hne rfl).elim
      | cons b bs => simp [TokItem.size]
    · cases h

/-- steps of the `Tokenizer` iterator run to exhaustion: the sum over its `token()` calls.  `fuel0` (no call made)
    only makes the relation defined at every fuel: with `bs.length < fuel` every derivation ends in `last`, the
    failing call at the end of the input or at the first error. -/
inductive TokenizeCost : Nat → Bytes → Nat → Prop
  | fuel0 (bs : Bytes) : TokenizeCost 0 bs 0
  | more {fuel : Nat} {bs rest : Bytes} {t : Token} {n1 n2 : Nat} (h : Dec.token bs = .ok t rest)
      (h1 : Dec.Cost Dec.token bs n1) (h2 : TokenizeCost fuel rest n2) : TokenizeCost (fuel + 1) bs (n1 + n2)
  | last {fuel : Nat} {bs : Bytes} {n1 : Nat} (h : ∀ t rest, Dec.token bs ≠ .ok t rest)
      (h1 : Dec.Cost Dec.token bs n1) : TokenizeCost (fuel + 1) bs n1

/-- `7 = 1 + 6`: a call costs `consumed + 6` (`LinC.token`) and a successful one consumes at least
    one byte; `+ 6` is the failing last call. -/
theorem tokenize_work (fuel : Nat) (bs : Bytes) (h : bs.length < fuel) :
    ∃ n, TokenizeCost fuel bs n ∧ n ≤ 7 * bs.length + 6 := by
  induction fuel generalizing bs with
  | zero => omega
  | succ f ih =>
    obtain ⟨n1, hc1, hb1⟩ := Dec.LinC.token bs
    cases ht : Dec.token bs with
    | ok t rest =>
      have hlen := Dec.Consumes.token bs t rest ht
      obtain ⟨n2, hc2, hb2⟩ := ih rest (by omega)
      have := hb1 rest (by rw [ht]; rfl)
      exact ⟨n1 + n2, TokenizeCost.more ht hc1 hc2, by omega⟩
    | err e rest =>
      have := hb1 rest (by rw [ht]; rfl)
      exact ⟨n1, TokenizeCost.last (by intro t r h; rw [ht] at h; cases h) hc1, by omega⟩
    | panic => exact absurd ht (Dec.NoPanic.token bs)

end Minicbor
