/-
  `Token::decode` at the start of a valid wire tree (any head width), followed by arbitrary bytes:
  it yields the first token of `C11.toks` and leaves what follows that head.  `datatype()` answers
  `wType w` (Lemmas/ItemStart.lean) and the arm it selects is an accessor specified by `C04.view`
  (`token_acc`); integers and the bare heads of arrays, maps and tags have lemmas of their own, the
  latter because `C11.round_one` (Thm/C11.lean) reads heads that no item follows.  Hence the tokenizer steps
  through exactly `C11.toks w` on the encoding of a valid tree (`steps_item`), and `tokens` on a sequence
  of valid trees yields their `toks` (`C11.tokenize_encW`, which C11 and C19 share).
-/
import Minicbor.Lemmas.TokenBasic
import Minicbor.Lemmas.TokenSpec
import Minicbor.Lemmas.ItemStart
import Minicbor.Thm.C04Acc

namespace Minicbor
open Dec C11

/-- the arms of the `match d.datatype()?` in `Token::decode`. -/
def Dec.tokenArm (ty : CType) : Dec Token :=
  match ty with
  | .bool => do let b ← Dec.bool; pure (Token.bool b)
  | .u8 => do let v ← intAcc .u8; pure (.u8 v.toNat)
  | .u16 => do let v ← intAcc .u16; pure (.u16 v.toNat)
  | .u32 => do let v ← intAcc .u32; pure (.u32 v.toNat)
  | .u64 => do let v ← intAcc .u64; pure (.u64 v.toNat)
  | .i8 => do let v ← intAcc .i8; pure (.i8 v)
  | .i16 => do let v ← intAcc .i16; pure (.i16 v)
  | .i32 => do let v ← intAcc .i32; pure (.i32 v)
  | .i64 => do let v ← intAcc .i64; pure (.i64 v)
  | .int => do let v ← intAcc .int; pure (.int v)
  | .f16 => do let b ← Dec.f16; pure (.f16 b)
  | .f32 => do let b ← Dec.f32; pure (.f32 b)
  | .f64 => do let b ← Dec.f64; pure (.f64 b)
  | .bytes => do let b ← Dec.bytes; pure (.bytes b)
  | .string => do let b ← Dec.str; pure (.string b)
  | .tag => do let n ← Dec.tag; pure (.tag n)
  | .simple => do let n ← Dec.simple; pure (.simple n)
  | .array => do
      match (← Dec.array) with
      | some n => pure (.array n)
      | none => fail .type
  | .map => do
      match (← Dec.map) with
      | some n => pure (.map n)
      | none => fail .type
  | .bytesIndef => do skipByte; pure .beginBytes
  | .stringIndef => do skipByte; pure .beginString
  | .arrayIndef => do skipByte; pure .beginArray
  | .mapIndef => do skipByte; pure .beginMap
  | .null => do skipByte; pure .null
  | .undefined => do skipByte; pure .undefined
  | .break => do skipByte; pure .brk
  | .unknown _ => fail .type

theorem Dec.token_eq : Dec.token = Dec.datatype >>= Dec.tokenArm := rfl

theorem token_of_datatype {bs : Bytes} {ty : CType} (h : Dec.datatype bs = .ok ty bs) :
    Dec.token bs = Dec.tokenArm ty bs := by
  rw [Dec.token_eq, Dec.bind_run, h]

theorem token_acc {a : C04.Acc} {k : a.Out → Dec Token} {w : WItem} {v : a.Out} (hv : w.Valid)
    (rest : Bytes) (harm : Dec.tokenArm (wType w) = a.run >>= k) (hview : C04.view a w = some v) :
    Dec.token (encW w ++ rest) = k v (C04.after a w ++ rest) := by
  rw [token_of_datatype (datatype_encW w hv rest), harm, Dec.bind_run]
  conv => lhs; rw [C04.consumed_after a w, List.append_assoc, C04.accessor_sound a w hv v hview]

/- NB: `rw [Dec.bind_run]` on goals mentioning `IntTy.u32`/`IntTy.u64` sends the kernel into
   unary arithmetic on the 2^32 / 2^64 literals; `Dec.bind_ok` applied as a term avoids it. -/
theorem token_uint (w : Width) (n : Nat) (rest : Bytes) (h : w.fits n = true) :
    Dec.token (headW 0 w n ++ rest) = .ok (uintTok w n) rest := by
  have hd : Dec.token (headW 0 w n ++ rest) = _ := token_of_datatype (datatype_encW (.uint w n) h rest)
  have key (t : IntTy) (hm : n ≤ t.max) : intAcc t (headW 0 w n ++ rest) = .ok (n : Int) rest :=
    C05.int_accessor_ok t w false n rest h (by simp) hm
  cases w <;> simp only [Width.fits, decide_eq_true_eq] at h
  · have ty : wType (.uint .w0 n) = .u8 := by
      show (if n ≤ 24 then CType.u8 else _) = _
      rw [if_pos (by omega)]
    rw [ty] at hd
    exact hd.trans (Dec.bind_ok _ _ _ _ _ (key .u8 (by show n ≤ 255; omega)))
  · exact hd.trans (Dec.bind_ok _ _ _ _ _ (key .u8 (by show n ≤ 255; omega)))
  · exact hd.trans (Dec.bind_ok _ _ _ _ _ (key .u16 (by show n ≤ 65535; omega)))
  · exact hd.trans (Dec.bind_ok _ _ _ _ _ (key .u32 (by show n ≤ 4294967295; omega)))
  · exact hd.trans (Dec.bind_ok _ _ _ _ _ (key .u64 (by show n ≤ 18446744073709551615; omega)))

theorem token_nint (w : Width) (n : Nat) (rest : Bytes) (h : w.fits n = true) :
    Dec.token (headW 1 w n ++ rest) = .ok (nintTok w n) rest := by
  rw [token_of_datatype (datatype_nintW w n rest h)]
  have key (t : IntTy) (ht : t.neg = true) (hm : n ≤ t.max) :
      intAcc t (headW 1 w n ++ rest) = .ok (-1 - (n : Int)) rest :=
    C05.int_accessor_ok t w true n rest h (fun _ => ht) hm
  cases w <;> simp only [nintType, nintTok, Width.fits, decide_eq_true_eq] at h ⊢
  · exact Dec.bind_ok _ _ _ _ _ (key .i8 rfl (by show n ≤ 127; omega))
  · split
    · exact Dec.bind_ok _ _ _ _ _ (key .i8 rfl (by show n ≤ 127; omega))
    · exact Dec.bind_ok _ _ _ _ _ (key .i16 rfl (by show n ≤ 32767; omega))
  · split
    · exact Dec.bind_ok _ _ _ _ _ (key .i16 rfl (by show n ≤ 32767; omega))
    · exact Dec.bind_ok _ _ _ _ _ (key .i32 rfl (by show n ≤ 2147483647; omega))
  · split
    · exact Dec.bind_ok _ _ _ _ _ (key .i32 rfl (by show n ≤ 2147483647; omega))
    · exact Dec.bind_ok _ _ _ _ _ (key .i64 rfl (by show n ≤ 9223372036854775807; omega))
  · split
    · exact Dec.bind_ok _ _ _ _ _ (key .i64 rfl (by show n ≤ 9223372036854775807; omega))
    · exact Dec.bind_ok _ _ _ _ _ (key .int rfl (by show n ≤ 18446744073709551615; omega))

theorem token_array (w : Width) (n : Nat) (rest : Bytes) (h : w.fits n = true) :
    Dec.token (headW 4 w n ++ rest) = .ok (.array n) rest := by
  rw [token_of_datatype (ty := .array) (datatype_headW 4 w n rest (by decide) (.inl (by decide)) h)]
  exact Dec.bind_ok _ _ _ _ _ (C04.array_sound w n rest h)

theorem token_map (w : Width) (n : Nat) (rest : Bytes) (h : w.fits n = true) :
    Dec.token (headW 5 w n ++ rest) = .ok (.map n) rest := by
  rw [token_of_datatype (ty := .map) (datatype_headW 5 w n rest (by decide) (.inl (by decide)) h)]
  exact Dec.bind_ok _ _ _ _ _ (C04.map_sound w n rest h)

theorem token_tag (w : Width) (n : Nat) (rest : Bytes) (h : w.fits n = true) :
    Dec.token (headW 6 w n ++ rest) = .ok (.tag n) rest := by
  rw [token_of_datatype (ty := .tag) (datatype_headW 6 w n rest (by decide) (.inl (by decide)) h)]
  exact Dec.bind_ok _ _ _ _ _ (C04.tag_sound w n rest h)

theorem token_break (rest : Bytes) : Dec.token (0xff :: rest) = .ok .brk rest := rfl

/-- any byte after `f8`: the decoder does not reject 0..31 here. -/
theorem token_simple_f8 (n : Nat) (rest : Bytes) (h : n < 256) :
    Dec.token (0xf8 :: u8 n :: rest) = .ok (.simple n) rest := by
  have e : Dec.token (0xf8 :: u8 n :: rest) = .ok (.simple (u8 n).toNat) rest := rfl
  rw [e, u8_toNat_mod, Nat.mod_eq_of_lt h]

theorem token_simple (n : Nat) (rest : Bytes) (h : (WItem.simple n).Valid) :
    Dec.token (encW (.simple n) ++ rest) = .ok (simpleTok n) rest := by
  have h' := h
  simp only [WItem.Valid, WItem.valid, Bool.or_eq_true, Bool.and_eq_true, decide_eq_true_eq] at h'
  by_cases h4 : n < 20 ∨ 24 ≤ n
  · rw [simpleTok_of_ne h4]
    refine token_acc (a := .simple) (k := fun n => pure (.simple n)) h rest ?_
      (by simp only [C04.view]; rw [if_pos (by omega)])
    have ty : wType (.simple n) = .simple := by
      have : ¬(n = 20 ∨ n = 21) ∧ n ≠ 22 ∧ n ≠ 23 ∧ n ≠ 25 ∧ n ≠ 26 ∧ n ≠ 27 := by omega
      simp only [wType, headType]; split <;> simp [this]
    rw [ty]; rfl
  · obtain rfl | rfl | rfl | rfl : n = 20 ∨ n = 21 ∨ n = 22 ∨ n = 23 := by omega
    all_goals rfl

theorem steps_chunks (text : Bool) (cs : List (Width × Bytes)) (hv : chunksValid text cs = true)
    (rest : Bytes) :
    Steps Dec.token (chunkToks text cs) (encChunks (if text then 3 else 2) cs ++ rest) rest := by
  induction cs with
  | nil => exact Steps.nil _
  | cons c cs ih =>
    obtain ⟨w, b⟩ := c
    simp only [chunksValid, Bool.and_eq_true] at hv
    obtain ⟨⟨hfit, hu⟩, hrest⟩ := hv
    simp only [encChunks, chunkToks, List.append_assoc]
    refine Steps.cons ?_ (ih hrest)
    cases text
    · simpa [encW, C04.after] using token_acc (a := .bytes) (w := .bytes w b) hfit _ rfl rfl
    · have hv : (WItem.text w b).Valid := by simpa [WItem.Valid, WItem.valid, hfit] using hu
      simpa [encW, C04.after] using token_acc (a := .str) hv _ rfl rfl

mutual
theorem steps_item (w : WItem) (hv : w.valid = true) (rest : Bytes) :
    Steps Dec.token (toks w) (encW w ++ rest) rest := by
  cases w with
  | uint w n => exact Steps.one (token_uint w n rest hv)
  | nint w n => exact Steps.one (token_nint w n rest hv)
  | bytes w b => exact Steps.one (token_acc (a := .bytes) hv rest rfl rfl)
  | text w b => exact Steps.one (token_acc (a := .str) hv rest rfl rfl)
  | bytesI cs =>
    simp only [WItem.valid] at hv
    simp only [encW, toks, List.cons_append, List.append_assoc]
    exact Steps.cons rfl (Steps.append (steps_chunks false cs hv _) (Steps.one (token_break rest)))
  | textI cs =>
    simp only [WItem.valid] at hv
    simp only [encW, toks, List.cons_append, List.append_assoc]
    exact Steps.cons rfl (Steps.append (steps_chunks true cs hv _) (Steps.one (token_break rest)))
  | array w xs =>
    simp only [WItem.valid, Bool.and_eq_true] at hv
    simp only [encW, toks, List.append_assoc]
    exact Steps.cons (token_array w xs.length _ hv.1) (steps_items xs hv.2 rest)
  | arrayI xs =>
    simp only [WItem.valid] at hv
    simp only [encW, toks, List.cons_append, List.append_assoc]
    exact Steps.cons rfl (Steps.append (steps_items xs hv _) (Steps.one (token_break rest)))
  | map w kvs =>
    simp only [WItem.valid, Bool.and_eq_true] at hv
    simp only [encW, toks, List.append_assoc]
    exact Steps.cons (token_map w _ _ hv.1.2) (steps_items kvs hv.2 rest)
  | mapI kvs =>
    simp only [WItem.valid, Bool.and_eq_true] at hv
    simp only [encW, toks, List.cons_append, List.append_assoc]
    exact Steps.cons rfl (Steps.append (steps_items kvs hv.2 _) (Steps.one (token_break rest)))
  | tag w n x =>
    simp only [WItem.valid, Bool.and_eq_true] at hv
    simp only [encW, toks, List.append_assoc]
    exact Steps.cons (token_tag w n _ hv.1) (steps_item x hv.2 rest)
  | simple n => exact Steps.one (token_simple n rest hv)
  | f16 b => exact Steps.one (token_acc (a := .f16) hv rest rfl rfl)
  | f32 b => exact Steps.one (token_acc (a := .f32 true) hv rest rfl rfl)
  | f64 b => exact Steps.one (token_acc (a := .f64 true) hv rest rfl rfl)
theorem steps_items (ws : List WItem) (hv : validAll ws = true) (rest : Bytes) :
    Steps Dec.token (toksL ws) (encWs ws ++ rest) rest := by
  cases ws with
  | nil => exact Steps.nil _
  | cons x xs =>
    simp only [validAll, Bool.and_eq_true] at hv
    simp only [encWs, toksL, List.append_assoc]
    exact Steps.append (steps_item x hv.1 _) (steps_items xs hv.2 rest)
end

end Minicbor

namespace Minicbor.C11
open Dec

theorem tokenize_encW (ws : List WItem) (hv : validAll ws = true) :
    tokens (encWs ws) = some ((ws.flatMap toks).map TokItem.tok) := by
  have := tokens_steps_all (bs := encWs ws) (ts := toksL ws)
    (by simpa using steps_items ws hv [])
  rwa [toksL_eq_flatMap] at this

end Minicbor.C11
