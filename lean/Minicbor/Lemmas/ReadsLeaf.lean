/-
  What each `Encoder` method writes is read back by the matching `Decoder` accessor, in `Reads`
  form (from the C03 "= preferred head" and the C04 / C05 "accessor on any head" theorems).  Stated
  without reference to any of the three integer-kind enumerations of the model (built-in codecs,
  derive, serde): each of them only has to show that its `enc` writes `encPref (intItem v)`.
-/
import Minicbor.Lemmas.Reads
import Minicbor.Thm.C03
import Minicbor.Thm.C04
import Minicbor.Thm.C05

namespace Minicbor
open Dec

def intMag (v : Int) : Nat := if v ≥ 0 then v.toNat else (-1 - v).toNat

theorem encPref_intItem (x : Int) :
    encPref (C03.intItem x) = C05.intHead (decide (x < 0)) (prefWidth (intMag x)) (intMag x) := by
  unfold C03.intItem intMag
  split
  · rw [decide_eq_false (by omega)]; rfl
  · rw [decide_eq_true (by omega)]; rfl

theorem intVal_mag (v : Int) : C05.intVal (decide (v < 0)) (intMag v) = v := by
  unfold C05.intVal intMag
  by_cases hv : v < 0
  · rw [decide_eq_true hv, if_pos rfl, if_neg (by omega)]; omega
  · rw [decide_eq_false hv, if_neg Bool.false_ne_true, if_pos (by omega)]; omega

theorem mag_bounds (t : IntTy) (v : Int) (h1 : t.lo ≤ v) (h2 : v ≤ t.hi) : (v < 0 → t.neg = true) ∧ intMag v ≤ t.max := by
  have hr := (C05.representable_iff t (decide (v < 0)) (intMag v)).1 (by rw [intVal_mag]; exact ⟨h1, h2⟩)
  exact ⟨fun hv => hr.1 (decide_eq_true hv), hr.2⟩

theorem Reads.int (t : IntTy) (v : Int) (h1 : t.lo ≤ v) (h2 : v ≤ t.hi) (ht : t.max < 18446744073709551616) :
    Reads (intAcc t) (encPref (C03.intItem v)) v := fun rest => by
  have hm := mag_bounds t v h1 h2
  rw [encPref_intItem, C05.int_accessor_ok t (prefWidth (intMag v)) (decide (v < 0)) (intMag v) rest
    (prefWidth_fits _ (Nat.lt_of_le_of_lt hm.2 ht)) (by simpa using hm.1) hm.2, intVal_mag]

theorem Reads.bool (b : Bool) : Reads Dec.bool (Enc.bool b) b := by
  rw [C03.bool_pref]; exact C04.bool_sound b

theorem Reads.f32 (b : Nat) (h : b < 4294967296) {half : Bool} : Reads (Dec.f32 half) (Enc.f32 b) b :=
  fun rest => C04.f32_sound b rest h half

theorem Reads.f64 (b : Nat) (h : b < 18446744073709551616) {half : Bool} : Reads (Dec.f64 half) (Enc.f64 b) b :=
  fun rest => C04.f64_sound b rest h half

theorem Reads.str (s : Bytes) (hu : validUtf8 s = true) (hl : s.length < 18446744073709551616) : Reads Dec.str (Enc.str s) s := by
  rw [C03.str_pref s hl]
  exact fun rest => C04.str_sound _ s rest (prefWidth_fits _ hl) hu

theorem Reads.bytes (b : Bytes) (hl : b.length < 18446744073709551616) : Reads Dec.bytes (Enc.bytes b) b := by
  rw [C03.bytes_pref b hl]
  exact fun rest => C04.bytes_sound _ b rest (prefWidth_fits _ hl)

theorem Reads.arrayHead (n : Nat) (h : n < 18446744073709551616) : Reads Dec.array (Enc.array n) (some n) := by
  rw [C03.array_pref n h]; exact fun rest => C04.array_sound _ n rest (prefWidth_fits _ h)

theorem Reads.mapHead (n : Nat) (h : n < 18446744073709551616) : Reads Dec.map (Enc.map n) (some n) := by
  rw [C03.map_pref n h]; exact fun rest => C04.map_sound _ n rest (prefWidth_fits _ h)

theorem Reads.tag (n : Nat) (h : n < 18446744073709551616) : Reads Dec.tag (Enc.tag n) n := by
  rw [C03.tag_pref n h]; exact fun rest => C04.tag_sound _ n rest (prefWidth_fits _ h)

theorem Reads.beginArray : Reads Dec.array Enc.beginArray none := C04.array_indef
theorem Reads.beginMap : Reads Dec.map Enc.beginMap none := C04.map_indef

end Minicbor
