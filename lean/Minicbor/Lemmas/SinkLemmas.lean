/-
  Lemmas for C13: the layout invariant `Lay` of a guarded buffer through one `write_all` step of every bounded sink
  kind, the Encoder's `put` sequence and scripts of Encoder calls; raw `write_all` sequences are scripts of
  single-`put` calls.
-/
import Minicbor.Sink

namespace Minicbor.Sink

/-- layout of a bounded sink's memory: `L` left canary, `A` the bytes accepted so far, `F` the
    still free part of the buffer, `R` right canary. -/
structure Lay (b : Buf) (L A F R : Bytes) : Prop where
  mem : b.mem = L ++ A ++ F ++ R
  base : b.base = L.length
  pos : b.pos = A.length
  cap : b.cap = A.length + F.length

theorem blit_lay (L A F R c : Bytes) (h : c.length ≤ F.length) :
    blit (L ++ A ++ F ++ R) (L.length + A.length) c = L ++ (A ++ c) ++ F.drop c.length ++ R := by
  have e : L ++ A ++ F ++ R = (L ++ A) ++ (F ++ R) := by simp
  rw [blit, e, ← List.length_append, List.take_left' rfl, List.drop_length_add_append,
    List.drop_append_of_le_length h]
  simp

theorem freshBuf_lay (L B R : Bytes) : Lay (freshBuf L B R) L [] B R :=
  ⟨by simp [freshBuf], rfl, rfl, by simp [freshBuf]⟩

theorem Lay.blit {b : Buf} {L A F R : Bytes} (h : Lay b L A F R) (c : Bytes) (hc : c.length ≤ F.length) :
    Lay { b with mem := Sink.blit b.mem (b.base + b.pos) c, pos := b.pos + c.length } L (A ++ c) (F.drop c.length) R :=
  ⟨by rw [h.mem, h.base, h.pos]; exact blit_lay L A F R c hc, h.base, by simp [h.pos],
    by simp [h.cap]; omega⟩

theorem Lay.assoc {b : Buf} {L A F R X Y : Bytes} (h : Lay b L (A ++ X ++ Y) ((F.drop X.length).drop Y.length) R) :
    Lay b L (A ++ (X ++ Y)) (F.drop (X ++ Y).length) R := by
  rwa [List.append_assoc, List.drop_drop, ← List.length_append] at h

/-- the sink kinds with a capacity. -/
inductive BSink where
  | mem (k : BKind)
  | io (step : Nat)
  deriving Repr

/-- the sink of kind `t` over the buffer `b` (a conversion, not a constructor of `BSink`). -/
def BSink.mk : BSink → Buf → Sink
  | .mem k, b => .bounded k b
  | .io st, b => .io b st

/-- the limited writer makes progress. -/
def BSink.good : BSink → Prop
  | .mem _ => True
  | .io st => 0 < st

/-- `write_all` is all-or-nothing. -/
def BSink.atomic : BSink → Bool
  | .mem _ => true
  | .io _ => false

theorem Lay.accepted {b : Buf} {L A F R : Bytes} (h : Lay b L A F R) (t : BSink) :
    (t.mk b).accepted = A ∧ (t.mk b).position = A.length ∧ (t.mk b).memory = L ++ A ++ F ++ R := by
  have e : (b.mem.drop b.base).take b.pos = A := by
    rw [h.mem, h.base, h.pos, List.append_assoc, List.append_assoc, List.drop_left' rfl, List.take_left' rfl]
  cases t <;> exact ⟨e, h.pos, h.mem⟩

/-- what the `put` chunks of one call leave in a sink with `free` bytes left: the chunks as long as
    they fit, then nothing more (all-or-nothing sinks) or the part of the next chunk that still
    fits (`std::io` writer). -/
def fitPrefix (atomic : Bool) : Nat → List Bytes → Bytes
  | _, [] => []
  | free, c :: cs =>
    if c.length ≤ free then c ++ fitPrefix atomic (free - c.length) cs
    else if atomic then [] else c.take free

theorem ioWriteAll_lay (step : Nat) (hstep : 0 < step) (fuel : Nat) :
    ∀ (b : Buf) (A F c : Bytes) (L R : Bytes), Lay b L A F R → c.length < fuel →
      ∃ b', ioWriteAll step fuel b c = (if c.length ≤ F.length then .ok b' else .err b') ∧
        Lay b' L (A ++ c.take F.length) (F.drop c.length) R := by
  -- Fuel `c.length + 1` is enough: a `write` call accepts `n = min step (free space, c.length)` bytes; with
  -- `n > 0` the loop goes on with the shorter `c.drop n`, and `n = 0` on a non-empty `c` means (as `step > 0`)
  -- that the buffer is full, `F = []`, where the loop stops with `WriteZero`.
  induction fuel with
  | zero => intro b A F c L R _ hf; omega
  | succ fuel ih =>
    intro b A F c L R h hf
    by_cases hce : c = []
    · subst hce
      exact ⟨b, by simp [ioWriteAll], by simpa using h⟩
    · have hcl : 0 < c.length := List.length_pos_iff.mpr hce
      have hne : c.isEmpty = false := by simpa using hce
      have hn : min (min step (b.cap - b.pos)) c.length = min (min step F.length) c.length := by
        rw [h.cap, h.pos, Nat.add_sub_cancel_left]
      generalize hnd : min (min step F.length) c.length = n at hn
      have hnF : n ≤ F.length := hnd ▸ Nat.le_trans (Nat.min_le_left _ _) (Nat.min_le_right _ _)
      have hnc : n ≤ c.length := hnd ▸ Nat.min_le_right _ _
      have hfull : n = 0 → F.length = 0 := by omega
      clear hnd
      have hl : (c.take n).length = n := by simp; omega
      have hlay1 : Lay (ioWrite b step c).1 L (A ++ c.take n) (F.drop n) R := by
        have := h.blit (c.take n) (by omega)
        simpa only [ioWrite, hn, hl] using this
      have hr2 : (ioWrite b step c).2 = n := by simp only [ioWrite, hn]
      clear hn
      by_cases hn0 : n = 0
      · have hF : F = [] := List.eq_nil_of_length_eq_zero (hfull hn0)
        subst hF hn0
        exact ⟨(ioWrite b step c).1, by simp [ioWriteAll, hne, hr2, Nat.not_le.mpr hcl], by simpa using hlay1⟩
      · obtain ⟨b', e, l⟩ := ih _ _ _ (c.drop n) L R hlay1 (by simp; omega)
        refine ⟨b', ?_, ?_⟩
        · have : ((c.drop n).length ≤ (F.drop n).length) = (c.length ≤ F.length) := by
            simp only [List.length_drop, eq_iff_iff]; omega
          simp only [this] at e
          rw [← e]
          simp [ioWriteAll, hne, hr2, hn0]
        · rwa [List.append_assoc, List.length_drop, ← List.take_add, List.drop_drop, List.length_drop,
            show n + (F.length - n) = F.length by omega, show n + (c.length - n) = c.length by omega] at l

theorem writeAll_lay (t : BSink) (ht : t.good) {b : Buf} {L A F R : Bytes} (h : Lay b L A F R) (c : Bytes) :
    ∃ b', (t.mk b).writeAll c = (if c.length ≤ F.length then .ok (t.mk b') else .err (t.mk b')) ∧
      Lay b' L (A ++ fitPrefix t.atomic F.length [c]) (F.drop (fitPrefix t.atomic F.length [c]).length) R := by
  cases t with
  | mem k =>
    have h3 : ¬ (b.pos > b.cap) := by rw [h.cap, h.pos]; omega
    by_cases hc : c.length ≤ F.length
    · have h1 : ¬ (b.cap - b.pos < c.length) := by rw [h.cap, h.pos]; omega
      refine ⟨_, ?_, by simpa [fitPrefix, hc] using h.blit c hc⟩
      cases k <;> simp [BSink.mk, Sink.writeAll, Buf.write, sliceWriteAll, h1, h3, hc]
    · have h1 : b.cap - b.pos < c.length := by rw [h.cap, h.pos]; omega
      refine ⟨b, ?_, by simpa [fitPrefix, hc, BSink.atomic] using h⟩
      cases k <;> simp [BSink.mk, Sink.writeAll, Buf.write, sliceWriteAll, h1, h3, hc]
  | io st =>
    obtain ⟨b', e, l⟩ := ioWriteAll_lay st ht (c.length + 1) b A F c L R h (by omega)
    by_cases hc : c.length ≤ F.length
    · exact ⟨b', by simp [BSink.mk, Sink.writeAll, e, hc],
        by simpa [fitPrefix, hc, List.take_of_length_le hc] using l⟩
    · exact ⟨b', by simp [BSink.mk, Sink.writeAll, e, hc],
        by simpa [fitPrefix, hc, BSink.atomic, Nat.min_eq_left (Nat.le_of_not_le hc),
          List.drop_eq_nil_of_le (Nat.le_of_not_le hc)] using l⟩

theorem fitPrefix_le (atomic : Bool) (cs : List Bytes) : ∀ free, (fitPrefix atomic free cs).length ≤ free := by
  induction cs with
  | nil => intro free; simp [fitPrefix]
  | cons c cs ih =>
    intro free
    unfold fitPrefix
    split
    · have := ih (free - c.length); simp; omega
    · cases atomic <;> simp; omega

theorem fitPrefix_prefix (atomic : Bool) (cs : List Bytes) : ∀ free, fitPrefix atomic free cs <+: cs.flatten := by
  induction cs with
  | nil => intro free; simp [fitPrefix]
  | cons c cs ih =>
    intro free
    unfold fitPrefix
    split
    · simpa using (List.prefix_append_right_inj c).mpr (ih (free - c.length))
    · cases atomic
      · simpa using List.IsPrefix.trans (List.take_prefix _ _) (List.prefix_append _ _)
      · simp

theorem fitPrefix_all (atomic : Bool) (cs : List Bytes) : ∀ free, cs.flatten.length ≤ free →
    fitPrefix atomic free cs = cs.flatten := by
  induction cs with
  | nil => intro free _; simp [fitPrefix]
  | cons c cs ih =>
    intro free h
    simp only [List.flatten_cons, List.length_append] at h
    unfold fitPrefix
    rw [if_pos (by omega), ih (free - c.length) (by omega)]; simp

theorem putAll_fit (t : BSink) (ht : t.good) (cs : List Bytes) :
    ∀ {b : Buf} {L A F R : Bytes}, Lay b L A F R →
      ∃ b', (t.mk b).putAll cs = (if cs.flatten.length ≤ F.length then .ok (t.mk b') else .err (t.mk b')) ∧
        Lay b' L (A ++ fitPrefix t.atomic F.length cs) (F.drop (fitPrefix t.atomic F.length cs).length) R := by
  induction cs with
  | nil => intro b L A F R h; exact ⟨b, by simp [Sink.putAll], by simpa [fitPrefix] using h⟩
  | cons c cs ih =>
    intro b L A F R h
    obtain ⟨b1, e1, l1⟩ := writeAll_lay t ht h c
    by_cases hc : c.length ≤ F.length
    · simp only [fitPrefix, hc, if_true, List.append_nil] at e1 l1
      obtain ⟨b', e, l⟩ := ih l1
      refine ⟨b', ?_, by simpa only [fitPrefix, hc, if_true, List.length_drop] using l.assoc⟩
      have : (cs.flatten.length ≤ (F.drop c.length).length) = ((c :: cs).flatten.length ≤ F.length) := by
        simp only [List.length_drop, List.flatten_cons, List.length_append, eq_iff_iff]; omega
      simp only [this] at e
      simp only [Sink.putAll, e1, e]
    · simp only [fitPrefix, hc, if_false] at e1 l1
      refine ⟨b1, ?_, by simpa only [fitPrefix, hc, if_false] using l1⟩
      have : ¬ (c :: cs).flatten.length ≤ F.length := by
        simp only [List.flatten_cons, List.length_append]; omega
      simp only [Sink.putAll, e1, this, if_false]

/-- a script of Encoder calls (carrying on after failures) on a sink with `free` bytes left: a call succeeds
    iff all its chunks fit into what is left then, and leaves `fitPrefix` behind either way. -/
def specCalls (atomic : Bool) : Nat → List (List Bytes) → List Bool × Bytes
  | _, [] => ([], [])
  | free, ps :: rest =>
    let a := fitPrefix atomic free ps
    let r := specCalls atomic (free - a.length) rest
    (decide (ps.flatten.length ≤ free) :: r.1, a ++ r.2)

theorem specCalls_le (atomic : Bool) (pss : List (List Bytes)) : ∀ free, (specCalls atomic free pss).2.length ≤ free := by
  induction pss with
  | nil => intro free; simp [specCalls]
  | cons ps rest ih =>
    intro free
    have h1 := fitPrefix_le atomic ps free
    have h2 := ih (free - (fitPrefix atomic free ps).length)
    simp only [specCalls, List.length_append]; omega

theorem callSeq_spec (t : BSink) (ht : t.good) (pss : List (List Bytes)) :
    ∀ {b : Buf} {L A F R : Bytes}, Lay b L A F R →
      ∃ b', (t.mk b).callSeq pss = some (t.mk b', (specCalls t.atomic F.length pss).1) ∧
        Lay b' L (A ++ (specCalls t.atomic F.length pss).2) (F.drop (specCalls t.atomic F.length pss).2.length) R := by
  induction pss with
  | nil => intro b L A F R h; exact ⟨b, rfl, by simpa [specCalls] using h⟩
  | cons ps rest ih =>
    intro b L A F R h
    obtain ⟨b1, e1, l1⟩ := putAll_fit t ht ps h
    obtain ⟨b', e, l⟩ := ih l1
    refine ⟨b', ?_, by simpa only [specCalls, List.length_drop] using l.assoc⟩
    by_cases hf : ps.flatten.length ≤ F.length <;>
      simp only [Sink.callSeq, e1, hf, if_true, if_false, e, specCalls, decide_true, decide_false,
        List.length_drop, Option.map_some]

/-- the same for a sequence of raw `write_all` calls. -/
def specSeq (atomic : Bool) : Nat → List Bytes → List Bool × Bytes
  | _, [] => ([], [])
  | free, c :: cs =>
    if c.length ≤ free then
      let r := specSeq atomic (free - c.length) cs
      (true :: r.1, c ++ r.2)
    else
      let taken := if atomic then [] else c.take free
      let r := specSeq atomic (free - taken.length) cs
      (false :: r.1, taken ++ r.2)

theorem writeSeq_eq_callSeq (cs : List Bytes) : ∀ s : Sink, s.writeSeq cs = s.callSeq (cs.map fun c => [c]) := by
  induction cs with
  | nil => intro s; rfl
  | cons c cs ih =>
    intro s
    cases h : s.writeAll c <;> simp [Sink.writeSeq, Sink.callSeq, Sink.putAll, h, ih]

theorem specSeq_eq_specCalls (atomic : Bool) (cs : List Bytes) :
    ∀ free, specSeq atomic free cs = specCalls atomic free (cs.map fun c => [c]) := by
  induction cs with
  | nil => intro free; rfl
  | cons c cs ih =>
    intro free
    by_cases hc : c.length ≤ free <;> simp [specSeq, specCalls, fitPrefix, hc, ih]

end Minicbor.Sink
