/-
  Decidable side conditions on type descriptors used by the C01 / C03 / C04 / C07 theorems, all of the
  form "a node predicate holds at every node of the descriptor".
-/
import Minicbor.Types

namespace Minicbor

mutual
def Ty.all (p : Ty → Bool) : Ty → Bool
  | .opt a => p (.opt a) && Ty.all p a
  | .seq a => p (.seq a) && Ty.all p a
  | .arr n a => p (.arr n a) && Ty.all p a
  | .tagged n a => p (.tagged n a) && Ty.all p a
  | .map k v => p (.map k v) && Ty.all p k && Ty.all p v
  | .tup ts => p (.tup ts) && Ty.allL p ts
  | .enum ts => p (.enum ts) && Ty.allL p ts
  | .fields ts => p (.fields ts) && Ty.allL p ts
  | .int k => p (.int k)
  | .bool => p .bool | .char => p .char | .f32 => p .f32 | .f64 => p .f64 | .str => p .str
  | .bytes => p .bytes | .barr n => p (.barr n) | .cstr => p .cstr | .unit => p .unit
  | .skipUnit => p .skipUnit | .nz k => p (.nz k) | .tag => p .tag | .duration => p .duration
  | .systime => p .systime
def Ty.allL (p : Ty → Bool) : List Ty → Bool
  | [] => true
  | t :: ts => Ty.all p t && Ty.allL p ts
end

theorem Ty.allL_get (p : Ty → Bool) (ts : List Ty) (i : Nat) (t : Ty) (h : Ty.allL p ts = true)
    (hi : ts[i]? = some t) : Ty.all p t = true := by
  induction ts generalizing i with
  | nil => simp at hi
  | cons x xs ih =>
    simp only [Ty.allL, Bool.and_eq_true] at h
    cases i with
    | zero => simp at hi; subst hi; exact h.1
    | succ j => simp at hi; exact ih j h.2 hi

mutual
theorem Ty.all_true : ∀ t : Ty, Ty.all (fun _ => true) t = true
  | .opt a | .seq a | .arr _ a | .tagged _ a => by rw [Ty.all, Ty.all_true a]; rfl
  | .map k v => by rw [Ty.all, Ty.all_true k, Ty.all_true v]; rfl
  | .tup ts | .enum ts | .fields ts => by rw [Ty.all, Ty.allL_true ts]; rfl
  | .int _ | .bool | .char | .f32 | .f64 | .str | .bytes | .barr _ | .cstr | .unit | .skipUnit | .nz _ | .tag
  | .duration | .systime => rfl
theorem Ty.allL_true : ∀ ts : List Ty, Ty.allL (fun _ => true) ts = true
  | [] => rfl
  | t :: ts => by rw [Ty.allL, Ty.all_true t, Ty.allL_true ts]; rfl
end

mutual
theorem Ty.all_and (p q : Ty → Bool) :
    ∀ t : Ty, Ty.all (fun t => p t && q t) t = (Ty.all p t && Ty.all q t)
  | .opt a | .seq a | .arr _ a | .tagged _ a => by
      simp only [Ty.all, Ty.all_and p q a, Bool.and_assoc, Bool.and_left_comm]
  | .map k v => by
      simp only [Ty.all, Ty.all_and p q k, Ty.all_and p q v, Bool.and_assoc, Bool.and_left_comm]
  | .tup ts | .enum ts | .fields ts => by
      simp only [Ty.all, Ty.allL_and p q ts, Bool.and_assoc, Bool.and_left_comm]
  | .int _ | .bool | .char | .f32 | .f64 | .str | .bytes | .barr _ | .cstr | .unit | .skipUnit | .nz _ | .tag
  | .duration | .systime => rfl
theorem Ty.allL_and (p q : Ty → Bool) :
    ∀ ts : List Ty, Ty.allL (fun t => p t && q t) ts = (Ty.allL p ts && Ty.allL q ts)
  | [] => rfl
  | t :: ts => by
      simp only [Ty.allL, Ty.all_and p q t, Ty.allL_and p q ts, Bool.and_assoc, Bool.and_left_comm]
end

theorem Ty.all_both {p q : Ty → Bool} {t : Ty} (hp : t.all p = true) (hq : t.all q = true) :
    t.all (fun t => p t && q t) = true :=
  (Ty.all_and p q t).trans (by rw [hp, hq]; rfl)

/-- nowhere in the type does an `Option` sit directly inside an `Option` (`Option<Option<T>>`, also
    when reached through transparent wrappers, which the descriptors erase): the one representation
    that is lossy by construction, because `Some(None)` and `None` are both written as the byte `f6`. -/
def Ty.noOptOptNode : Ty → Bool
  | .opt (.opt _) => false
  | _ => true
def Ty.NoOptOpt (t : Ty) : Bool := t.all Ty.noOptOptNode

/-- the compile-time constants fit their Rust types: `Tagged<const N: u64, T>` and the `u32`
    variant index of the `[index, payload]` enums. -/
def Ty.wfNode : Ty → Bool
  | .tagged n _ => n < 18446744073709551616
  | .enum ts => ts.length ≤ 4294967296
  | _ => true
def Ty.WF (t : Ty) : Bool := t.all Ty.wfNode

/-- tuples and `decode_fields!` records have at most 23 components (Rust: at most 16),
    `[index, payload]` enums at most 24 variants (Rust: at most 3), so that their array heads and
    variant indices are one byte, which is what the `CborLen` impls hard-code. -/
def Ty.arityNode : Ty → Bool
  | .tup ts => ts.length ≤ 23
  | .fields ts => ts.length ≤ 23
  | .enum ts => ts.length ≤ 24
  | _ => true
def Ty.SmallArity (t : Ty) : Bool := t.all Ty.arityNode

/-- `minicbor::data::Tag` does not occur in the type.  Its `Encode` impl writes only the tag head
    (`e.tag(*self)`), to be followed by an item the caller writes; on its own — or as an element of
    a counted container — that is not a well-formed data item. -/
def Ty.noBareTagNode : Ty → Bool
  | .tag => false
  | _ => true
def Ty.NoBareTag (t : Ty) : Bool := t.all Ty.noBareTagNode

/-- what the inductions ask of every node: `roundtrip_all` (C01) and `pref_all` (C03). -/
def Ty.rtNode (t : Ty) : Bool := t.wfNode && t.noOptOptNode

def Ty.prefNode (t : Ty) : Bool := t.wfNode && t.noBareTagNode

end Minicbor
