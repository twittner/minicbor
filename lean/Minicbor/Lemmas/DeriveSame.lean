/-
  A version of a type reading what it wrote itself: the whole body (`fieldsDec_rt`), one item
  (`runAt_hit`), the four loops on the cells / entries the encoder writes and the initialiser
  (`resolve_inv`), each as the instance reader = writer of the reader-against-writer statements of
  DeriveSlots.lean, DeriveSlotLoops.lean and DeriveCompat.lean.
-/
import Minicbor.Lemmas.DeriveCompat

namespace Minicbor.Derive
open Minicbor.Dec

theorem fieldsDec_rt (enc : Encoding) (fs : Fields) (vs : List Val) (rest : Bytes)
    (hacc : acceptedFields fs = true) (hnd : (liveIdxs fs).Nodup) (hty : hasFields fs vs = true)
    (hrt : FieldsRT fs vs) :
    fieldsDec enc (decFields fs) (frame enc (encFields fs vs) ++ rest) = .ok (defaultsFields fs vs) rest := by
  rw [fieldsDec_same enc fs vs fs rest hacc hnd hty hrt hacc hnd (sameHyp_self enc fs vs hty hnd),
    expectSame_self fs vs hty hnd]

section
variable (fs : Fields) (vs : List Val) (hacc : acceptedFields fs = true) (hnd : (liveIdxs fs).Nodup)
  (hty : hasFields fs vs = true) (hrt : FieldsRT fs vs)
include hacc hnd hty hrt

theorem runAt_hit (σ : Nat → Option Val) (r : Bytes) (ss : Slots) (hi : InvR σ fs ss) (p : Piece Bytes)
    (hp : p ∈ encFields fs vs) :
    ∃ ss', runAt (decFields fs) ss p.idx (tagBytes p.tag ++ (p.body ++ r)) = .ok ss' r
      ∧ InvR (updR σ p.idx (rhoSame fs vs fs p.idx)) fs ss' :=
  List.append_assoc .. ▸ runAtR_step σ p.idx _ r _ fs ss hnd hi
    (stepH_samePiece .array fs vs fs hnd hrt hacc (sameHyp_self _ fs vs hty hnd) p hp)

theorem arrLoopN_cells (rest : Bytes) (n c : Nat) (ss : Slots) (σ : Nat → Option Val) (hi : InvR σ fs ss) :
    ∃ ss', arrLoopN (decFields fs) n c ss
        (encPrefs ((List.range' c n).map (cellAt (specFields fs vs))) ++ rest) = .ok ss' rest
      ∧ InvR (ovr σ (rhoSame fs vs fs) c n) fs ss' :=
  arrLoopN_cellsR rest fs _ _ hnd n c ss σ hi fun i _ _ =>
    stepH_sameCell .array fs vs fs hacc hty hrt hacc hnd (sameHyp_self _ fs vs hty hnd) i

theorem arrLoopI_cells (rest : Bytes) (n c : Nat) (ss : Slots) (σ : Nat → Option Val) (fuel : Nat) (hf : n < fuel)
    (hi : InvR σ fs ss) (hst : ∀ i, c ≤ i → i < c + n → startNB (encPref (cellAt (specFields fs vs) i)) = true) :
    ∃ ss', arrLoopI (decFields fs) fuel c ss
        (encPrefs ((List.range' c n).map (cellAt (specFields fs vs))) ++ 0xff :: rest) = .ok ss' rest
      ∧ InvR (ovr σ (rhoSame fs vs fs) c n) fs ss' :=
  catX_encPref (cellAt (specFields fs vs)) c n ▸ arrLoopI_X rest fs _ _ hnd n c ss σ fuel hf hi
    (fun i _ _ => stepH_sameCell .array fs vs fs hacc hty hrt hacc hnd (sameHyp_self _ fs vs hty hnd) i) hst

theorem mapLoopN_stmts (rest : Bytes) (S : List (Piece Bytes)) (ss : Slots) (σ : Nat → Option Val)
    (hS : ∀ p ∈ S, p ∈ encFields fs vs ∧ p.idx < U32) (hi : InvR σ fs ss) :
    ∃ ss', mapLoopN (decFields fs) (countPresent S) ss (mapStmts S ++ rest) = .ok ss' rest
      ∧ InvR (ovrM σ (rhoSame fs vs fs) S) fs ss' :=
  mapLoopN_stmtsR rest fs _ hnd S ss σ hi (fun p hp => (hS p hp).2) fun p hp _ =>
    stepH_samePiece .map fs vs fs hnd hrt hacc (sameHyp_self _ fs vs hty hnd) p (hS p hp).1

theorem mapLoopI_stmts (rest : Bytes) (S : List (Piece Bytes)) (ss : Slots) (σ : Nat → Option Val) (fuel : Nat)
    (hf : countPresent S < fuel) (hS : ∀ p ∈ S, p ∈ encFields fs vs ∧ p.idx < U32) (hi : InvR σ fs ss) :
    ∃ ss', mapLoopI (decFields fs) fuel ss (mapStmts S ++ 0xff :: rest) = .ok ss' rest
      ∧ InvR (ovrM σ (rhoSame fs vs fs) S) fs ss' :=
  mapLoopI_stmtsR rest fs _ hnd S ss σ fuel hf hi (fun p hp => (hS p hp).2) fun p hp _ =>
    stepH_samePiece .map fs vs fs hnd hrt hacc (sameHyp_self _ fs vs hty hnd) p (hS p hp).1

omit hrt in
theorem resolve_inv (enc : Encoding) (ss : Slots) (hi : InvR (sigmaF enc fs vs (rhoSame fs vs fs)) fs ss) (r : Bytes) :
    resolve (decFields fs) ss r = .ok (defaultsFields fs vs) r :=
  have h := readerVals_self enc fs vs hacc hty hnd
  h.1 ▸ resolveR _ fs ss hi h.2 r

end

end Minicbor.Derive
