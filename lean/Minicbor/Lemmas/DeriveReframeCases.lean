/-
  The predicates of Reframe.lean, case by case: what `arrItems` / `mapItems`, `bodyCells`, `gapsNull`,
  `pairItems` say of a tree, `rf` at each type constructor and field by field, which indices a re-framed
  body holds, and the first byte of a valid tree.  Both the decoder on re-framed input
  (DeriveReframe.lean) and the characterisation of `rf` (DeriveReframeIff.lean) start from these; no
  decoder loop is run here.
-/
import Minicbor.Reframe
import Minicbor.Lemmas.DeriveLookup

namespace Minicbor.Derive
open Minicbor.Dec

/-- the converse of `datatype_startNB`, for bytes on which `datatype` answers without what follows them. -/
theorem startNB_of_datatype {bs : Bytes} {ty : CType} (h : datatype bs = .ok ty bs) (hb : ty ≠ .break) : startNB bs = true := by
  match bs, h with
  | b :: tl, h =>
    refine (startNB_cons b tl).2 ⟨fun e => hb ?_, fun hr e => ?_⟩
    · rw [UInt8.toNat_inj.mp (show b.toNat = (0xff : UInt8).toNat from e)] at h
      exact (Res.ok.inj h).1.symm
    · rw [e, datatype_alone b hr] at h; cases h

/-- `datatype()` at a valid item answers neither `Break` nor — unless the item is `null` — `Null`. -/
theorem start_encW (w : WItem) (hv : w.valid = true) :
    startNB (encW w) = true ∧ (isNullW w = false → startOk (encW w) = true) := by
  have hd := datatype_encW w hv []
  rw [List.append_nil] at hd
  refine ⟨startNB_of_datatype hd (wType_ne w).1, fun hn => startOk_of_datatype hd fun e => ?_⟩
  rw [(wType_ne w).2 e] at hn; cases hn

theorem startNB_encW (w : WItem) (hv : w.valid = true) : startNB (encW w) = true := (start_encW w hv).1

theorem startOk_encW (w : WItem) (hv : w.valid = true) (hn : isNullW w = false) : startOk (encW w) = true :=
  (start_encW w hv).2 hn

theorem isNullW_eq (w : WItem) (h : isNullW w = true) : w = .simple 22 := by
  cases w <;> simp [isNullW] at h
  subst h; rfl

theorem encW_null : encW (.simple 22) = Enc.null := rfl

theorem arrItems_inv {w : WItem} {xs : List WItem} (h : arrItems w = some xs) :
    (∃ wd, w = .array wd xs) ∨ w = .arrayI xs := by
  cases w with
  | array wd ys => cases h; exact Or.inl ⟨wd, rfl⟩
  | arrayI ys => cases h; exact Or.inr rfl
  | _ => cases h

theorem mapItems_inv {w : WItem} {kvs : List WItem} (h : mapItems w = some kvs) :
    (∃ wd, w = .map wd kvs) ∨ w = .mapI kvs := by
  cases w with
  | map wd ys => cases h; exact Or.inl ⟨wd, rfl⟩
  | mapI ys => cases h; exact Or.inr rfl
  | _ => cases h

theorem arrItems_valid {w : WItem} {xs : List WItem} (h : arrItems w = some xs) (hv : w.valid = true) :
    validAll xs = true := by
  rcases arrItems_inv h with ⟨wd, rfl⟩ | rfl
  · exact (Bool.and_eq_true _ _ ▸ hv : _ ∧ _).2
  · exact hv

theorem mapItems_valid {w : WItem} {kvs : List WItem} (h : mapItems w = some kvs) (hv : w.valid = true) :
    validAll kvs = true := by
  rcases mapItems_inv h with ⟨wd, rfl⟩ | rfl <;> exact (Bool.and_eq_true _ _ ▸ hv : _ ∧ _).2

theorem isEmptyW_array {body : WItem} : isEmptyW .array body = true ↔ arrItems body = some [] := by
  simp only [isEmptyW]
  cases arrItems body with
  | none => simp
  | some xs => cases xs <;> simp

theorem isEmptyW_map {body : WItem} : isEmptyW .map body = true ↔ mapItems body = some [] := by
  simp only [isEmptyW]
  cases mapItems body with
  | none => simp
  | some xs => cases xs <;> simp

theorem gapsNull_iff {fs : Fields} {xs : List WItem} :
    gapsNull fs xs = true ↔ ∀ i x, xs[i]? = some x → i ∉ liveIdxs fs → isNullW x = true := by
  simp only [gapsNull, List.all_eq_true, List.mem_range, Bool.or_eq_true, List.contains_eq_mem, decide_eq_true_eq]
  constructor
  · intro h i x hx hni
    have := h i (List.getElem?_eq_some_iff.1 hx).1
    rw [hx] at this
    exact this.resolve_left hni
  · intro h i hi
    by_cases hm : i ∈ liveIdxs fs
    · exact Or.inl hm
    · right; rw [List.getElem?_eq_getElem hi]; exact h i _ (List.getElem?_eq_getElem hi) hm

theorem bodyCells_array {fs : Fields} {vs : List Val} {body : WItem} {cell : Nat → Option WItem} :
    bodyCells .array fs vs body = some cell ↔
      ∃ xs, arrItems body = some xs ∧ xs.length = arrLen fs vs ∧ gapsNull fs xs = true ∧ (fun i => xs[i]?) = cell := by
  simp only [bodyCells]
  cases arrItems body with
  | none => simp
  | some xs => simp [and_assoc]

theorem bodyCells_map {fs : Fields} {vs : List Val} {body : WItem} {cell : Nat → Option WItem} :
    bodyCells .map fs vs body = some cell ↔
      ∃ kvs es, mapItems body = some kvs ∧ entriesW kvs = some es ∧ es.map (·.1) = presentIdxs fs vs ∧
        (fun i => (es.find? (fun e => e.1 == i)).map (·.2.2)) = cell := by
  simp only [bodyCells]
  cases mapItems body with
  | none => simp
  | some kvs => cases hes : entriesW kvs <;> simp [hes]

theorem rf_vec_iff {t : FTy} {vs : List Val} {w : WItem} :
    rf (.vec t) (.list vs) w = true ↔ ∃ xs, arrItems w = some xs ∧ all2 (rf t) vs xs = true := by
  simp only [rf]
  cases arrItems w <;> simp

theorem rf_struct_iff {a : SAttr} {fs : Fields} {vs : List Val} {w : WItem} (htr : a.transparent = false) :
    rf (.struct a fs) (.struct vs) w = true ↔ ∃ body, untagW a.tag w = some body ∧
      ∃ cell, bodyCells (a.enc.getD .array) fs vs body = some cell ∧ rfFields fs vs cell = true := by
  simp only [rf, htr, Bool.false_eq_true, if_false]
  cases untagW a.tag w with
  | none => simp
  | some body => cases hbc : bodyCells (a.enc.getD .array) fs vs body <;> simp [hbc]

theorem rf_transparent {a : SAttr} {fa : FAttr} {ft : FTy} {x : Val} {w : WItem} (htr : a.transparent = true) :
    rf (.struct a [(fa, ft)]) (.struct [x]) w = rfWith fa.codec (rf ft) x w := by
  simp only [rf, htr, if_true, rfOne]

theorem rf_enum_iff {e : EAttr} {vars : Variants} {k : Nat} {vs : List Val} {w : WItem} :
    rf (.enum e vars) (.enum k vs) w = true ↔ ∃ w', untagW e.tag w = some w' ∧ rfVars e vars k vs w' = true := by
  simp only [rf]
  cases untagW e.tag w <;> simp

theorem pairItems_iff {w kx bx : WItem} : pairItems w = some (kx, bx) ↔ arrItems w = some [kx, bx] := by
  cases w with
  | array wd xs => rcases xs with _ | ⟨a, _ | ⟨b, _ | _⟩⟩ <;> simp [pairItems, arrItems]
  | arrayI xs => rcases xs with _ | ⟨a, _ | ⟨b, _ | _⟩⟩ <;> simp [pairItems, arrItems]
  | _ => simp [pairItems, arrItems]

theorem pairItems_inv (w : WItem) (kx bx : WItem) (h : pairItems w = some (kx, bx)) :
    (∃ wd, w = .array wd [kx, bx]) ∨ w = .arrayI [kx, bx] :=
  arrItems_inv (pairItems_iff.1 h)

theorem rfVars_zero_iff {e : EAttr} {va : VAttr} {fs : Fields} {rest : Variants} {vs : List Val} {w : WItem}
    (hix : e.indexOnly = false) :
    rfVars e ((va, fs) :: rest) 0 vs w = true ↔ ∃ kx bx body, pairItems w = some (kx, bx) ∧
      isUintW va.idx kx = true ∧ untagW va.tag bx = some body ∧
      (va.shape = .unit → isEmptyW (va.enc.getD (e.enc.getD .array)) body = true) ∧
      (va.shape ≠ .unit → ∃ cell, bodyCells (va.enc.getD (e.enc.getD .array)) fs vs body = some cell ∧
        rfFields fs vs cell = true) := by
  simp only [rfVars, hix, Bool.false_eq_true, if_false]
  cases pairItems w with
  | none => simp
  | some p =>
    obtain ⟨kx, bx⟩ := p
    cases hu : untagW va.tag bx with
    | none => simp [hu]
    | some body =>
      cases hbc : bodyCells (va.enc.getD (e.enc.getD .array)) fs vs body <;> cases hsh : va.shape <;>
        simp [hu, hbc, and_assoc]

theorem rfVars_nth (e : EAttr) : ∀ (vars : Variants) (k : Nat) (vs : List Val) (w : WItem) (va : VAttr) (fs : Fields),
    vars[k]? = some (va, fs) → rfVars e vars k vs w = rfVars e [(va, fs)] 0 vs w
  | [], _, _, _, _, _, h => by simp at h
  | (va', fs') :: rest, 0, vs, w, va, fs, h => by
    simp at h
    obtain ⟨rfl, rfl⟩ := h
    simp only [rfVars]
  | (va', fs') :: rest, k + 1, vs, w, va, fs, h => by
    simp at h
    simp only [rfVars]
    exact rfVars_nth e rest k vs w va fs h

theorem isUintW_eq (n : Nat) (w : WItem) (h : isUintW n w = true) : ∃ wd, w = .uint wd n := by
  cases w <;> simp [isUintW] at h
  rename_i wd m
  exact ⟨wd, by rw [h]⟩

theorem rfWith_of_ne {c : Codec} (h : c ≠ .nilu) (f : Val → WItem → Bool) : rfWith c f = f := by
  cases c <;> first | rfl | exact absurd rfl h

theorem rfFields_iff (cell : Nat → Option WItem) : ∀ (fs : Fields) (vs : List Val), hasFields fs vs = true →
    (liveIdxs fs).Nodup →
    (rfFields fs vs cell = true ↔ ∀ i a t v x, lookupVal fs vs i = some (a, t, v) → cell i = some x →
      ∃ y, untagW a.tag x = some y ∧ rfWith a.codec (rf t) v y = true)
  | [], [], _, _ => by simp [rfFields, lookupVal]
  | (a, t) :: fs, v :: vs, hty, hnd => by
    simp only [hasFields, Bool.and_eq_true] at hty
    have hhead : (a.skip = true ∨ (match cell a.idx with
        | none => true
        | some x => (match untagW a.tag x with
          | some y => rfWith a.codec (rf t) v y
          | none => false)) = true) ↔
        (a.skip = false → ∀ x, cell a.idx = some x → ∃ y, untagW a.tag x = some y ∧ rfWith a.codec (rf t) v y = true) := by
      cases hs : a.skip <;> cases hc : cell a.idx <;> simp
      rename_i x
      cases hu : untagW a.tag x <;> simp
    simp only [rfFields, Bool.and_eq_true, Bool.or_eq_true, rfFields_iff cell fs vs hty.2 (nodup_liveIdxs_cons hnd).2]
    constructor
    · rintro ⟨h1, h2⟩ i a' t' v' x hl hc
      rcases lookupVal_cons_inv hl with ⟨hs, rfl, e⟩ | hl'
      · cases e
        exact hhead.1 h1 hs x hc
      · exact h2 i a' t' v' x hl' hc
    · exact fun h => ⟨hhead.2 fun hs x hc => h a.idx a t v x (lookupVal_head hs) hc,
        fun i a' t' v' x hl hc => h i a' t' v' x (lookupVal_tail hnd hl) hc⟩
  | [], _ :: _, h, _ => by simp [hasFields] at h
  | _ :: _, [], h, _ => by simp [hasFields] at h

theorem find_key {β : Type} (es : List (Nat × β)) (e : Nat × β) (nd : (es.map (·.1)).Nodup) (h : e ∈ es) :
    es.find? (fun q => q.1 == e.1) = some e :=
  find?_of_mem nd h (by simp) fun q _ hq => by simpa using hq

theorem mem_presentIdxs (fs : Fields) (vs : List Val) (i : Nat) :
    i ∈ presentIdxs fs vs ↔ ∃ p ∈ encFields fs vs, p.nil = false ∧ p.idx = i := by
  simp only [presentIdxs, List.mem_map, List.mem_filter, Bool.not_eq_true']
  constructor
  · rintro ⟨p, ⟨hp, hn⟩, rfl⟩
    exact ⟨p, (sortP_perm _).mem_iff.1 hp, hn, rfl⟩
  · rintro ⟨p, hp, hn, rfl⟩
    exact ⟨p, ⟨(sortP_perm _).mem_iff.2 hp, hn⟩, rfl⟩

theorem presentIdxs_spec (fs : Fields) (vs : List Val) (hacc : acceptedFields fs = true) (hty : hasFields fs vs = true) :
    presentIdxs fs vs = ((sortP (specFields fs vs)).filter (fun p => !p.nil)).map (·.idx) := by
  unfold presentIdxs
  rw [C08.fields_spec fs vs hacc hty, sortP_map toBytes (fun _ => rfl)]
  simp [List.filter_map, Function.comp_def]

theorem presentIdxs_nodup (fs : Fields) (vs : List Val) (hty : hasFields fs vs = true) (hnd : (liveIdxs fs).Nodup) :
    (presentIdxs fs vs).Nodup := by
  have nd' := C08.encFields_nodup (hasFields_length hty) hnd
  have ndS : (idxs (sortP (encFields fs vs))).Nodup := (idxs_perm (sortP_perm _)).nodup_iff.2 nd'
  exact List.Nodup.sublist (List.Sublist.map _ List.filter_sublist) ndS

theorem presentIdxs_live (fs : Fields) (vs : List Val) (hacc : acceptedFields fs = true) (hty : hasFields fs vs = true)
    (i : Nat) (hi : i ∈ presentIdxs fs vs) : i < 4294967296 ∧ i ∈ liveIdxs fs := by
  obtain ⟨p, hp, _, rfl⟩ := (mem_presentIdxs fs vs i).1 hi
  have := mem_encFields_idx fs vs hacc hty p hp
  exact ⟨by simp [U32] at this; omega, encFields_idx_live fs vs p hp⟩

theorem bodyCells_gap {enc : Encoding} {fs : Fields} {vs : List Val} {body : WItem} {cell : Nat → Option WItem}
    (hacc : acceptedFields fs = true) (hty : hasFields fs vs = true) (hc : bodyCells enc fs vs body = some cell)
    {i : Nat} {x : WItem} (hx : cell i = some x) (hni : i ∉ liveIdxs fs) : isNullW x = true := by
  cases enc with
  | array =>
    obtain ⟨xs, _, _, hgaps, rfl⟩ := bodyCells_array.1 hc
    exact gapsNull_iff.1 hgaps i x hx hni
  | map =>
    obtain ⟨kvs, es, _, _, hkeys, rfl⟩ := bodyCells_map.1 hc
    obtain ⟨q, hq, _⟩ := Option.map_eq_some_iff.1 hx
    have := List.find?_some hq
    exact absurd (presentIdxs_live fs vs hacc hty i (hkeys ▸ List.mem_map.2 ⟨q, List.mem_of_find?_eq_some hq,
      by simpa using this⟩)).2 hni

end Minicbor.Derive
