/-
  What the theorems about derived types (C07-C10) share, encoder and decoder side alike: the equations
  of `encTy` / `lenTy` / `specTy` / `hasTy` / `accepted` on derived types; the `nilu` codec
  (`codec_cases`, `decWith_of_ne` …); the induction `typed_ind` with its domain `accField`.

  The equations are stated once: the functions are mutually recursive on the schema, and every file
  that unfolds them through `simp [encTy]` derives the compiler's equation lemmas again.  `accepted`
  and `hasTy` are Boolean functions by the same recursion, and every theorem of the form "for every
  accepted schema and every value of it" follows it; `typed_ind` takes the two apart once and hands
  each case the facts the schema rules give there.
-/
import Minicbor.Derive

namespace Minicbor.Derive

section
variable (a : SAttr) (e : EAttr) (fa : FAttr) (va : VAttr) (t : FTy) (fs : Fields) (vars rest : Variants)
  (v : Val) (vs : List Val) (k : Nat)

theorem encTy_vec : encTy (.vec t) (.list vs) = Enc.array vs.length ++ (vs.map (encTy t)).flatten := rfl
theorem encTy_struct : encTy (.struct a fs) (.struct vs) =
    if a.transparent then transparentBody (encFields fs vs)
    else tagBytes a.tag ++ frame (a.enc.getD .array) (encFields fs vs) := rfl
theorem encTy_enum : encTy (.enum e vars) (.enum k vs) = tagBytes e.tag ++ encVars e vars k vs := rfl
theorem encFields_cons : encFields ((fa, t) :: fs) (v :: vs) =
    if fa.skip then encFields fs vs
    else ⟨fa.idx, fa.tag, isNilField fa t v, encWith fa.codec (encTy t) v⟩ :: encFields fs vs := rfl

theorem encVars_zero : encVars e ((va, fs) :: rest) 0 vs =
    match va.shape with
    | .unit =>
        if e.indexOnly then Enc.u32 va.idx
        else Enc.array 2 ++ Enc.u32 va.idx ++ tagBytes va.tag ++ emptyBody (va.enc.getD (e.enc.getD .array))
    | _ => Enc.array 2 ++ Enc.u32 va.idx ++ tagBytes va.tag ++
        frame (va.enc.getD (e.enc.getD .array)) (encFields fs vs) := rfl

theorem lenTy_vec : lenTy (.vec t) (.list vs) = u64Len vs.length + listSum (vs.map (lenTy t)) := rfl
theorem lenTy_struct : lenTy (.struct a fs) (.struct vs) =
    if a.transparent then transparentLen (lenFields fs vs)
    else tagLen a.tag + lenFrame (a.enc.getD .array) (lenFields fs vs) := rfl
theorem lenTy_enum : lenTy (.enum e vars) (.enum k vs) = tagLen e.tag + lenVars e vars k vs := rfl
theorem lenFields_cons : lenFields ((fa, t) :: fs) (v :: vs) =
    if fa.skip then lenFields fs vs
    else ⟨fa.idx, fa.tag, isNilField fa t v, lenWith fa.codec (lenTy t) v⟩ :: lenFields fs vs := rfl

theorem lenVars_zero : lenVars e ((va, fs) :: rest) 0 vs =
    match va.shape with
    | .unit => if e.indexOnly then idxLen va.idx else 1 + idxLen va.idx + tagLen va.tag + 1
    | _ => 1 + idxLen va.idx + tagLen va.tag + lenFrame (va.enc.getD (e.enc.getD .array)) (lenFields fs vs) := rfl

theorem specTy_vec : specTy (.vec t) (.list vs) = .array (vs.map (specTy t)) := rfl
theorem specTy_struct : specTy (.struct a fs) (.struct vs) =
    if a.transparent then specTransparent (specFields fs vs)
    else tagI a.tag (specBody (a.enc.getD .array) (specFields fs vs)) := rfl
theorem specTy_enum : specTy (.enum e vars) (.enum k vs) = tagI e.tag (specVars e vars k vs) := rfl
theorem specFields_cons : specFields ((fa, t) :: fs) (v :: vs) =
    if fa.skip then specFields fs vs
    else ⟨fa.idx, fa.tag, specAbsent fa v, specWith fa.codec (specTy t) v⟩ :: specFields fs vs := rfl

theorem specVars_zero : specVars e ((va, fs) :: rest) 0 vs =
    if e.indexOnly then .uint va.idx
    else .array [.uint va.idx, tagI va.tag (match va.shape with
      | .unit => specEmpty (va.enc.getD (e.enc.getD .array))
      | _ => specBody (va.enc.getD (e.enc.getD .array)) (specFields fs vs))] := rfl

theorem hasTy_text (tk : TextK) (b : Bytes) : hasTy (.text tk) (.text b) = (validUtf8 b && decide (b.length < U64)) := rfl
theorem hasTy_vec : hasTy (.vec t) (.list vs) = (vs.all (hasTy t) && decide (vs.length < U64)) := rfl
theorem hasFields_cons : hasFields ((fa, t) :: fs) (v :: vs) = (hasTy t v && hasFields fs vs) := rfl
theorem acceptedFields_cons : acceptedFields ((fa, t) :: fs) =
    (fieldAttrOk fa t && (fieldBlob t || accepted t) && acceptedFields fs) := rfl
theorem acceptedVars_cons : acceptedVars e ((va, fs) :: rest) =
    (decide (va.idx < U32) && tagOk va.tag && acceptedFields fs && nodupNat (liveIdxs fs)
      && (va.shape != .unit || fs.isEmpty) && (!e.indexOnly || va.shape == .unit) && acceptedVars e rest) := rfl
theorem accepted_struct_eq : accepted (.struct a fs) =
    (tagOk a.tag && acceptedFields fs && nodupNat (liveIdxs fs) && (a.shape != .unit || fs.isEmpty)
      && (!a.transparent || (a.tag.isNone && (match fs with | [(fa, _)] => !fa.skip | _ => false)))) := rfl
theorem accepted_enum_eq : accepted (.enum e vars) =
    (tagOk e.tag && acceptedVars e vars && nodupNat (vars.map (·.1.idx)) && (!e.indexOnly || e.tag.isNone)) := rfl
theorem liveIdxs_cons : liveIdxs ((fa, t) :: fs) = if fa.skip then liveIdxs fs else fa.idx :: liveIdxs fs := rfl

end

theorem hasFields_length : ∀ {fs : Fields} {vs : List Val}, hasFields fs vs = true → fs.length = vs.length
  | [], [], _ => rfl
  | _ :: _, _ :: _, h => congrArg (· + 1) (hasFields_length (Bool.and_eq_true_iff.1 h).2)
  | [], _ :: _, h | _ :: _, [], h => Bool.noConfusion h

theorem option_none_of {t : FTy} {v : Val} (h : (t.isOption && v.isNone) = true) :
    (∃ t', t = .option t') ∧ v = .none := by
  have h := Bool.and_eq_true_iff.1 h
  cases t with
  | option t' =>
    cases v with
    | none => exact ⟨⟨t', rfl⟩, rfl⟩
    | _ => exact Bool.noConfusion h.2
  | _ => exact Bool.noConfusion h.1

theorem nodupNat_nodup : ∀ (l : List Nat), nodupNat l = true → l.Nodup
  | [], _ => List.nodup_nil
  | x :: xs, h => by
    simp only [nodupNat, Bool.and_eq_true, Bool.not_eq_true', List.contains_eq_mem, decide_eq_false_iff_not] at h
    exact List.nodup_cons.2 ⟨h.1, nodupNat_nodup xs h.2⟩

theorem codecOk_nilu {t : FTy} (h : codecOk .nilu t = true) : t = .int .u32 := by
  cases t with
  | int k =>
    cases k with
    | u32 => rfl
    | _ => exact Bool.noConfusion h
  | _ => exact Bool.noConfusion h

theorem nilu_inv {t : FTy} {v : Val} (hc : codecOk .nilu t = true) (hv : hasTy t v = true) :
    t = .int .u32 ∧ ∃ i, v = .int i ∧ IntK.u32.inRange i = true := by
  obtain rfl := codecOk_nilu hc
  cases v with
  | int i => exact ⟨rfl, i, rfl, hv⟩
  | _ => exact Bool.noConfusion hv

theorem u32_inRange {i : Int} (h : IntK.u32.inRange i = true) : 0 ≤ i ∧ i.toNat < U32 := by
  have h : (decide (0 ≤ i) && decide (i ≤ 4294967295)) = true := h
  simp only [Bool.and_eq_true, decide_eq_true_eq] at h
  exact ⟨h.1, by simp only [U32]; omega⟩

/-- the nil-aware codec only fits `u32`; every other codec leaves the type's own functions alone. -/
theorem codec_cases {c : Codec} {t : FTy} {v : Val} (hc : codecOk c t = true) (hv : hasTy t v = true) :
    c ≠ .nilu ∨ (c = .nilu ∧ t = .int .u32 ∧ ∃ i, v = .int i ∧ IntK.u32.inRange i = true) := by
  cases c
  case nilu => exact Or.inr ⟨rfl, nilu_inv hc hv⟩
  all_goals exact Or.inl (fun h => nomatch h)

theorem decWith_of_ne {c : Codec} (h : c ≠ .nilu) (d : Dec Val) : decWith c d = d := by
  cases c <;> first | rfl | exact absurd rfl h

theorem encWith_of_ne {c : Codec} (h : c ≠ .nilu) (f : Val → Bytes) : encWith c f = f := by
  cases c <;> first | rfl | exact absurd rfl h

theorem specWith_of_ne {c : Codec} (h : c ≠ .nilu) (f : Val → Item) : specWith c f = f := by
  cases c <;> first | rfl | exact absurd rfl h

/-- acceptable as the declared type of a field: the byte-string kinds that exist only through
    `with = "minicbor::bytes"` are not `accepted` below a field, but every function of the model
    ignores the kind, so the induction runs over `accField` and they need no case of their own. -/
def accField (t : FTy) : Bool := fieldBlob t || accepted t

theorem accField_of_accepted {t : FTy} (h : accepted t = true) : accField t = true := by
  rw [accField, h, Bool.or_true]

theorem accField_of_blob {t : FTy} (h : fieldBlob t = true) : accField t = true := by
  rw [accField, h, Bool.true_or]

theorem accField_option {t : FTy} (h : accField (.option t) = true) : accField t = true := by
  cases t <;> first | exact h | exact accField_of_accepted h

theorem fieldAttrOk_live {a : FAttr} {t : FTy} (h : fieldAttrOk a t = true) (hs : a.skip = false) :
    a.idx < U32 ∧ tagOk a.tag = true ∧ codecOk a.codec t = true := by
  simp only [fieldAttrOk, hs, Bool.false_eq_true, if_false, Bool.and_eq_true, decide_eq_true_eq] at h
  exact ⟨h.1.1.1, h.1.1.2, h.1.2⟩

/-- the cases of `typed_ind`, one per equation of `accepted` / `hasTy` that can hold, each with the
    facts the schema rules give there.  `PVar` is for the variants of an enum, the position of one and
    the values of its fields. -/
structure TypedCases (P : FTy → Val → Prop) (PF : Fields → List Val → Prop)
    (PVar : EAttr → Variants → Nat → List Val → Prop) : Prop where
  int : ∀ k i, k.inRange i = true → P (.int k) (.int i)
  bool : ∀ b, P .bool (.bool b)
  text : ∀ k b, validUtf8 b = true → b.length < U64 → P (.text k) (.text b)
  blob : ∀ k b, b.length < U64 → P (.blob k) (.blob b)
  none : ∀ t, P (.option t) .none
  some : ∀ t x, accField t = true → hasTy t x = true → P t x → P (.option t) (.some x)
  vec : ∀ t vs, accepted t = true → vs.length < U64 → (∀ x ∈ vs, hasTy t x = true ∧ P t x) → P (.vec t) (.list vs)
  struct : ∀ a fs vs, a.transparent = false → tagOk a.tag = true → acceptedFields fs = true → (liveIdxs fs).Nodup →
    hasFields fs vs = true → PF fs vs → P (.struct a fs) (.struct vs)
  transparent : ∀ a fa ft x, a.transparent = true → fa.skip = false → PF [(fa, ft)] [x] →
    P (.struct a [(fa, ft)]) (.struct [x])
  enum : ∀ e vars k vs, accepted (.enum e vars) = true → tagOk e.tag = true → acceptedVars e vars = true →
    hasVars vars k vs = true → PVar e vars k vs → P (.enum e vars) (.enum k vs)
  nil : PF [] []
  cons : ∀ a t v fs vs, (a.skip = false → a.idx < U32 ∧ tagOk a.tag = true ∧ codecOk a.codec t = true) →
    hasTy t v = true → P t v → PF fs vs → PF ((a, t) :: fs) (v :: vs)
  here : ∀ e va fs rest vs, va.idx < U32 → tagOk va.tag = true → acceptedFields fs = true → (liveIdxs fs).Nodup →
    (e.indexOnly = true → va.shape = .unit) → hasFields fs vs = true → PF fs vs → PVar e ((va, fs) :: rest) 0 vs
  there : ∀ e r rest k vs, PVar e rest k vs → PVar e (r :: rest) (k + 1) vs

variable {P : FTy → Val → Prop} {PF : Fields → List Val → Prop} {PVar : EAttr → Variants → Nat → List Val → Prop}

theorem hasFields_singleton {f : FAttr × FTy} {vs : List Val} (h : hasFields [f] vs = true) : ∃ w, vs = [w] := by
  cases vs with
  | nil => exact Bool.noConfusion h
  | cons w ws =>
    cases ws with
    | nil => exact ⟨w, rfl⟩
    | cons _ _ => rw [hasFields_cons, Bool.and_eq_true] at h; exact Bool.noConfusion h.2

/- In the proofs below a value of the wrong shape for its type is excluded by `hasTy`, which
   reduces to `false` there. -/
mutual
theorem typed_ind_ty (c : TypedCases P PF PVar) :
    ∀ (t : FTy) (v : Val), accField t = true → hasTy t v = true → P t v
  | .int k, v, _, hv => by
    cases v with
    | int i => exact c.int k i hv
    | _ => exact Bool.noConfusion hv
  | .bool, v, _, hv => by
    cases v with
    | bool b => exact c.bool b
    | _ => exact Bool.noConfusion hv
  | .text k, v, _, hv => by
    cases v with
    | text b =>
      simp only [hasTy_text, Bool.and_eq_true, decide_eq_true_eq] at hv
      exact c.text k b hv.1 hv.2
    | _ => exact Bool.noConfusion hv
  | .blob k, v, _, hv => by
    cases v with
    | blob b => exact c.blob k b (of_decide_eq_true hv)
    | _ => exact Bool.noConfusion hv
  | .option t, v, ha, hv => by
    cases v with
    | none => exact c.none t
    | some w => exact c.some t w (accField_option ha) hv (typed_ind_ty c t w (accField_option ha) hv)
    | _ => exact Bool.noConfusion hv
  | .vec t, v, ha, hv => by
    have ha : accepted t = true := ha
    cases v with
    | list vs =>
      simp only [hasTy_vec, Bool.and_eq_true, decide_eq_true_eq, List.all_eq_true] at hv
      exact c.vec t vs ha hv.2 fun x hm => ⟨hv.1 x hm, typed_ind_ty c t x (accField_of_accepted ha) (hv.1 x hm)⟩
    | _ => exact Bool.noConfusion hv
  | .struct a fs, v, ha, hv => by
    have ha : accepted (.struct a fs) = true := ha
    cases v with
    | struct vs =>
      change hasFields fs vs = true at hv
      simp only [accepted_struct_eq, Bool.and_eq_true] at ha
      have hf := typed_ind_fields c fs vs ha.1.1.1.2 hv
      cases htr : a.transparent with
      | false => exact c.struct a fs vs htr ha.1.1.1.1 ha.1.1.1.2 (nodupNat_nodup _ ha.1.1.2) hv hf
      | true =>
        have h1 := ha.2
        simp only [htr, Bool.not_true, Bool.false_or, Bool.and_eq_true] at h1
        cases fs with
        | nil => exact Bool.noConfusion h1.2
        | cons f fs =>
          cases fs with
          | cons _ _ => exact Bool.noConfusion h1.2
          | nil =>
            obtain ⟨w, rfl⟩ := hasFields_singleton hv
            exact c.transparent a f.1 f.2 w htr (by simpa using h1.2) hf
    | _ => exact Bool.noConfusion hv
  | .enum e vars, v, ha, hv => by
    have ha : accepted (.enum e vars) = true := ha
    cases v with
    | «enum» k vs =>
      have ha' := ha
      simp only [accepted_enum_eq, Bool.and_eq_true] at ha'
      exact c.enum e vars k vs ha ha'.1.1.1 ha'.1.1.2 hv (typed_ind_vars c e vars k vs ha'.1.1.2 hv)
    | _ => exact Bool.noConfusion hv
termination_by structural t => t
theorem typed_ind_fields (c : TypedCases P PF PVar) :
    ∀ (fs : Fields) (vs : List Val), acceptedFields fs = true → hasFields fs vs = true → PF fs vs
  | [], [], _, _ => c.nil
  | (a, t) :: fs, v :: vs, ha, hv => by
    simp only [acceptedFields_cons, hasFields_cons, Bool.and_eq_true] at ha hv
    exact c.cons a t v fs vs (fieldAttrOk_live ha.1.1) hv.1 (typed_ind_ty c t v ha.1.2 hv.1)
      (typed_ind_fields c fs vs ha.2 hv.2)
  | [], _ :: _, _, hv | _ :: _, [], _, hv => Bool.noConfusion hv
termination_by structural fs => fs
theorem typed_ind_vars (c : TypedCases P PF PVar) (e : EAttr) :
    ∀ (vars : Variants) (k : Nat) (vs : List Val), acceptedVars e vars = true → hasVars vars k vs = true →
      PVar e vars k vs
  | [], _, _, _, hv => Bool.noConfusion hv
  | (va, fs) :: rest, 0, vs, ha, hv => by
    change hasFields fs vs = true at hv
    simp only [acceptedVars_cons, Bool.and_eq_true, decide_eq_true_eq] at ha
    obtain ⟨⟨⟨⟨⟨⟨hidx, htag⟩, hacc⟩, hnd⟩, _⟩, hio⟩, _⟩ := ha
    exact c.here e va fs rest vs hidx htag hacc (nodupNat_nodup _ hnd) (fun h => by simpa [h] using hio) hv
      (typed_ind_fields c fs vs hacc hv)
  | r :: rest, k + 1, vs, ha, hv => by
    rw [acceptedVars_cons, Bool.and_eq_true] at ha
    exact c.there e r rest k vs (typed_ind_vars c e rest k vs ha.2 hv)
termination_by structural vars => vars
end

theorem typed_ind (c : TypedCases P PF PVar) : (∀ t v, accField t = true → hasTy t v = true → P t v) ∧
    (∀ fs vs, acceptedFields fs = true → hasFields fs vs = true → PF fs vs) :=
  ⟨typed_ind_ty c, typed_ind_fields c⟩

end Minicbor.Derive
