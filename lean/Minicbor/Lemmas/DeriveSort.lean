/-
  The index sort (`sortP`) of the generated `encode_fields` is a permutation, its result is
  strictly ascending when the indices are distinct, and it only depends on the set of fields
  (so declaration order is irrelevant).
-/
import Minicbor.Derive

namespace Minicbor.Derive

variable {β : Type}

def idxs (ps : List (Piece β)) : List Nat := ps.map (·.idx)

def Asc (ps : List (Piece β)) : Prop := ps.Pairwise (fun p q => p.idx < q.idx)

theorem insertP_perm (p : Piece β) (l : List (Piece β)) : (insertP p l).Perm (p :: l) := by
  induction l with
  | nil => exact List.Perm.refl _
  | cons q qs ih =>
    unfold insertP
    split
    · exact List.Perm.refl _
    · exact ((List.perm_cons q).2 ih).trans (List.Perm.swap p q qs)

theorem sortP_perm (l : List (Piece β)) : (sortP l).Perm l := by
  induction l with
  | nil => exact List.Perm.refl _
  | cons p ps ih =>
    unfold sortP
    exact (insertP_perm p (sortP ps)).trans ((List.perm_cons p).2 ih)

theorem mem_insertP {p q : Piece β} {l : List (Piece β)} : q ∈ insertP p l ↔ q = p ∨ q ∈ l := by
  rw [(insertP_perm p l).mem_iff]; simp

theorem insertP_asc (p : Piece β) (l : List (Piece β)) (hl : Asc l) (hp : ∀ q ∈ l, q.idx ≠ p.idx) :
    Asc (insertP p l) := by
  induction l with
  | nil => simp [insertP, Asc]
  | cons q qs ih =>
    unfold insertP
    have hq := List.pairwise_cons.1 hl
    split
    · rename_i hle
      have hne := hp q (by simp)
      have hlt : p.idx < q.idx := by omega
      refine List.pairwise_cons.2 ⟨?_, hl⟩
      intro a ha
      rcases List.mem_cons.1 ha with rfl | ha
      · exact hlt
      · exact Nat.lt_trans hlt (hq.1 a ha)
    · rename_i hle
      have hlt : q.idx < p.idx := by omega
      refine List.pairwise_cons.2 ⟨?_, ih hq.2 (fun a ha => hp a (by simp [ha]))⟩
      intro a ha
      rcases mem_insertP.1 ha with rfl | ha
      · exact hlt
      · exact hq.1 a ha

theorem idxs_perm {l₁ l₂ : List (Piece β)} (h : l₁.Perm l₂) : (idxs l₁).Perm (idxs l₂) := h.map _

theorem sortP_asc (l : List (Piece β)) (nd : (idxs l).Nodup) : Asc (sortP l) := by
  induction l with
  | nil => simp [sortP, Asc]
  | cons p ps ih =>
    unfold sortP
    have h : p.idx ∉ idxs ps ∧ (idxs ps).Nodup := List.nodup_cons.1 nd
    refine insertP_asc p _ (ih h.2) ?_
    intro q hq heq
    have : q ∈ ps := (sortP_perm ps).mem_iff.1 hq
    exact h.1 (by rw [← heq]; exact List.mem_map.2 ⟨q, this, rfl⟩)

theorem asc_perm_eq : ∀ {l₁ l₂ : List (Piece β)}, Asc l₁ → Asc l₂ → l₁.Perm l₂ → l₁ = l₂
  | [], l₂, _, _, h => by simpa using h.symm.eq_nil
  | p :: ps, [], _, _, h => by simpa using h.eq_nil
  | p :: ps, q :: qs, h₁, h₂, h => by
    have a₁ := List.pairwise_cons.1 h₁
    have a₂ := List.pairwise_cons.1 h₂
    have hpq : p = q := by
      have hp : p ∈ q :: qs := h.mem_iff.1 (by simp)
      have hq : q ∈ p :: ps := h.mem_iff.2 (by simp)
      rcases List.mem_cons.1 hp with e | hp
      · exact e
      · rcases List.mem_cons.1 hq with e | hq
        · exact e.symm
        · have := a₁.1 q hq
          have := a₂.1 p hp
          omega
    subst hpq
    rw [asc_perm_eq a₁.2 a₂.2 ((List.perm_cons p).1 h)]

theorem sortP_perm_eq {l₁ l₂ : List (Piece β)} (h : l₁.Perm l₂) (nd : (idxs l₁).Nodup) :
    sortP l₁ = sortP l₂ := by
  have nd₂ : (idxs l₂).Nodup := (idxs_perm h).nodup_iff.1 nd
  exact asc_perm_eq (sortP_asc l₁ nd) (sortP_asc l₂ nd₂)
    ((sortP_perm l₁).trans (h.trans (sortP_perm l₂).symm))

theorem insertP_map {γ : Type} (f : Piece β → Piece γ) (hf : ∀ p, (f p).idx = p.idx)
    (p : Piece β) (l : List (Piece β)) : insertP (f p) (l.map f) = (insertP p l).map f := by
  induction l with
  | nil => rfl
  | cons q qs ih =>
    simp only [List.map_cons, insertP, hf]
    split <;> simp [ih]

theorem sortP_map {γ : Type} (f : Piece β → Piece γ) (hf : ∀ p, (f p).idx = p.idx)
    (l : List (Piece β)) : sortP (l.map f) = (sortP l).map f := by
  induction l with
  | nil => rfl
  | cons p ps ih => simp only [List.map_cons, sortP, ih, insertP_map f hf]

end Minicbor.Derive
