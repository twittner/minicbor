/-
  Re-encoding the tokens of a valid wire tree: `C11.toks w` is a balanced sequence of calls that
  denotes `canon w` (`toks_balanced`), and each of its tokens holds a payload its `Encoder` method
  accepts; so the token list of `w` encodes to `encW (canon w)`, which is again valid.  `canon` fixes
  preferred trees, its result is preferred, and it keeps the data-model value (when no half float is a
  signalling NaN).
-/
import Minicbor.Lemmas.BalancedProps

namespace Minicbor.C11
open Dec

theorem inRange_neg (k : IntKind) (n : Nat) (hk : k.ty.neg = true) (hn : n ≤ k.ty.max) :
    k.inRange (-1 - (n : Int)) = true := by
  rw [IntKind.inRange_iff, IntTy.lo, IntTy.hi, hk, if_pos rfl]
  omega

theorem good_uintTok {w : Width} {n : Nat} (h : w.fits n = true) : (uintTok w n).good := by
  cases w <;> simp only [Width.fits, decide_eq_true_eq] at h <;> exact ⟨decide_eq_true (by omega), rfl⟩

theorem good_nintTok {w : Width} {n : Nat} (h : w.fits n = true) : (nintTok w n).good := by
  cases w <;> simp only [nintTok, Width.fits, decide_eq_true_eq] at h ⊢
  · exact ⟨inRange_neg .i8 n rfl (by show n ≤ 127; omega), rfl⟩
  · split
    · exact ⟨inRange_neg .i8 n rfl (by show n ≤ 127; omega), rfl⟩
    · exact ⟨inRange_neg .i16 n rfl (by show n ≤ 32767; omega), rfl⟩
  · split
    · exact ⟨inRange_neg .i16 n rfl (by show n ≤ 32767; omega), rfl⟩
    · exact ⟨inRange_neg .i32 n rfl (by show n ≤ 2147483647; omega), rfl⟩
  · split
    · exact ⟨inRange_neg .i32 n rfl (by show n ≤ 2147483647; omega), rfl⟩
    · exact ⟨inRange_neg .i64 n rfl (by show n ≤ 9223372036854775807; omega), rfl⟩
  · split
    · exact ⟨inRange_neg .i64 n rfl (by show n ≤ 9223372036854775807; omega), rfl⟩
    · exact ⟨inRange_neg .int n rfl (by show n ≤ 18446744073709551615; omega), rfl⟩

theorem good_simpleTok {n : Nat} (h : (WItem.simple n).valid = true) : (simpleTok n).good := by
  simp only [WItem.valid, Bool.or_eq_true, Bool.and_eq_true, decide_eq_true_eq] at h
  by_cases h4 : n < 20 ∨ 24 ≤ n
  · rw [simpleTok_of_ne h4]
    exact ⟨decide_eq_true (by omega), by simp [Token.reservedSimple]; omega⟩
  · obtain rfl | rfl | rfl | rfl : n = 20 ∨ n = 21 ∨ n = 22 ∨ n = 23 := by omega
    all_goals exact ⟨rfl, rfl⟩

theorem good_chunkToks (text : Bool) (cs : List (Width × Bytes)) (hv : chunksValid text cs = true) :
    ∀ t ∈ chunkToks text cs, t.good := by
  induction cs with
  | nil => simp [chunkToks]
  | cons c cs ih =>
    obtain ⟨w, b⟩ := c
    simp only [chunksValid, Bool.and_eq_true] at hv
    simp only [chunkToks, List.forall_mem_cons]
    refine ⟨?_, ih hv.2⟩
    cases text
    · exact ⟨fits_lt64 hv.1.1, rfl⟩
    · exact ⟨⟨fits_lt64 hv.1.1, by simpa using hv.1.2⟩, rfl⟩

mutual
theorem toks_good (w : WItem) (hv : w.valid = true) : ∀ t ∈ toks w, t.good := by
  cases w with
  | uint w n => simpa only [toks, List.forall_mem_singleton] using good_uintTok hv
  | nint w n => simpa only [toks, List.forall_mem_singleton] using good_nintTok hv
  | simple n => simpa only [toks, List.forall_mem_singleton] using good_simpleTok hv
  | bytes w b => simpa only [toks, List.forall_mem_singleton] using ⟨fits_lt64 hv, rfl⟩
  | text w b =>
    simp only [WItem.valid, Bool.and_eq_true] at hv
    simpa only [toks, List.forall_mem_singleton] using ⟨⟨fits_lt64 hv.1, hv.2⟩, rfl⟩
  | f16 b =>
    simpa only [toks, List.forall_mem_singleton] using
      ⟨decide_eq_true (f16ToF32_lt b (of_decide_eq_true hv)), rfl⟩
  | f32 b | f64 b => simpa only [toks, List.forall_mem_singleton] using ⟨hv, rfl⟩
  | bytesI cs | textI cs =>
    simp only [toks, List.forall_mem_cons, List.forall_mem_append]
    exact ⟨⟨rfl, rfl⟩, good_chunkToks _ cs hv, ⟨rfl, rfl⟩, nofun⟩
  | array w xs =>
    simp only [WItem.valid, Bool.and_eq_true] at hv
    simp only [toks, List.forall_mem_cons]
    exact ⟨⟨decide_eq_true (fits_lt64 hv.1), rfl⟩, toksL_good xs hv.2⟩
  | map w kvs =>
    simp only [WItem.valid, Bool.and_eq_true] at hv
    simp only [toks, List.forall_mem_cons]
    exact ⟨⟨decide_eq_true (fits_lt64 hv.1.2), rfl⟩, toksL_good kvs hv.2⟩
  | tag w n x =>
    simp only [WItem.valid, Bool.and_eq_true] at hv
    simp only [toks, List.forall_mem_cons]
    exact ⟨⟨decide_eq_true (fits_lt64 hv.1), rfl⟩, toks_good x hv.2⟩
  | arrayI xs =>
    simp only [toks, List.forall_mem_cons, List.forall_mem_append]
    exact ⟨⟨rfl, rfl⟩, toksL_good xs hv, ⟨rfl, rfl⟩, nofun⟩
  | mapI kvs =>
    simp only [WItem.valid, Bool.and_eq_true] at hv
    simp only [toks, List.forall_mem_cons, List.forall_mem_append]
    exact ⟨⟨rfl, rfl⟩, toksL_good kvs hv.2, ⟨rfl, rfl⟩, nofun⟩
theorem toksL_good (ws : List WItem) (hv : validAll ws = true) : ∀ t ∈ toksL ws, t.good := by
  cases ws with
  | nil => simp [toksL]
  | cons x xs =>
    simp only [validAll, Bool.and_eq_true] at hv
    simp only [toksL, List.forall_mem_append]
    exact ⟨toks_good x hv.1, toksL_good xs hv.2⟩
end

theorem enc_toksL (ws : List WItem) (hv : validAll ws = true) :
    encodeTokens (toksL ws) = encWs (canonL ws) :=
  ((toksL_balanced ws hv).denote (toksL_good ws hv)).1

theorem canonL_valid (ws : List WItem) (h : validAll ws = true) : validAll (canonL ws) = true :=
  ((toksL_balanced ws h).denote (toksL_good ws h)).2

theorem enc_toks (w : WItem) (hv : w.valid = true) : encodeTokens (toks w) = encW (canon w) := by
  simpa [encWs] using ((toks_balanced w hv).denote (toks_good w hv)).1

theorem canonChunks_of_preferred (cs : List (Width × Bytes)) (h : chunksPreferred cs = true) :
    canonChunks cs = cs := by
  induction cs with
  | nil => rfl
  | cons c cs ih =>
    obtain ⟨w, b⟩ := c
    simp only [chunksPreferred, Bool.and_eq_true, beq_iff_eq] at h
    simp only [canonChunks, ih h.2, ← h.1]

mutual
theorem canon_of_preferred (w : WItem) (h : preferred w = true) : canon w = w := by
  cases w with
  | uint w n | nint w n | bytes w b | text w b =>
    simp only [preferred, beq_iff_eq] at h; simp only [canon, ← h]
  | bytesI cs | textI cs => simp only [preferred] at h; simp only [canon, canonChunks_of_preferred cs h]
  | array w xs | map w xs =>
    simp only [preferred, Bool.and_eq_true, beq_iff_eq] at h
    simp only [canon, canonL_of_preferred xs h.2, ← h.1]
  | arrayI xs | mapI xs => simp only [preferred] at h; simp only [canon, canonL_of_preferred xs h]
  | tag w n x =>
    simp only [preferred, Bool.and_eq_true, beq_iff_eq] at h
    simp only [canon, canon_of_preferred x h.2, ← h.1]
  | f16 b => simp only [preferred, beq_iff_eq] at h; simp only [canon, h]
  | simple n | f32 b | f64 b => rfl
theorem canonL_of_preferred (ws : List WItem) (h : preferredL ws = true) : canonL ws = ws := by
  cases ws with
  | nil => rfl
  | cons x xs =>
    simp only [preferredL, Bool.and_eq_true] at h
    simp only [canonL, canon_of_preferred x h.1, canonL_of_preferred xs h.2]
end

theorem quiet16_idem (h : Nat) : quiet16 (quiet16 h) = quiet16 h := by
  by_cases hs : h / 1024 % 32 = 31 ∧ h % 1024 ≠ 0 ∧ h % 1024 < 512
  · have e : quiet16 h = h + 512 := by unfold quiet16; rw [if_pos hs]
    rw [e]; unfold quiet16; rw [if_neg (by omega)]
  · have e : quiet16 h = h := by unfold quiet16; rw [if_neg hs]
    rw [e, e]

theorem canonChunks_preferred (cs : List (Width × Bytes)) : chunksPreferred (canonChunks cs) = true := by
  rw [canonChunks_eq_pref, chunksPreferred_eq]; exact chunksShortest_pref _

theorem canonChunks_join (cs : List (Width × Bytes)) : joinChunks (canonChunks cs) = joinChunks cs := by
  induction cs with
  | nil => rfl
  | cons c cs ih => obtain ⟨w, b⟩ := c; simp [canonChunks, joinChunks, ih]

theorem canon_valid (w : WItem) (h : w.valid = true) : (canon w).valid = true := by
  simpa [validAll] using ((toks_balanced w h).denote (toks_good w h)).2

mutual
theorem canon_preferred (w : WItem) : preferred (canon w) = true := by
  cases w with
  | bytesI cs | textI cs => simp only [canon, preferred, canonChunks_preferred]
  | array w xs | map w xs =>
    simp only [canon, preferred, canonL_length, canonL_preferred xs, beq_self_eq_true, Bool.and_self]
  | arrayI xs | mapI xs => simp only [canon, preferred, canonL_preferred xs]
  | tag w n x => simp only [canon, preferred, canon_preferred x, beq_self_eq_true, Bool.and_self]
  | f16 b => simp only [canon, preferred, quiet16_idem, beq_self_eq_true]
  | _ => simp [canon, preferred]
theorem canonL_preferred (ws : List WItem) : preferredL (canonL ws) = true := by
  cases ws with
  | nil => rfl
  | cons x xs => simp only [canonL, preferredL, canon_preferred x, canonL_preferred xs, Bool.and_self]
end

mutual
theorem canon_value (w : WItem) (h : halfQuiet w = true) : value (canon w) = value w := by
  cases w with
  | bytesI cs | textI cs => simp only [canon, value, canonChunks_join]
  | array w xs | arrayI xs | map w xs | mapI xs =>
    simp only [halfQuiet] at h; simp only [canon, value, canonL_values xs h]
  | tag w n x => simp only [halfQuiet] at h; simp only [canon, value, canon_value x h]
  | f16 b => simp only [halfQuiet, beq_iff_eq] at h; simp only [canon, value, h]
  | _ => rfl
theorem canonL_values (ws : List WItem) (h : halfQuietL ws = true) : values (canonL ws) = values ws := by
  cases ws with
  | nil => rfl
  | cons x xs =>
    simp only [halfQuietL, Bool.and_eq_true] at h
    simp only [canonL, values, canon_value x h.1, canonL_values xs h.2]
end

end Minicbor.C11
