/-
  Reference parser for RFC 8949 well-formed data items (independent of the `Decoder` model):
  `parse bs` returns the parse tree of the single well-formed item at the start of `bs`
  together with the remaining bytes, or `none` if `bs` does not start with one.
  Plain recursive descent with a local fuel (`2 * length + 2`, never exhausted on a
  well-formed item: `Lemmas/ParseSpec.lean`).  Imports nothing outside the model.
-/
import Minicbor.Wire

namespace Minicbor

/-- split off `k` bytes. -/
def takeN (k : Nat) (bs : Bytes) : Option (Bytes × Bytes) :=
  if k ≤ bs.length then some (bs.take k, bs.drop k) else none

/-- the argument of a head with additional information `ai` (`< 28`). -/
def parseArg (ai : Nat) (bs : Bytes) : Option (Width × Nat × Bytes) :=
  if ai < 24 then some (.w0, ai, bs)
  else if ai = 24 then (takeN 1 bs).map fun (x, r) => (.w1, fromBe x, r)
  else if ai = 25 then (takeN 2 bs).map fun (x, r) => (.w2, fromBe x, r)
  else if ai = 26 then (takeN 4 bs).map fun (x, r) => (.w4, fromBe x, r)
  else if ai = 27 then (takeN 8 bs).map fun (x, r) => (.w8, fromBe x, r)
  else none

/-- a definite-length string of major type `maj` (2 or 3) whose initial byte is already split
    into `ai`: width, payload, rest. -/
def parseStr (text : Bool) (ai : Nat) (bs : Bytes) : Option (Width × Bytes × Bytes) :=
  match parseArg ai bs with
  | none => none
  | some (w, n, r) =>
    match takeN n r with
    | none => none
    | some (p, r') => if text && !validUtf8 p then none else some (w, p, r')

/-- the chunks of an indefinite-length string up to and including the break byte. -/
def parseChunks (text : Bool) : Nat → Bytes → Option (List (Width × Bytes) × Bytes)
  | 0, _ => none
  | _ + 1, [] => none
  | f + 1, b :: bs =>
    if b = 0xff then some ([], bs)
    else if b.toNat / 32 = (if text then 3 else 2) then
      match parseStr text (b.toNat % 32) bs with
      | none => none
      | some (w, p, r) =>
        match parseChunks text f r with
        | none => none
        | some (cs, r') => some ((w, p) :: cs, r')
    else none

mutual
/-- one data item. -/
def parseItem : Nat → Bytes → Option (WItem × Bytes)
  | 0, _ => none
  | _ + 1, [] => none
  | f + 1, b :: bs =>
    let maj := b.toNat / 32
    let ai := b.toNat % 32
    if maj = 0 then (parseArg ai bs).map fun (w, n, r) => (.uint w n, r)
    else if maj = 1 then (parseArg ai bs).map fun (w, n, r) => (.nint w n, r)
    else if maj = 2 then
      if ai = 31 then (parseChunks false (bs.length + 1) bs).map fun (cs, r) => (.bytesI cs, r)
      else (parseStr false ai bs).map fun (w, p, r) => (.bytes w p, r)
    else if maj = 3 then
      if ai = 31 then (parseChunks true (bs.length + 1) bs).map fun (cs, r) => (.textI cs, r)
      else (parseStr true ai bs).map fun (w, p, r) => (.text w p, r)
    else if maj = 4 then
      if ai = 31 then (parseBreak f bs).map fun (xs, r) => (.arrayI xs, r)
      else
        match parseArg ai bs with
        | none => none
        | some (w, n, r) => (parseItems f n r).map fun (xs, r') => (.array w xs, r')
    else if maj = 5 then
      if ai = 31 then
        match parseBreak f bs with
        | none => none
        | some (xs, r) => if xs.length % 2 = 0 then some (.mapI xs, r) else none
      else
        match parseArg ai bs with
        | none => none
        | some (w, n, r) => (parseItems f (2 * n) r).map fun (xs, r') => (.map w xs, r')
    else if maj = 6 then
      match parseArg ai bs with
      | none => none
      | some (w, n, r) => (parseItem f r).map fun (x, r') => (.tag w n x, r')
    else
      if ai < 24 then some (.simple ai, bs)
      else if ai = 24 then
        match bs with
        | x :: r => if 32 ≤ x.toNat then some (.simple x.toNat, r) else none
        | [] => none
      else if ai = 25 then (takeN 2 bs).map fun (x, r) => (.f16 (fromBe x), r)
      else if ai = 26 then (takeN 4 bs).map fun (x, r) => (.f32 (fromBe x), r)
      else if ai = 27 then (takeN 8 bs).map fun (x, r) => (.f64 (fromBe x), r)
      else none
/-- exactly `n` data items. -/
def parseItems : Nat → Nat → Bytes → Option (List WItem × Bytes)
  | _, 0, bs => some ([], bs)
  | 0, _ + 1, _ => none
  | f + 1, n + 1, bs =>
    match parseItem f bs with
    | none => none
    | some (x, r) =>
      match parseItems f n r with
      | none => none
      | some (xs, r') => some (x :: xs, r')
/-- data items up to and including the break byte. -/
def parseBreak : Nat → Bytes → Option (List WItem × Bytes)
  | 0, _ => none
  | _ + 1, [] => none
  | f + 1, b :: bs =>
    if b = 0xff then some ([], bs)
    else
      match parseItem f (b :: bs) with
      | none => none
      | some (x, r) =>
        match parseBreak f r with
        | none => none
        | some (xs, r') => some (x :: xs, r')
end

/-- the reference decoder: the parse tree of the well-formed item at the start of `bs`, and the rest. -/
def parse (bs : Bytes) : Option (WItem × Bytes) := parseItem (2 * bs.length + 2) bs

/-! ### which trees the no-alloc build of `skip` supports (statement of C06) -/

mutual
/-- an indefinite-length array or map occurs somewhere in the tree. -/
def WItem.hasIndef : WItem → Bool
  | .arrayI _ => true
  | .mapI _ => true
  | .array _ xs => hasIndefs xs
  | .map _ xs => hasIndefs xs
  | .tag _ _ x => x.hasIndef
  | _ => false
def hasIndefs : List WItem → Bool
  | [] => false
  | x :: xs => x.hasIndef || hasIndefs xs
end

mutual
/-- an indefinite-length array or map occurs somewhere inside a definite-length array or map
    (at any depth, also through tags and further containers; indefinite strings do not count). -/
def WItem.indefInDef : WItem → Bool
  | .array _ xs => hasIndefs xs
  | .map _ xs => hasIndefs xs
  | .arrayI xs => indefInDefs xs
  | .mapI xs => indefInDefs xs
  | .tag _ _ x => x.indefInDef
  | _ => false
def indefInDefs : List WItem → Bool
  | [] => false
  | x :: xs => x.indefInDef || indefInDefs xs
end

end Minicbor
