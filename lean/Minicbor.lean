/- Root of the default target: the model.  The lemma and theorem modules (`Minicbor/Lemmas`, `Minicbor/Thm`) are built by name
   (`verifkit/setup_targets.py`); they cannot all be imported into one module: `Lemmas/SkipMem` (under `Thm/C06`) and
   `Lemmas/DisplayDoc` (under `Thm/C19`) both declare `Minicbor.Reach`. -/
import Minicbor.Prelude
import Minicbor.Utf8
import Minicbor.Wire
import Minicbor.Float
import Minicbor.Encoder
import Minicbor.Decoder
import Minicbor.Skip
import Minicbor.Parse
import Minicbor.Types
import Minicbor.Token
import Minicbor.Balanced
import Minicbor.ArrayVec
import Minicbor.Serde
import Minicbor.Info
import Minicbor.Sink
import Minicbor.EncPuts
import Minicbor.Frame
import Minicbor.Derive
import Minicbor.Compat
import Minicbor.Reframe
import Minicbor.Loops
import Minicbor.IntConv
import Minicbor.Iter
import Minicbor.Narrow
import Minicbor.Attrs
